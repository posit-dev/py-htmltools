/-
Tag.get_html_string (_core.py:853-908) and TagList.get_html_string (_core.py:381-461).
The Python loop state (first_child, prev_was_add_ws) is carried explicitly.
-/
import HtmlVerif.Model.Escape
import HtmlVerif.Model.Tree

namespace HtmlVerif

/-- the attribute writer: `HTML` values verbatim, others `html_escape(val, attr=True)` -/
def emitAttrVal (cfg : Cfg) : AttrVal → Str
  | .plain s => htmlEscapeT cfg.attrTbl s
  | .html s => s

def renderAttrs (cfg : Cfg) : Attrs → Str
  | [] => []
  | (k, v) :: r => ' ' :: k ++ '=' :: '"' :: emitAttrVal cfg v ++ '"' :: renderAttrs cfg r

/-- `_normalize_text` on a plain string -/
def escText (cfg : Cfg) (s : Str) : Str := htmlEscapeT cfg.textTbl s

def openTag (cfg : Cfg) (name : Str) (attrs : Attrs) : Str :=
  '<' :: name ++ renderAttrs cfg attrs

def closeTag (name : Str) : Str := '<' :: '/' :: name ++ ['>']

/-- what the ReprHtml branch of the child loop emits for a node, if it takes that branch -/
def Node.reprHtml? : Node → Option Str
  | .html s => some s
  | .robj s => some s
  | .tobjL rh _ => rh
  | .tobj1 rh _ => rh
  | _ => none

/-- `len(children) == 1 and isinstance(children[0], (str, HTML))`: the single text child, and whether it is `HTML` -/
def inlineChild? : List Node → Option (Str × Bool)
  | [.text s] => some (s, false)
  | [.html s] => some (s, true)
  | _ => none

/-- what the single-child exit writes between the tags: `str(child)` under script/style,
    else `_normalize_text(child)` (HTML verbatim, str escaped) -/
def inlineText (cfg : Cfg) (name : Str) (c : Str × Bool) : Str :=
  if cfg.noesc.contains name then c.1 else if c.2 then c.1 else escText cfg c.1

mutual
  /-- `Tag.get_html_string(indent, eol)`; `[]` on non-tags (never used there) -/
  def Node.render (cfg : Cfg) : Node → Nat → Str → Str
    | .tag name ws attrs kids, indent, eol =>
      let hd := indentStr indent ++ openTag cfg name attrs
      if kids.visible.isEmpty then
        -- `len(children) == 0`: void names self-close, others are enclosed
        if cfg.void.contains name then hd ++ ['/', '>'] else hd ++ '>' :: closeTag name
      else match inlineChild? kids.visible with
        | some c => hd ++ '>' :: inlineText cfg name c ++ closeTag name
        | none =>
          hd ++ '>' :: (if ws then eol else [])
            ++ kids.renderKids cfg (indent + 1) eol true ws (!cfg.noesc.contains name)
            ++ (if ws then eol ++ indentStr indent else []) ++ closeTag name
    | _, _, _ => []
  /-- the `for child in self:` loop of TagList.get_html_string -/
  def Nodes.renderKids (cfg : Cfg) : Nodes → Nat → Str → Bool → Bool → Bool → Str
    | .nil, _, _, _, _, _ => []
    | .cons h t, indent, eol, first, prevWs, esc =>
      match h with
      | .mnode _ => t.renderKids cfg indent eol first prevWs esc
      | .dep .. => t.renderKids cfg indent eol first prevWs esc
      | .tag _ ws _ _ =>
        let pc := prevWs || ws
        (if !first && pc then eol else [])
          ++ (if pc then h.render cfg indent eol else h.render cfg 0 [])
          ++ t.renderKids cfg indent eol false ws esc
      | .text s =>
        (if !first && prevWs then eol else [])
          ++ (if prevWs then indentStr indent else [])
          ++ (if esc then escText cfg s else s)
          ++ t.renderKids cfg indent eol false false esc
      | .html s =>
        (if !first && prevWs then eol else []) ++ (if prevWs then indentStr indent else [])
          ++ s ++ t.renderKids cfg indent eol false false esc
      | .robj s =>
        (if !first && prevWs then eol else []) ++ (if prevWs then indentStr indent else [])
          ++ s ++ t.renderKids cfg indent eol false false esc
      | .tobjL rh _ =>
        -- ReprHtml is tested before Tagifiable: a self-rendering object renders; otherwise the
        -- real code raises (see `Nodes.hasTobjKids` / `renderListChecked`), and the total model emits nothing
        (if !first && prevWs then eol else []) ++ (if prevWs then indentStr indent else [])
          ++ rh.getD [] ++ t.renderKids cfg indent eol false false esc
      | .tobj1 rh _ =>
        (if !first && prevWs then eol else []) ++ (if prevWs then indentStr indent else [])
          ++ rh.getD [] ++ t.renderKids cfg indent eol false false esc
end

/-- `TagList.get_html_string(indent, eol, add_ws=…, _escape_strings=…)` -/
def renderList (cfg : Cfg) (ks : Nodes) (indent : Nat) (eol : Str) (addWs esc : Bool) : Str :=
  ks.renderKids cfg indent eol true addWs esc

mutual
  /-- does rendering reach an un-expanded tagifiable object that is not self-rendering?
      (the child loop only descends through tags that do not take an early exit) -/
  def Node.hasTobj : Node → Bool
    | .tag _ _ _ kids =>
      if kids.visible.isEmpty then false
      else match inlineChild? kids.visible with
        | some _ => false
        | none => kids.hasTobjKids
    | _ => false
  def Nodes.hasTobjKids : Nodes → Bool
    | .nil => false
    | .cons h t =>
      (match h with
        | .tobjL none _ => true
        | .tobj1 none _ => true
        | .tag .. => h.hasTobj
        | _ => false) || t.hasTobjKids
end

inductive Err
  | typeError | valueError | keyError | runtimeError | notImplemented | exception
  deriving DecidableEq, Repr, Inhabited

/-- `get_html_string` including the RuntimeError for un-tagified objects -/
def renderTagChecked (cfg : Cfg) (n : Node) (indent : Nat) (eol : Str) : Except Err Str :=
  if n.hasTobj then .error .runtimeError else .ok (n.render cfg indent eol)

def renderListChecked (cfg : Cfg) (ks : Nodes) (indent : Nat) (eol : Str) (addWs esc : Bool) :
    Except Err Str :=
  if ks.hasTobjKids then .error .runtimeError else .ok (renderList cfg ks indent eol addWs esc)

end HtmlVerif
