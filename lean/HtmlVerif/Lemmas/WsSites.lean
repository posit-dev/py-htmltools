/-
Where whitespace may be written (Spec/WsSites.lean): `rightJustified` on the pieces a tag and a leaf contribute.
-/
import HtmlVerif.Spec.WsSites
import HtmlVerif.Lemmas.Pieces

namespace HtmlVerif

@[simp] theorem rightJustified_wsP (s : Str) (X : List Piece) : rightJustified (wsP s ++ X) = rightJustified X := by
  unfold wsP; split <;> simp [rightJustified, Piece.isWs]

@[simp] theorem rightJustified_opn (n : Str) (w : Bool) (a : Attrs) (sc : Bool) (X : List Piece) :
    rightJustified (.opn n w a sc :: X) = w := by simp [rightJustified, Piece.isWs, Piece.isBlockBoundary]

@[simp] theorem rightJustified_cls (n : Str) (w : Bool) (X : List Piece) :
    rightJustified (.cls n w :: X) = w := by simp [rightJustified, Piece.isWs, Piece.isBlockBoundary]

theorem wsSitesOk_wsP (left : Bool) (s : Str) (X : List Piece) :
    wsSitesOk left (wsP s ++ X) = ((s.isEmpty || left || rightJustified X) && wsSitesOk left X) := by
  unfold wsP
  by_cases h : s = []
  · simp [h]
  · have : s.isEmpty = false := by simpa using h
    simp [h, this, wsSitesOk, Piece.isWs]

@[simp] theorem wsSitesOk_opn (left : Bool) (n : Str) (w : Bool) (a : Attrs) (sc : Bool) (X : List Piece) :
    wsSitesOk left (.opn n w a sc :: X) = wsSitesOk w X := by simp [wsSitesOk, Piece.isWs, Piece.isBlockBoundary]

@[simp] theorem wsSitesOk_cls (left : Bool) (n : Str) (w : Bool) (X : List Piece) :
    wsSitesOk left (.cls n w :: X) = wsSitesOk w X := by simp [wsSitesOk, Piece.isWs, Piece.isBlockBoundary]

@[simp] theorem wsSitesOk_txt (left : Bool) (s : Str) (X : List Piece) :
    wsSitesOk left (.txt s :: X) = wsSitesOk false X := by simp [wsSitesOk, Piece.isWs, Piece.isBlockBoundary]

@[simp] theorem wsSitesOk_raw (left : Bool) (s : Str) (X : List Piece) :
    wsSitesOk left (.raw s :: X) = wsSitesOk false X := by simp [wsSitesOk, Piece.isWs, Piece.isBlockBoundary]

@[simp] theorem wsSitesOk_textP (left : Bool) (b : Bool) (s : Str) (X : List Piece) :
    wsSitesOk left (textP b s :: X) = wsSitesOk false X := by unfold textP; split <;> simp

@[simp] theorem wsSitesOk_leafPiece (left esc : Bool) (h : Node) (X : List Piece) :
    wsSitesOk left (h.leafPiece esc :: X) = wsSitesOk false X := by cases h <;> simp [Node.leafPiece]

end HtmlVerif
