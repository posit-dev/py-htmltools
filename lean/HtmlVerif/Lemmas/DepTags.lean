/-
Helper lemmas for C12 about the ordered-dict operations of Model/DepTags.lean.
-/
import HtmlVerif.Model.DepTags

namespace HtmlVerif

theorem alookup_kvSet (k v : Str) (s : KVs) : alookup k (kvSet k v s) = some v := by
  induction s with
  | nil => simp [kvSet, alookup]
  | cons e s ih =>
    obtain ⟨k', v'⟩ := e
    by_cases h : k' = k
    · simp [kvSet, alookup, h]
    · simp [kvSet, alookup, h, ih]

theorem alookup_kvSet_ne (k k' v : Str) (s : KVs) (h : k' ≠ k) : alookup k' (kvSet k v s) = alookup k' s := by
  induction s with
  | nil => simp [kvSet, alookup, h.symm]
  | cons e s ih =>
    obtain ⟨k'', v''⟩ := e
    by_cases h1 : k'' = k
    · subst h1; simp [kvSet, alookup, h.symm]
    · by_cases h2 : k'' = k'
      · subst h2; simp [kvSet, alookup, h1]
      · simp [kvSet, alookup, h1, h2, ih]

/-! ### what success of each function says -/

theorem asDictSheets_cons_ok {base : Str} {s : KVs} {t r : List KVs} (h : asDictSheets base (s :: t) = .ok r) :
    ∃ p r', alookup dtKHref s = some p ∧ asDictSheets base t = .ok r' ∧
      r = kvSet dtKRel vStylesheet (kvSet dtKHref (posixJoin base (quote p)) s) :: r' := by
  simp only [asDictSheets] at h
  cases hp : alookup dtKHref s <;> cases hr : asDictSheets base t <;> simp [hp, hr] at h
  exact ⟨_, _, rfl, rfl, h.symm⟩

theorem asDictScripts_cons_ok {base : Str} {s : KVs} {t r : List KVs} (h : asDictScripts base (s :: t) = .ok r) :
    ∃ p r', alookup dtKSrc s = some p ∧ asDictScripts base t = .ok r' ∧
      r = kvSet dtKSrc (posixJoin base (quote p)) s :: r' := by
  simp only [asDictScripts] at h
  cases hp : alookup dtKSrc s <;> cases hr : asDictScripts base t <;> simp [hp, hr] at h
  exact ⟨_, _, rfl, rfl, h.symm⟩

theorem mkTags_cons_ok {cfg : Cfg} {name : Str} {m : KVs} {r : List KVs} {ts : List Node}
    (h : mkTags cfg name (m :: r) = .ok ts) :
    ∃ t ts', mkTag cfg name m = .ok t ∧ mkTags cfg name r = .ok ts' ∧ ts = t :: ts' := by
  simp only [mkTags] at h
  cases ht : mkTag cfg name m <;> cases hts : mkTags cfg name r <;> simp [ht, hts] at h
  exact ⟨_, _, rfl, rfl, h.symm⟩

variable {cfg : Cfg} {d : DepInfo} {hh : Bool} {head : Nodes} {lp : Option Str} {iv : Bool}

theorem asDict_ok {dd : DepDict} (h : asDict cfg d hh head lp iv = .ok dd) :
    dd.metas = d.metas ∧ asDictSheets (sourcePathMap d lp iv).href d.stylesheet = .ok dd.stylesheet ∧
      asDictScripts (sourcePathMap d lp iv).href d.script = .ok dd.script := by
  unfold asDict at h
  simp only at h
  split at h
  · cases h
  · rename_i sheets hs
    split at h
    · cases h
    · rename_i scripts hc
      split at h
      · split at h
        · cases h
        · cases h; exact ⟨rfl, hs, hc⟩
      · cases h; exact ⟨rfl, hs, hc⟩

theorem asHtmlTags_ok {ts : Nodes} (h : asHtmlTags cfg d hh head lp iv = .ok ts) :
    ∃ dd metas links scripts, asDict cfg d hh head lp iv = .ok dd ∧ mkTags cfg nMeta dd.metas = .ok metas ∧
      mkTags cfg nLink dd.stylesheet = .ok links ∧ mkTags cfg nScript dd.script = .ok scripts ∧
      ts = Nodes.ofList (metas ++ links ++ scripts) ++ (if hh then head else .nil) := by
  unfold asHtmlTags at h
  split at h
  · cases h
  · rename_i dd hdd
    split at h
    · cases h
    · rename_i metas hm
      split at h
      · cases h
      · rename_i links hl
        split at h
        · cases h
        · rename_i scripts hs
          cases h
          exact ⟨dd, metas, links, scripts, hdd, hm, hl, hs, rfl⟩

end HtmlVerif
