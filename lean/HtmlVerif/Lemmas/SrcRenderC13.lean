/-
Helper lemmas for the source tie of `TagList.render` and `HTMLTextDocument.render` (Props/SrcC13.lean).

The three translated functions `TagList.render` calls are tied to the model in two areas, each with its own embedding
of trees (`embT tv` for `tagify` / `get_dependencies`: Lemmas/SrcC10.lean; `embNode` for `get_html_string`:
Lemmas/SrcRender.lean).  On *plain* trees — tags, text, `HTML`, self-rendering objects, metadata nodes; no `HTMLDependency`
object and no un-expanded tagifiable object anywhere — the embeddings coincide, `tagify()` is the identity and nothing is
collected; that is the class the markup of `HTMLDependency.as_html_tags` lives in.  For the child-list operations every
embedded node is a child that is normalised already (Lemmas/SrcC11.lean, part 1).
-/
import HtmlVerif.Generated.Src
import HtmlVerif.Lemmas.PyComp
import HtmlVerif.Lemmas.SrcTie
import HtmlVerif.Lemmas.SrcRender
import HtmlVerif.Lemmas.SrcC09
import HtmlVerif.Lemmas.SrcC10
import HtmlVerif.Lemmas.SrcC11
import HtmlVerif.Model.TextDoc
import HtmlVerif.Lemmas.Tagify
import HtmlVerif.Lemmas.Nodes

set_option linter.unusedVariables false

namespace HtmlVerif.SrcTie
open HtmlVerif HtmlVerif.Py HtmlVerif.Generated.Src

mutual
  /-- no `HTMLDependency` object and no tagifiable object of a foreign class, at any depth -/
  def plainNodeC13 : Node → Bool
    | .tag _ _ _ kids => plainKidsC13 kids
    | .text _ => true
    | .html _ => true
    | .robj _ => true
    | .mnode _ => true
    | .dep .. => false
    | .tobjL .. => false
    | .tobj1 .. => false
  def plainKidsC13 : Nodes → Bool
    | .nil => true
    | .cons h t => plainNodeC13 h && plainKidsC13 t
end

mutual
  theorem plain_tagifiedC13 (n : Node) (h : plainNodeC13 n = true) : n.tagified = true := by
    cases n with
    | tag nm w a kids => simpa [Node.tagified] using plainKids_tagifiedC13 kids (by simpa [plainNodeC13] using h)
    | dep d hh hd => simp [plainNodeC13] at h
    | tobjL rh c => simp [plainNodeC13] at h
    | tobj1 rh c => simp [plainNodeC13] at h
    | _ => rfl
  theorem plainKids_tagifiedC13 (ks : Nodes) (h : plainKidsC13 ks = true) : ks.tagifiedKids = true := by
    cases ks with
    | nil => rfl
    | cons a t =>
      simp only [plainKidsC13, Bool.and_eq_true] at h
      simp [Nodes.tagifiedKids, plain_tagifiedC13 a h.1, plainKids_tagifiedC13 t h.2]
end

mutual
  theorem embT_plainC13 (tv : Node → PVal) (n : Node) (h : plainNodeC13 n = true) : embT tv n = embNode n := by
    cases n with
    | tag nm w a kids =>
      simp only [embT, embNode, embTs_plainC13 tv kids (by simpa [plainNodeC13] using h)]
    | dep d hh hd => simp [plainNodeC13] at h
    | tobjL rh c => simp [plainNodeC13] at h
    | tobj1 rh c => simp [plainNodeC13] at h
    | text s => rfl
    | html s => rfl
    | robj s => rfl
    | mnode k => rfl
  theorem embTs_plainC13 (tv : Node → PVal) (ks : Nodes) (h : plainKidsC13 ks = true) : embTs tv ks = embNodes ks := by
    cases ks with
    | nil => rfl
    | cons a t =>
      simp only [plainKidsC13, Bool.and_eq_true] at h
      simp only [embTs, embNodes, embT_plainC13 tv a h.1, embTs_plainC13 tv t h.2]
end

mutual
  theorem collect_plainC13 (n : Node) (h : plainNodeC13 n = true) : n.collect = [] := by
    cases n with
    | tag nm w a kids => simpa [Node.collect] using collectKids_plainC13 kids (by simpa [plainNodeC13] using h)
    | _ => rfl
  theorem collectKids_plainC13 (ks : Nodes) (h : plainKidsC13 ks = true) : ks.collect = [] := by
    cases ks with
    | nil => rfl
    | cons a t =>
      simp only [plainKidsC13, Bool.and_eq_true] at h
      have ht := collectKids_plainC13 t h.2
      have ha := collect_plainC13 a h.1
      cases a <;> simp [Nodes.collect, ha, ht, plainNodeC13] at h ⊢
end

theorem plainKids_appendC13 (a b : Nodes) : plainKidsC13 (a ++ b) = (plainKidsC13 a && plainKidsC13 b) := by
  induction a with
  | nil => rfl
  | cons h t ih =>
    show plainKidsC13 (.cons h (t ++ b)) = _
    simp only [plainKidsC13, ih, Bool.and_assoc]

theorem plainC11_embNode (c : Node) : plainC11 (embNode c) = true := by
  cases c <;> simp [embNode, plainC11, isInstance, builtinClasses, classBases, isNone]
  all_goals (rename_i rh _; cases rh <;> simp)

theorem embNodes_appendC13 (a b : Nodes) : embNodes (a ++ b) = embNodes a ++ embNodes b := by
  simp [embNodes_toList]

theorem plain_embNodesC13 (ks : Nodes) : ∀ x ∈ embNodes ks, plainC11 x = true := by
  intro x hx
  rw [embNodes_toList, List.mem_map] at hx
  obtain ⟨c, _, rfl⟩ := hx
  exact plainC11_embNode c

theorem plainKids_concatC13 (l : List Nodes) (h : ∀ ks ∈ l, plainKidsC13 ks = true) : plainKidsC13 (concatNodes l) = true := by
  induction l with
  | nil => rfl
  | cons a t ih =>
    simp only [concatNodes, plainKids_appendC13, h a (by simp), ih (fun ks hk => h ks (by simp [hk])), Bool.and_self]

theorem plain_listingNodeC13 (ds : List SDep) : plainNodeC13 (listingNode ds) = true := rfl

theorem plainKids_headNodesC13 (asTags : SDep → Nodes) (ds : List SDep) (h : ∀ d ∈ ds, plainKidsC13 (asTags d) = true) :
    plainKidsC13 (headNodes asTags ds) = true := by
  simp only [headNodes, plainKids_appendC13]
  have hc := plainKids_concatC13 (ds.map asTags) (by
    intro ks hk; simp only [List.mem_map] at hk; obtain ⟨d, hd, rfl⟩ := hk; exact h d hd)
  cases ds with
  | nil => simpa [plainKidsC13] using hc
  | cons a t => simpa [plainKidsC13, plain_listingNodeC13] using hc

theorem pyAdd_strC13 (G : Globals) (a b : Str) : pyAdd G (.str a) (.str b) = .ok (.str (a ++ b)) := rfl

/-- `Tag("script", text, type="application/html-dependencies")` is the listing node -/
theorem pyMkTag_listingC13 (t : Str) :
    pyMkTagC13 (.str ['s', 'c', 'r', 'i', 'p', 't']) (.tuple [.str t])
        (.dict [(['t', 'y', 'p', 'e'], .str ['a', 'p', 'p', 'l', 'i', 'c', 'a', 't', 'i', 'o', 'n', '/', 'h', 't', 'm', 'l', '-',
          'd', 'e', 'p', 'e', 'n', 'd', 'e', 'n', 'c', 'i', 'e', 's'])])
      = .ok (embNode (.tag ['s', 'c', 'r', 'i', 'p', 't'] true
          [(['t', 'y', 'p', 'e'], .plain ['a', 'p', 'p', 'l', 'i', 'c', 'a', 't', 'i', 'o', 'n', '/', 'h', 't', 'm', 'l', '-',
            'd', 'e', 'p', 'e', 'n', 'd', 'e', 'n', 'c', 'i', 'e', 's'])]
          (.cons (.text t) .nil))) := by
  rfl

end HtmlVerif.SrcTie
