/-
Lines of the declarative layout (Spec/Layout.lean): joining lines, the line a run of inline children makes, block children.
-/
import HtmlVerif.Spec.Layout
import HtmlVerif.Lemmas.Render

namespace HtmlVerif

theorem joinLines_cons (eol : Str) (l : Line) (ls : List Line) :
    joinLines eol (l :: ls) = indentStr l.1 ++ l.2 ++ pjoin eol ls := by
  induction ls generalizing l with
  | nil => obtain ⟨i, s⟩ := l; simp [joinLines, pjoin]
  | cons m ms ih =>
    obtain ⟨i, s⟩ := l
    rw [joinLines, ih m]
    simp [pjoin]

@[simp] theorem pjoin_nil (eol : Str) : pjoin eol [] = [] := rfl

theorem pjoin_append (eol : Str) (a b : List Line) : pjoin eol (a ++ b) = pjoin eol a ++ pjoin eol b := by
  simp [pjoin]

theorem pjoin_cons (eol : Str) (l : Line) (ls : List Line) :
    pjoin eol (l :: ls) = eol ++ indentStr l.1 ++ l.2 ++ pjoin eol ls := by
  simp [pjoin]

theorem pjoin_eq_eol_join (eol : Str) (ls : List Line) (h : ls ≠ []) :
    pjoin eol ls = eol ++ joinLines eol ls := by
  cases ls with
  | nil => exact absurd rfl h
  | cons l r => rw [joinLines_cons, pjoin_cons]; simp

theorem joinLines_append (eol : Str) (a b : List Line) (h : a ≠ []) :
    joinLines eol (a ++ b) = joinLines eol a ++ pjoin eol b := by
  cases a with
  | nil => exact absurd rfl h
  | cons l r => rw [List.cons_append, joinLines_cons, joinLines_cons, pjoin_append]; simp

/-- text the following non-block children add to the run that is currently open -/
def Nodes.runCont (cfg : Cfg) : Nodes → Bool → Str
  | .nil, _ => []
  | .cons h t, esc =>
    if h.isMeta then t.runCont cfg esc
    else if h.isBlock then []
    else h.flatIn cfg esc ++ t.runCont cfg esc

/-- the lines after the currently open run has been closed by the next block child -/
def Nodes.afterRun (cfg : Cfg) : Nodes → Nat → Bool → List Line
  | .nil, _, _ => []
  | .cons h t, lvl, esc =>
    if h.isMeta then t.afterRun cfg lvl esc
    else if h.isBlock then h.layout cfg lvl ++ t.groupLines cfg lvl esc none
    else t.afterRun cfg lvl esc

theorem groupLines_some (cfg : Cfg) (ks : Nodes) (lvl : Nat) (esc : Bool) (run : Str) :
    ks.groupLines cfg lvl esc (some run) = (lvl, run ++ ks.runCont cfg esc) :: ks.afterRun cfg lvl esc := by
  induction ks generalizing run with
  | nil => simp [Nodes.groupLines, Nodes.runCont, Nodes.afterRun]
  | cons h t ih =>
    by_cases hm : h.isMeta = true <;> by_cases hb : h.isBlock = true <;>
      simp [Nodes.groupLines, Nodes.runCont, Nodes.afterRun, hm, hb, ih]

theorem isTag_of_isBlock {h : Node} (hb : h.isBlock = true) : h.isTag = true := by
  cases h <;> first | rfl | cases hb

theorem noWs_of_valid {h : Node} (hv : h.valid = true) (hb : h.isBlock = false) : h.noWs = true := by
  cases h with
  | tag n w a k => cases hb; simpa [Node.valid, Node.noWs] using hv
  | _ => rfl

theorem renderKids_block (cfg : Cfg) {h : Node} (t : Nodes) (i : Nat) (e : Str) (first prevWs esc : Bool)
    (hb : h.isBlock = true) :
    (Nodes.cons h t).renderKids cfg i e first prevWs esc
      = (if first then [] else e) ++ h.render cfg i e ++ t.renderKids cfg i e false true esc := by
  cases h with
  | tag n w a k => cases hb; rw [renderKids_tag]; cases first <;> simp
  | _ => cases hb

theorem layout_ne_nil (cfg : Cfg) {h : Node} (i : Nat) (hb : h.isBlock = true) : h.layout cfg i ≠ [] := by
  cases h with
  | tag n w a k => simp only [Node.layout]; split <;> simp
  | _ => cases hb

theorem groupLines_none_ne_nil (cfg : Cfg) (ks : Nodes) (lvl : Nat) (esc : Bool)
    (h : ks.visible.isEmpty = false) : ks.groupLines cfg lvl esc none ≠ [] := by
  cases hv : ks.visible with
  | nil => simp [hv] at h
  | cons x post =>
    -- metadata in front of the first visible child is skipped
    obtain ⟨rest, -, hm, hF⟩ := Nodes.skipMeta_cons (F := fun ks => ks.groupLines cfg lvl esc none)
      (fun h t hm => by simp [Nodes.groupLines, hm]) hv
    simp only [hF, Nodes.groupLines, hm]
    by_cases hb : x.isBlock = true
    · simpa [hb] using fun h => absurd h (layout_ne_nil cfg lvl hb)
    · simp [hb, groupLines_some]

end HtmlVerif
