/-
Helper lemmas for the source tie of `Tag.tagify` / `TagList.tagify` (Props/SrcC09.lean): the fuel-free description of
what `tagify()` returns, the primitives on a TagList instance, the backwards index loop, and what is recorded for the
`tagify()` of objects of foreign classes (`embResultC18`, `TvOkC18`, `tvSpecC18`; `embResult`, `TvOk`, `tvSpec` on `embT`).
-/
import HtmlVerif.Lemmas.SrcC10
import HtmlVerif.Props.C09

namespace HtmlVerif.SrcTie
open HtmlVerif HtmlVerif.Py HtmlVerif.Generated.Src

/-- what `n.tagify()` returns, stated without fuel -/
def specResult : Node → TagifyResult
  | .tag n w a kids => .single (.tag n w a kids.expandAll)
  | .tobjL _ c => .taglist c.expandAll.toList
  | .tobj1 _ c => if c.isTagifiable then specResult c else .single c
  | .text s => .single (.text s)
  | .html s => .single (.html s)
  | .robj s => .single (.robj s)
  | .mnode k => .single (.mnode k)
  | .dep d hh hd => .single (.dep d hh hd)

theorem stepSpec_specResult (c : Node) : stepSpec specResult c = c.expand.toList := by
  induction c using Node.rec (motive_2 := fun _ => True) with
  | tag n w a k _ => simp [stepSpec, specResult, Node.expand, TagifyResult.splice, Nodes.toList]
  | tobjL rh c _ => simp [stepSpec, specResult, Node.expand, TagifyResult.splice]
  | tobj1 rh c ih =>
    by_cases ht : c.isTagifiable = true
    · simp only [stepSpec, Node.isTagifiable_tobj1, if_true, specResult, ht, Node.expand] at ih ⊢
      exact ih
    · have hx : (Node.tobj1 rh c).expand = .cons c .nil := by
        clear ih
        cases c <;> simp_all [Node.expand]
      simp [stepSpec, specResult, ht, TagifyResult.splice, hx, Nodes.toList]
  | text s => simp [stepSpec, Node.expand, Nodes.toList]
  | html s => simp [stepSpec, Node.expand, Nodes.toList]
  | robj s => simp [stepSpec, Node.expand, Nodes.toList]
  | mnode s => simp [stepSpec, Node.expand, Nodes.toList]
  | dep d hh hd _ => simp [stepSpec, Node.expand, Nodes.toList]
  | nil => trivial
  | cons _ _ _ _ => trivial

theorem flatMap_specResult (ks : Nodes) : ks.toList.flatMap (stepSpec specResult) = (tagifyNodes ks).toList := by
  rw [C09.C09_tagify_is_spec, Nodes.toList_expandAll]
  exact flatMap_congr_mem (fun c _ => stepSpec_specResult c)

/-- the value of a `tagify()` result on `embT` (`embResultC18` without further dependency fields: `embResult_eq`) -/
def embResult (tv : Node → PVal) : TagifyResult → PVal
  | .taglist ns => tagListOf (ns.map (embT tv))
  | .single n => embT tv n

theorem pyCopy_tagListOf (l : List PVal) : pyCopy (tagListOf l) = .ok (tagListOf l) := by
  simp [pyCopy, tagListOf, fieldGet?]

theorem pyLenU_tagListOf (l : List PVal) : pyLenU (tagListOf l) = .ok (.int l.length) := by
  simp [pyLenU, userListData?, tagListOf, fieldGet?]

theorem pyRange_nat (n : Nat) : pyRange (.int n) = .ok (.list ((List.range n).map fun (i : Nat) => PVal.int (i : Int))) := by
  simp [pyRange]

theorem pyReversed_list (l : List PVal) : pyReversed (.list l) = .ok (.list l.reverse) := by
  simp [pyReversed, pyIter]

theorem pyGetItemU_at (pre : List PVal) (c : PVal) (post : List PVal) :
    pyGetItemU (tagListOf (pre ++ c :: post)) (.int pre.length) = .ok c := by
  have : ¬ ((pre.length : Int) < 0) := by omega
  simp [pyGetItemU, userListData?, tagListOf, fieldGet?, pyGetItem, this]

theorem pySetItemU_at (pre : List PVal) (c v : PVal) (post : List PVal) :
    pySetItemU (tagListOf (pre ++ c :: post)) (.int pre.length) v = .ok (tagListOf (pre ++ v :: post)) := by
  have : ¬ ((pre.length : Int) < 0) := by omega
  have h2 : ¬ (pre.length + (post.length + 1) ≤ pre.length) := by omega
  simp [pySetItemU, userListData?, tagListOf, fieldGet?, fieldSet, pySetItem, this, h2]

theorem pySetSliceU_at (pre : List PVal) (c : PVal) (post xs : List PVal) :
    pySetSliceU (tagListOf (pre ++ c :: post)) (.int pre.length) (.int (pre.length + 1)) (.list xs)
      = .ok (tagListOf (pre ++ xs ++ post)) := by
  have h1 : ¬ ((pre.length : Int) < 0) := by omega
  have h2 : ¬ ((pre.length : Int) + 1 < 0) := by omega
  have h3 : ((pre.length : Int) + 1).toNat = pre.length + 1 := by omega
  simp [pySetSliceU, userListData?, tagListOf, fieldGet?, fieldSet, setSlice, clampIdx, h1, h2, h3]

/-- the backwards index loop of `TagList.tagify`, whatever its body, whatever other locals its state carries (`get` reads
    `cp` out of the state) and whatever the embedding `E` of the nodes: if the pass at index `len(pre)` on the working copy
    `pre ++ c :: post` rewrites exactly that position into what `stepSpec tf c` says, the remaining `len(pre)` passes
    (indices `len(pre)-1 … 0`) leave `pre.flatMap (stepSpec tf) ++ post` -/
theorem tagify_loop_aux {σ : Type} (E : Node → PVal) (get : σ → PVal) (tf : Node → TagifyResult) (orig : List Node)
    (f : PVal → σ → PyM (ForInStep σ))
    (hstep : ∀ (pre : List Node) (c : Node) (post : List Node) (s : σ), c ∈ orig →
      get s = tagListOf ((pre ++ c :: post).map E) →
      ∃ s', f (.int pre.length) s = .ok (.yield s') ∧ get s' = tagListOf ((pre ++ stepSpec tf c ++ post).map E)) :
    ∀ (n : Nat) (pre post : List Node) (s : σ), pre.length = n → (∀ c ∈ pre, c ∈ orig) →
      get s = tagListOf ((pre ++ post).map E) →
      ∃ s', forIn ((List.range n).map fun (i : Nat) => PVal.int (i : Int)).reverse s f = .ok s'
        ∧ get s' = tagListOf ((pre.flatMap (stepSpec tf) ++ post).map E) := by
  intro n
  induction n with
  | zero =>
    intro pre post s hl _ hs
    have : pre = [] := List.eq_nil_of_length_eq_zero hl
    subst this
    exact ⟨s, rfl, by simpa using hs⟩
  | succ n ih =>
    intro pre post s hl hmem hs
    obtain ⟨pre', c, rfl⟩ : ∃ pre' c, pre = pre' ++ [c] := by
      refine ⟨pre.dropLast, pre.getLast (by intro h0; simp [h0] at hl), ?_⟩
      exact (List.dropLast_concat_getLast _).symm
    have hl' : pre'.length = n := by simpa using hl
    obtain ⟨s1, h1, h2⟩ := hstep pre' c post s (hmem c (by simp)) (by simpa using hs)
    obtain ⟨s2, h3, h4⟩ := ih pre' (stepSpec tf c ++ post) s1 hl' (fun x hx => hmem x (by simp [hx]))
      (by simpa [List.append_assoc] using h2)
    refine ⟨s2, ?_, by simpa [List.append_assoc] using h4⟩
    rw [List.range_succ, List.map_append, List.reverse_append]
    simp only [List.map_cons, List.map_nil, List.reverse_cons, List.reverse_nil, List.nil_append, List.singleton_append,
      List.forIn_cons]
    rw [← hl', h1]
    simpa [hl'] using h3

theorem tagify_loop_k {β σ : Type} (E : Node → PVal) (get : σ → PVal) (tf : Node → TagifyResult) (orig : List Node)
    (init : σ) (hinit : get init = tagListOf (orig.map E))
    (f : PVal → σ → PyM (ForInStep σ))
    (hstep : ∀ (pre : List Node) (c : Node) (post : List Node) (s : σ), c ∈ orig →
      get s = tagListOf ((pre ++ c :: post).map E) →
      ∃ s', f (.int pre.length) s = .ok (.yield s') ∧ get s' = tagListOf ((pre ++ stepSpec tf c ++ post).map E))
    (k : σ → PyM β) (r : PyM β)
    (hk : ∀ s, get s = tagListOf ((orig.flatMap (stepSpec tf)).map E) → k s = r) :
    (forIn ((List.range orig.length).map fun (i : Nat) => PVal.int (i : Int)).reverse
        init f >>= k) = r := by
  obtain ⟨s', h1, h2⟩ := tagify_loop_aux E get tf orig f hstep orig.length orig []
    init rfl (fun _ h => h) (by simpa using hinit)
  rw [h1, ok_bind]
  exact hk s' (by simpa using h2)

theorem pyAdd_int1 (G : Globals) (i : Nat) : pyAdd G (.int i) (.int 1) = .ok (.int ((i : Int) + 1)) := rfl

theorem specResult_tagified (c : Node) (hc : c.isTagifiable = true) : ∀ x ∈ (specResult c).splice, x.tagified = true := by
  have h1 : (specResult c).splice = c.expand.toList := by
    have := stepSpec_specResult c
    simpa [stepSpec, hc] using this
  have h2 := C09.C09_expand_tagified c
  rw [Nodes.tagifiedKids_iff_all, List.all_eq_true] at h2
  intro x hx
  exact h2 x (by rwa [h1] at hx)

def embResultC18 (xf : XfC18) (tv : Node → PVal) : TagifyResult → PVal
  | .taglist ns => tagListOf (ns.map (embC18 xf tv))
  | .single n => embC18 xf tv n

/-- the hypothesis on `tv`: for every tagifiable object of a foreign class, the value recorded for its `tagify()` is the
    embedding of what the model says the call returns -/
def TvOkC18 (xf : XfC18) (tv : Node → PVal) : Prop :=
  ∀ c : Node, c.isTag = false → c.isTagifiable = true → tv c = embResultC18 xf tv (specResult c)

mutual
  theorem embC18_tagified (xf : XfC18) (tv tv' : Node → PVal) (c : Node) (h : c.tagified = true) :
      embC18 xf tv c = embC18 xf tv' c := by
    cases c with
    | tag n w a k =>
      have := embsC18_tagified xf tv tv' k (by simpa [Node.tagified] using h)
      simp [embC18, this]
    | tobjL rh cc => simp [Node.tagified] at h
    | tobj1 rh cc => simp [Node.tagified] at h
    | _ => simp [embC18]
  theorem embsC18_tagified (xf : XfC18) (tv tv' : Node → PVal) (ks : Nodes) (h : ks.tagifiedKids = true) :
      embsC18 xf tv ks = embsC18 xf tv' ks := by
    cases ks with
    | nil => rfl
    | cons c t =>
      simp only [Nodes.tagifiedKids, Bool.and_eq_true] at h
      simp [embsC18, embC18_tagified xf tv tv' c h.1, embsC18_tagified xf tv tv' t h.2]
end

theorem embResultC18_congr (xf : XfC18) (tv tv' : Node → PVal) (r : TagifyResult)
    (h : ∀ x ∈ r.splice, embC18 xf tv x = embC18 xf tv' x) : embResultC18 xf tv r = embResultC18 xf tv' r := by
  cases r with
  | taglist ns =>
    simp only [embResultC18, TagifyResult.splice] at h ⊢
    rw [List.map_congr_left h]
  | single x => exact h x (by simp [TagifyResult.splice])

/-- the value recorded for `n.tagify()` -/
def tvSpecC18 (xf : XfC18) (n : Node) : PVal := embResultC18 xf (fun _ => PVal.none) (specResult n)

theorem tvSpecC18_ok (xf : XfC18) : TvOkC18 xf (tvSpecC18 xf) := by
  intro c _ ht
  exact embResultC18_congr xf _ _ _ (fun x hx => embC18_tagified xf _ _ x (specResult_tagified c ht x hx))

theorem embResult_eq (tv : Node → PVal) (r : TagifyResult) : embResult tv r = embResultC18 xfNilC18 tv r := by
  cases r <;> simp only [embResult, embResultC18, funext (embC18_nil tv)]

/-- `TvOkC18` on `embT` -/
def TvOk (tv : Node → PVal) : Prop :=
  ∀ c : Node, c.isTag = false → c.isTagifiable = true → tv c = embResult tv (specResult c)

theorem TvOk.toC18 {tv : Node → PVal} (h : TvOk tv) : TvOkC18 xfNilC18 tv :=
  fun c h1 h2 => (h c h1 h2).trans (embResult_eq tv _)

theorem embTs_tagified (tv tv' : Node → PVal) (ks : Nodes) (h : ks.tagifiedKids = true) : embTs tv ks = embTs tv' ks := by
  rw [← embsC18_nil, ← embsC18_nil, embsC18_tagified _ tv tv' ks h]

/-- `tvSpecC18` on `embT` -/
def tvSpec (n : Node) : PVal := embResult (fun _ => PVal.none) (specResult n)

theorem tvSpec_eq : tvSpec = tvSpecC18 xfNilC18 := funext fun _ => embResult_eq _ _

theorem tvSpec_ok : TvOk tvSpec := by
  intro c h1 h2
  rw [embResult_eq, tvSpec_eq]
  exact tvSpecC18_ok xfNilC18 c h1 h2

end HtmlVerif.SrcTie
