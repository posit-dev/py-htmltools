/-
Helper lemmas for C10: release tuples, trailing zeros, lexicographic order.
-/
import HtmlVerif.Spec.Deps

namespace HtmlVerif

theorem stripTrailingZeros_cons (a : Nat) (r : List Nat) :
    stripTrailingZeros (a :: r)
      = if a = 0 ∧ stripTrailingZeros r = [] then [] else a :: stripTrailingZeros r := by
  unfold stripTrailingZeros
  rw [List.reverse_cons, List.dropWhile_append]
  cases r.reverse.dropWhile (· == 0) with
  | nil => by_cases ha : a = 0 <;> simp [ha]
  | cons c t => simp

@[simp] theorem stripTrailingZeros_nil : stripTrailingZeros [] = [] := rfl

theorem lexLe_nil_right (a : List Nat) : lexLe a [] = true ↔ a = [] := by
  cases a <;> simp [lexLe]

/-- `lexLe` is the library's lexicographic order on lists, which supplies totality and transitivity -/
theorem lexLe_iff_le (a : List Nat) : ∀ b, lexLe a b = true ↔ a ≤ b := by
  induction a with
  | nil => intro b; simp [lexLe]
  | cons x a ih =>
    intro b
    cases b with
    | nil => simp [lexLe]
    | cons y b => simp [lexLe, List.cons_le_cons_iff, ih]

theorem lexLe_total (a b : List Nat) : lexLe a b = true ∨ lexLe b a = true := by
  simp only [lexLe_iff_le]; exact List.le_total a b

theorem lexLe_trans (a b c : List Nat) : lexLe a b = true → lexLe b c = true → lexLe a c = true := by
  simp only [lexLe_iff_le]; exact List.le_trans

theorem lexLe_refl (a : List Nat) : lexLe a a = true := by
  rcases lexLe_total a a with h | h <;> exact h

end HtmlVerif
