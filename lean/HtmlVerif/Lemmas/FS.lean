/-
Helper lemmas for C12 about the abstract file system of Model/FS.lean: everything is characterised through `read`.
-/
import HtmlVerif.Model.FS
import HtmlVerif.Spec.Paths

namespace HtmlVerif

theorem isPrefixOf_iff {a b : Path} : a.isPrefixOf b = true ↔ a <+: b := List.isPrefixOf_iff_prefix

theorem prefix_append_drop {s k : Path} (h : s <+: k) : s ++ k.drop s.length = k := by
  obtain ⟨t, rfl⟩ := h
  simp

theorem Apart.symm {a b : Path} (h : Apart a b) : Apart b a := ⟨h.2, h.1⟩

/-- if `T` is a prefix of something below `S` then one of `S`, `T` contains the other -/
theorem not_prefix_of_apart {S T : Path} (h : Apart S T) (r : Path) : ¬ T <+: S ++ r := by
  intro hp
  rcases List.prefix_or_prefix_of_prefix hp (List.prefix_append S r) with h1 | h1
  · exact h.2 h1
  · exact h.1 h1

namespace FS

theorem lookupP_filter_key (g : Path → Bool) (q : Path) (l : List (Path × Bytes)) :
    lookupP q (l.filter fun e => g e.1) = if g q then lookupP q l else none := by
  induction l with
  | nil => simp [lookupP]
  | cons e l ih =>
    obtain ⟨k, v⟩ := e
    by_cases hq : k = q
    · subst hq; cases hk : g k <;> simp [lookupP, hk, ih]
    · cases hk : g k <;> simp [lookupP, hk, hq, ih]

theorem read_write (fs : FS) (p : Path) (c : Bytes) (q : Path) :
    (fs.write p c).read q = if q = p then some c else fs.read q := by
  simp only [write, read, lookupP, lookupP_filter_key (fun k => decide (k ≠ p)), eq_comm (a := p)]
  by_cases h : q = p <;> simp [h]

theorem read_removeTree (fs : FS) (t q : Path) :
    (fs.removeTree t).read q = if t <+: q then none else fs.read q := by
  simp only [removeTree, read, lookupP_filter_key (fun k => !t.isPrefixOf k), ← isPrefixOf_iff]
  cases t.isPrefixOf q <;> rfl

theorem lookupP_isSome_iff (p : Path) (l : List (Path × Bytes)) :
    (lookupP p l).isSome = true ↔ ∃ e ∈ l, e.1 = p := by
  induction l with
  | nil => simp [lookupP]
  | cons e l ih =>
    obtain ⟨k, v⟩ := e
    by_cases hk : k = p
    · subst hk; simp [lookupP]
    · simp [lookupP, hk, ih]

theorem mem_keysUnder (fs : FS) (s r : Path) :
    r ∈ fs.keysUnder s ↔ (fs.read (s ++ r)).isSome = true := by
  unfold keysUnder read
  simp only [lookupP_isSome_iff, List.mem_map, List.mem_filter, isPrefixOf_iff]
  constructor
  · rintro ⟨e, ⟨he, hp⟩, rfl⟩
    exact ⟨e, he, (prefix_append_drop hp).symm⟩
  · rintro ⟨e, he, hk⟩
    exact ⟨e, ⟨he, hk ▸ List.prefix_append s r⟩, by simp [hk]⟩

theorem isDir_iff (fs : FS) (p : Path) :
    fs.isDir p = true ↔ p = [] ∨ ∃ r, r ≠ [] ∧ (fs.read (p ++ r)).isSome = true := by
  simp only [isDir, Bool.or_eq_true, List.isEmpty_iff, List.any_eq_true, mem_keysUnder, Bool.not_eq_true',
    List.isEmpty_eq_false_iff, and_comm]

theorem read_below_of_not_isDir {fs : FS} {p r : Path} (h : fs.isDir p = false) (hr : r ≠ []) :
    fs.read (p ++ r) = none :=
  Option.not_isSome_iff_eq_none.mp fun hs => by rw [(isDir_iff fs p).mpr (.inr ⟨r, hr, hs⟩)] at h; cases h

theorem exists_iff {fs : FS} {p : Path} : fs.exists p = true ↔ p = [] ∨ ∃ r, (fs.read (p ++ r)).isSome = true := by
  simp only [FS.exists, isFile, Bool.or_eq_true, isDir_iff]
  constructor
  · rintro (h | h | ⟨r, _, h⟩)
    · exact .inr ⟨[], by simpa using h⟩
    · exact .inl h
    · exact .inr ⟨r, h⟩
  · rintro (h | ⟨r, h⟩)
    · exact .inr (.inl h)
    · by_cases hr : r = []
      · exact .inl (by simpa [hr] using h)
      · exact .inr (.inr ⟨r, hr, h⟩)

theorem read_writeAll_outside (t : Path) (es : List (Path × Bytes)) (fs : FS) {q : Path} (h : ¬ t <+: q) :
    (writeAll t es fs).read q = fs.read q := by
  induction es with
  | nil => rfl
  | cons e es ih =>
    rw [writeAll, read_write, if_neg, ih]
    rintro rfl
    exact h (List.prefix_append t e.1)

theorem read_writeAll_under (fs : FS) (s t r : Path) (l : List (Path × Bytes)) :
    (writeAll t ((l.filter fun e => s.isPrefixOf e.1).map fun e => (e.1.drop s.length, e.2)) fs).read (t ++ r)
      = (lookupP (s ++ r) l).or (fs.read (t ++ r)) := by
  induction l with
  | nil => rfl
  | cons e l ih =>
    obtain ⟨k, v⟩ := e
    by_cases hp : s.isPrefixOf k = true
    · obtain ⟨x, rfl⟩ := isPrefixOf_iff.mp hp
      by_cases hx : r = x
      · simp [List.filter, hp, writeAll, read_write, lookupP, hx]
      · simpa [List.filter, hp, writeAll, read_write, lookupP, hx, eq_comm (a := x)] using ih
    · have hq : ¬ k = s ++ r := by
        intro hq; apply hp; rw [hq]; exact isPrefixOf_iff.mpr (List.prefix_append s r)
      simpa [List.filter, hp, lookupP, hq] using ih

theorem read_copyTree_under (fs : FS) (s t r : Path) :
    (fs.copyTree s t).read (t ++ r) = (fs.read (s ++ r)).or (fs.read (t ++ r)) :=
  read_writeAll_under fs s t r fs.files

theorem read_copyTree_outside (fs : FS) (s t q : Path) (h : ¬ t <+: q) :
    (fs.copyTree s t).read q = fs.read q :=
  read_writeAll_outside t _ fs h

theorem isDir_congr {fs fs1 : FS} {p : Path} (h : ∀ r, fs1.read (p ++ r) = fs.read (p ++ r)) :
    fs1.isDir p = fs.isDir p := by
  rw [Bool.eq_iff_iff, isDir_iff, isDir_iff]
  simp only [h]

theorem fileOnPath_congr {fs fs1 : FS} {p : Path} (h : ∀ k, fs1.read (p.take k) = fs.read (p.take k)) :
    fs1.fileOnPath p = fs.fileOnPath p := by
  simp only [fileOnPath, isFile, h]

theorem fileOnPath_false_iff (fs : FS) (p : Path) :
    fs.fileOnPath p = false ↔ ∀ k, k ≤ p.length → fs.read (p.take k) = none := by
  unfold fileOnPath isFile
  rw [Bool.eq_false_iff]
  simp only [ne_eq, List.any_eq_true, List.mem_range, Nat.lt_add_one_iff, not_exists, not_and, Bool.not_eq_true,
    Option.isSome_eq_false_iff, Option.isNone_iff_eq_none]

end FS

theorem SrcWF.congr {fs fs1 : FS} {S : Path} (h : SrcWF fs S) (e : ∀ x, fs1.read (S ++ x) = fs.read (S ++ x)) :
    SrcWF fs1 S := by
  intro n r hr hn
  rw [e] at hn ⊢
  exact h n r hr hn

theorem mem_dedupB (x : Bytes) (l : List Bytes) : x ∈ dedupB l ↔ x ∈ l := by
  induction l with
  | nil => simp [dedupB]
  | cons a l ih =>
    by_cases h : x = a
    · subst h; simp [dedupB]
    · simp [dedupB, h, ih]

theorem nodup_dedupB (l : List Bytes) : (dedupB l).Nodup := by
  induction l with
  | nil => simp [dedupB]
  | cons a l ih =>
    simp only [dedupB, List.nodup_cons]
    refine ⟨by simp, ?_⟩
    exact List.Pairwise.filter _ ih

end HtmlVerif
