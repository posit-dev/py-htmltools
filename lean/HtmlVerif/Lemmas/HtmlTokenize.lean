/-
Layer 2 of C01 (renderer-free): tokenizing the serialisation of a well-formed token list gives the
token list back, with consecutive text tokens merged.
  tokenize_serialize : (∀ t ∈ ts, t.ok) → tokenize (serialize ts) = some (mergeText ts)
-/
import HtmlVerif.Lemmas.HtmlChars

namespace HtmlVerif

def serAttrs : List (Str × Str) → Str
  | [] => []
  | (k, v) :: r => ' ' :: k ++ '=' :: '"' :: v ++ '"' :: serAttrs r

def tagEnd (sc : Bool) : Str := if sc then ['/', '>'] else ['>']

def Tok.ser : Tok → Str
  | .text s => s
  | .stag n as sc => '<' :: n ++ serAttrs as ++ tagEnd sc
  | .etag n => '<' :: '/' :: n ++ ['>']

def serialize (ts : List Tok) : Str := ts.flatMap Tok.ser

@[simp] theorem serialize_nil : serialize [] = [] := rfl
@[simp] theorem serialize_cons (t : Tok) (ts : List Tok) : serialize (t :: ts) = t.ser ++ serialize ts := by
  simp [serialize]
@[simp] theorem serialize_append (a b : List Tok) : serialize (a ++ b) = serialize a ++ serialize b := by
  simp [serialize]

/-! ### merging of consecutive text tokens (what a tokenizer necessarily does) -/

def flushTok (p : Str) : List Tok := if p = [] then [] else [.text p]

def mergeAcc : Str → List Tok → List Tok
  | p, [] => flushTok p
  | p, .text s :: r => mergeAcc (p ++ s) r
  | p, t :: r => flushTok p ++ t :: mergeAcc [] r

def mergeText (ts : List Tok) : List Tok := mergeAcc [] ts

def attrOk (kv : Str × Str) : Bool := !kv.1.isEmpty && kv.1.all isAttrNameChar && !kv.2.contains '"'

def Tok.ok : Tok → Bool
  | .text s => !s.contains '<'
  | .stag n as _ => validName n && as.all attrOk
  | .etag n => validName n

@[simp] theorem serialize_flushTok (p : Str) : serialize (flushTok p) = p := by
  unfold flushTok; split <;> simp_all [Tok.ser]

theorem attrsF_end (f : Nat) (sc : Bool) (rest : Str) :
    attrsF (f + 1) (tagEnd sc ++ rest) = some ([], sc, rest) := by
  cases sc <;> simp [attrsF, attrsStep, tagEnd, tagEndAt, spanP, isWs]

theorem attrAt_ser {kv : Str × Str} (hok : attrOk kv = true) (rest : Str) :
    attrAt (kv.1 ++ '=' :: '"' :: kv.2 ++ '"' :: rest) = some (kv, rest) := by
  obtain ⟨k, v⟩ := kv
  simp [attrOk] at hok
  obtain ⟨⟨hk, hkc⟩, hv⟩ := hok
  -- the name ends at `=`, the value at the first `"`
  have hks := spanP_append_cons isAttrNameChar k '=' ('"' :: (v ++ '"' :: rest)) hkc (by decide)
  have hvs := spanP_append_cons (fun x => x != '"') v '"' rest (fun x hx => by simpa using fun e : x = '"' => hv (e ▸ hx))
    (by simp)
  simp [attrAt, hks, hvs, hk]

theorem attrsF_ser (as : List (Str × Str)) (sc : Bool) (rest : Str) (f : Nat)
    (hok : as.all attrOk = true) (hf : (serAttrs as ++ tagEnd sc ++ rest).length ≤ f) :
    attrsF f (serAttrs as ++ tagEnd sc ++ rest) = some (as, sc, rest) := by
  induction as generalizing f with
  | nil =>
    cases f with
    | zero => cases sc <;> simp [tagEnd] at hf
    | succ f => exact attrsF_end f sc rest
  | cons kv r ih =>
    cases f with
    | zero => simp [serAttrs] at hf
    | succ f =>
      rw [List.all_cons, Bool.and_eq_true] at hok
      have hih := ih f hok.2 (by simp [serAttrs] at hf ⊢; omega)
      have hat := attrAt_ser hok.1 (serAttrs r ++ tagEnd sc ++ rest)
      obtain ⟨_ | ⟨c, k'⟩, v⟩ := kv
      · simp [attrOk] at hok
      · -- the first character of the name is neither whitespace nor the end of the tag
        simp only [attrOk, List.all_cons, Bool.and_eq_true, isAttrNameChar, isWs, Bool.not_eq_true',
          Bool.or_eq_false_iff, beq_eq_false_iff_ne] at hok
        simp only [List.cons_append, List.append_assoc] at hat hih
        simp [serAttrs, attrsF, attrsStep, spanP, isWs, tagEndAt, hok, hat, hih]

theorem validName_nameChars {n : Str} (h : validName n = true) : ∀ x ∈ n, isNameChar x = true := by
  cases n with
  | nil => simp
  | cons c n' =>
    simp only [validName, Bool.and_eq_true, List.all_eq_true] at h
    simpa [isNameChar, h.1] using h.2

theorem after_name_stops (as : List (Str × Str)) (sc : Bool) (rest : Str) :
    ∀ c r, serAttrs as ++ tagEnd sc ++ rest = c :: r → isNameChar c = false := by
  intro c r h
  rcases as with _ | ⟨⟨k, v⟩, _⟩ <;> cases sc <;> simp [serAttrs, tagEnd] at h <;> (obtain ⟨rfl, _⟩ := h; decide)

theorem tagAt_stag (n : Str) (as : List (Str × Str)) (sc : Bool) (rest : Str)
    (hn : validName n = true) (hok : as.all attrOk = true) :
    tagAt (n ++ serAttrs as ++ tagEnd sc ++ rest) = some (.stag n as sc, rest) := by
  have hs := spanP_append isNameChar n (serAttrs as ++ tagEnd sc ++ rest) (validName_nameChars hn)
    (after_name_stops as sc rest)
  have ha := attrsF_ser as sc rest _ hok (Nat.le_refl _)
  cases n with
  | nil => simp [validName] at hn
  | cons c n' =>
    have hc : c ≠ '/' := by rintro rfl; simp [validName, isAsciiLetter] at hn
    simp only [List.cons_append, List.append_assoc] at hs ha ⊢
    simp only [tagAt, hc, if_false, hs, hn, if_true, ha]

theorem tagAt_etag (n : Str) (rest : Str) (hn : validName n = true) :
    tagAt ('/' :: n ++ '>' :: rest) = some (.etag n, rest) := by
  have hs := spanP_append_cons isNameChar n '>' rest (validName_nameChars hn) (by decide)
  simp [tagAt, hs, hn]

theorem tagAt_ser (t : Tok) (hok : t.ok = true) (body rest : Str) (hb : t.ser = '<' :: body) :
    tagAt (body ++ rest) = some (t, rest) := by
  cases t with
  | text s => cases hb; simp [Tok.ok] at hok
  | stag n a sc =>
    simp only [Tok.ok, Bool.and_eq_true] at hok
    cases hb
    simpa using tagAt_stag n a sc rest hok.1 hok.2
  | etag n =>
    cases hb
    simpa using tagAt_etag n rest hok

theorem tokF_text_run (p X : Str) (hp : '<' ∉ p) (hX : ∀ c r, X = c :: r → c = '<') (ts : List Tok)
    (h : ∀ f, X.length ≤ f → tokF f X = some ts) (f : Nat) (hf : (p ++ X).length ≤ f) :
    tokF f (p ++ X) = some (flushTok p ++ ts) := by
  cases p with
  | nil => exact h f hf
  | cons c p' =>
    have hp' : c ≠ '<' ∧ '<' ∉ p' := by simpa [eq_comm] using hp
    have hsp := spanP_append (fun x => x != '<') p' X (fun x hx => by simpa using fun e : x = '<' => hp'.2 (e ▸ hx))
      (fun c r e => by simp [hX c r e])
    cases f with
    | zero => simp at hf
    | succ f => simp [tokF, tokStep, hp'.1, hsp, h f (by simp at hf; omega), flushTok]

/-- with the pending text run `p` in front: the tokenizer merges consecutive text tokens as `mergeAcc` does -/
theorem tokF_serialize (ts : List Tok) (hok : ∀ t ∈ ts, t.ok = true) (p : Str) (hp : '<' ∉ p) (f : Nat)
    (hf : (p ++ serialize ts).length ≤ f) : tokF f (p ++ serialize ts) = some (mergeAcc p ts) := by
  induction ts generalizing p f with
  | nil => simpa [mergeAcc] using tokF_text_run p [] hp (by simp) [] (fun f _ => by cases f <;> rfl) f hf
  | cons t r ih =>
    rw [List.forall_mem_cons] at hok
    have tag : ∀ body, t.ser = '<' :: body →
        tokF f (p ++ serialize (t :: r)) = some (flushTok p ++ t :: mergeAcc [] r) := by
      intro body hb
      refine tokF_text_run p _ hp (by simp [hb]) _ (fun f' hf' => ?_) f hf
      cases f' with
      | zero => simp [hb] at hf'
      | succ f' =>
        have := ih hok.2 [] (by simp) f' (by simp [hb] at hf' ⊢; omega)
        rw [List.nil_append] at this
        simp [tokF, tokStep, hb, tagAt_ser t hok.1 body (serialize r) hb, this]
    cases t with
    | text s =>
      have hs : '<' ∉ s := by simpa [Tok.ok] using hok.1
      simpa [mergeAcc, Tok.ser] using ih hok.2 (p ++ s) (by simp [hp, hs]) f (by simpa [Tok.ser] using hf)
    | stag n a sc => exact tag _ rfl
    | etag n => exact tag _ rfl

theorem tokenize_serialize (ts : List Tok) (hok : ∀ t ∈ ts, t.ok = true) :
    tokenize (serialize ts) = some (mergeText ts) :=
  tokF_serialize ts hok [] (by simp) _ (Nat.le_refl _)

end HtmlVerif
