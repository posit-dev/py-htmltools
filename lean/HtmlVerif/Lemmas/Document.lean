/-
Helper lemmas for C11: the index loop / insert / item assignment of `_hoist_head_content` against the
declarative `withHead`; `_gen_html_tag_tree` against `specRoot`; expansion, collection and head count of the
hoisted child list; the shape of `as_html_tags`.
-/
import HtmlVerif.Spec.Document
import HtmlVerif.Lemmas.DepTags
import HtmlVerif.Props.C09
import HtmlVerif.Props.C10
import HtmlVerif.Lemmas.Nodes

namespace HtmlVerif.Doc
open HtmlVerif

theorem nBody_ne_nHtml : nBody ≠ nHtml := by decide
theorem nBody_ne_nHead : nBody ≠ nHead := by decide
theorem nHtml_ne_nHead : nHtml ≠ nHead := by decide

theorem collect_cons_tag (n : Str) (w : Bool) (a : Attrs) (k t : Nodes) :
    (Nodes.cons (.tag n w a k) t).collect = k.collect ++ t.collect := by
  simp [Nodes.collect, Node.collect]

@[simp] theorem collect_nil : Nodes.nil.collect = [] := rfl

theorem expandAll_cons_tag (n : Str) (w : Bool) (a : Attrs) (k t : Nodes) :
    (Nodes.cons (.tag n w a k) t).expandAll = .cons (.tag n w a k.expandAll) t.expandAll := by
  simp [Nodes.expandAll, Node.expand]

theorem tagifiedKids_cons (h : Node) (t : Nodes) :
    (Nodes.cons h t).tagifiedKids = (h.tagified && t.tagifiedKids) := rfl

theorem headCount_append : ∀ a b : Nodes, headCount (a ++ b) = headCount a + headCount b
  | .nil, _ => by simp [headCount]
  | .cons _ t, b => by simp [headCount, headCount_append t b, Nat.add_assoc]

theorem headCount_cons_eq_zero {h : Node} {t : Nodes} (hp : headCount (.cons h t) = 0) :
    isTagNamed nHead h = false ∧ headCount t = 0 := by
  by_cases hx : isTagNamed nHead h = true <;> simp_all [headCount]

/-! ### the first direct `<head>` -/

theorem first_head : ∀ ks : Nodes,
    headCount ks = 0 ∨
      ∃ pre w a hk post, ks = pre ++ Nodes.cons (.tag nHead w a hk) post ∧ headCount pre = 0
  | .nil => .inl rfl
  | .cons h t => by
    by_cases hh : isTagNamed nHead h = true
    · cases h with
      | tag n w a hk =>
        obtain rfl : n = nHead := by simpa [isTagNamed] using hh
        exact .inr ⟨.nil, w, a, hk, t, rfl, rfl⟩
      | _ => simp [isTagNamed] at hh
    · rcases first_head t with h0 | ⟨pre, w, a, hk, post, rfl, hp⟩
      · exact .inl (by simp [headCount, hh, h0])
      · exact .inr ⟨.cons h pre, w, a, hk, post, rfl, by simp [headCount, hh, hp]⟩

theorem no_head : ∀ {ks : Nodes}, headCount ks = 0 →
    headIndex ks = none ∧ splitHead ks = none ∧ dropFirstHead ks = ks
  | .nil, _ => ⟨rfl, rfl, rfl⟩
  | .cons _ _, h => by
    obtain ⟨hh, ht⟩ := headCount_cons_eq_zero h
    obtain ⟨i1, i2, i3⟩ := no_head ht
    simp [headIndex, splitHead, dropFirstHead, hh, i1, i2, i3]

theorem at_first_head {ks pre post : Nodes} {w : Bool} {a : Attrs} {hk : Nodes}
    (hks : ks = pre ++ Nodes.cons (.tag nHead w a hk) post) (hp : headCount pre = 0) :
    splitHead ks = some (pre, .tag nHead w a hk, post) ∧ dropFirstHead ks = pre ++ post ∧
    ∃ i, headIndex ks = some i ∧ ∀ f, modifyAt f ks i = pre ++ Nodes.cons (f (.tag nHead w a hk)) post := by
  subst hks
  induction pre with
  | nil => simp [splitHead, dropFirstHead, headIndex, modifyAt, isTagNamed]
  | cons h t ih =>
    obtain ⟨hh, ht⟩ := headCount_cons_eq_zero hp
    obtain ⟨i1, i2, i, i3, i4⟩ := ih ht
    simp [splitHead, dropFirstHead, headIndex, modifyAt, hh, i1, i2, i3, i4]

theorem withHead_of_no_head (e : Nodes) {ks : Nodes} (h : headCount ks = 0) :
    withHead e ks = .cons (.tag nHead true [] (.cons metaCharset e)) ks := by
  simp [withHead, (no_head h).2.1, specHead]

theorem withHead_append (e : Nodes) {pre post : Nodes} {w : Bool} {a : Attrs} {hk : Nodes}
    (hp : headCount pre = 0) :
    withHead e (pre ++ Nodes.cons (.tag nHead w a hk) post)
      = pre ++ Nodes.cons (.tag nHead w a (.cons metaCharset (hk ++ e))) post := by
  simp [withHead, (at_first_head rfl hp).1, specHead]

theorem headCount_withHead (e ks : Nodes) : headCount (withHead e ks) = max 1 (headCount ks) := by
  rcases first_head ks with h0 | ⟨pre, w, a, hk, post, rfl, hp⟩
  · simp [withHead_of_no_head e h0, headCount, isTagNamed, h0]
  · simp [withHead_append e hp, headCount_append, headCount, isTagNamed, hp]

theorem collect_withHead (e ks : Nodes) :
    ∃ l₁ l₂, ks.collect = l₁ ++ l₂ ∧ (withHead e ks).collect = l₁ ++ e.collect ++ l₂ := by
  rcases first_head ks with h0 | ⟨pre, w, a, hk, post, rfl, hp⟩
  · exact ⟨[], ks.collect, rfl, by simp [withHead_of_no_head e h0, collect_cons_tag, metaCharset]⟩
  · exact ⟨pre.collect ++ hk.collect, post.collect, by simp [C10.C10_collect_append, collect_cons_tag],
      by simp [withHead_append e hp, C10.C10_collect_append, collect_cons_tag, metaCharset]⟩

theorem expandAll_withHead (e ks : Nodes) (hk : ks.tagifiedKids = true) :
    (withHead e ks).expandAll = withHead e.expandAll ks := by
  have hm : metaCharset.expand = .cons metaCharset .nil := by simp [metaCharset, Node.expand, Nodes.expandAll]
  rcases first_head ks with h0 | ⟨pre, w, a, hk', post, rfl, hp⟩
  · simp [withHead_of_no_head _ h0, expandAll_cons_tag, Nodes.expandAll, hm, C09.C09_tagified_fixed ks hk]
  · rw [Nodes.tagifiedKids_append, tagifiedKids_cons] at hk
    simp only [Bool.and_eq_true, Node.tagified] at hk
    simp [withHead_append _ hp, Nodes.expandAll_append, Nodes.expandAll, Node.expand, hm,
      C09.C09_tagified_fixed pre hk.1, C09.C09_tagified_fixed hk' hk.2.1, C09.C09_tagified_fixed post hk.2.2]

/-! ### the children other than the head; metadata-free skeletons -/

theorem dropFirstHead_withHead (e ks : Nodes) : dropFirstHead (withHead e ks) = dropFirstHead ks := by
  rcases first_head ks with h0 | ⟨pre, w, a, hk, post, rfl, hp⟩
  · simp [withHead_of_no_head e h0, dropFirstHead, isTagNamed, (no_head h0).2.2]
  · rw [withHead_append e hp, (at_first_head rfl hp).2.1, (at_first_head rfl hp).2.1]

theorem stripMeta_nil : Nodes.nil.stripMeta = .nil := rfl

theorem stripMeta_cons_tag (n : Str) (w : Bool) (a : Attrs) (k t : Nodes) :
    (Nodes.cons (.tag n w a k) t).stripMeta = .cons (.tag n w a k.stripMeta) t.stripMeta := by
  simp [Nodes.stripMeta, Node.isMeta, Node.stripMeta]

theorem stripMeta_append : ∀ a b : Nodes, (a ++ b).stripMeta = a.stripMeta ++ b.stripMeta
  | .nil, _ => rfl
  | .cons h t, b => by
    by_cases hm : h.isMeta = true <;> simp [Nodes.stripMeta, hm, stripMeta_append t b]

mutual
  theorem stripMeta_idem_node (n : Node) : n.stripMeta.stripMeta = n.stripMeta := by
    cases n with
    | tag nm w a k => simp [Node.stripMeta, stripMeta_idem k]
    | _ => simp [Node.stripMeta]
  theorem stripMeta_idem (ks : Nodes) : ks.stripMeta.stripMeta = ks.stripMeta := by
    cases ks with
    | nil => rfl
    | cons h t =>
      by_cases hm : h.isMeta = true
      · simp [Nodes.stripMeta, hm, stripMeta_idem t]
      · have hm' : h.stripMeta.isMeta = false := by cases h <;> simp_all [Node.stripMeta, Node.isMeta]
        simp [Nodes.stripMeta, hm, hm', stripMeta_idem_node h, stripMeta_idem t]
end

theorem headCount_stripMeta : ∀ ks : Nodes, headCount ks.stripMeta = headCount ks
  | .nil => rfl
  | .cons h t => by
    cases h <;> simp [Nodes.stripMeta, Node.isMeta, headCount, isTagNamed, Node.stripMeta, headCount_stripMeta t]

theorem stripMeta_withHead (e ks : Nodes) : (withHead e ks).stripMeta = withHead e.stripMeta ks.stripMeta := by
  rcases first_head ks with h0 | ⟨pre, w, a, hk, post, rfl, hp⟩
  · simp [withHead_of_no_head _ h0, withHead_of_no_head _ ((headCount_stripMeta ks).trans h0), stripMeta_cons_tag,
      metaCharset, stripMeta_nil]
  · simp [withHead_append _ hp, withHead_append _ ((headCount_stripMeta pre).trans hp), stripMeta_cons_tag,
      stripMeta_append, metaCharset, stripMeta_nil]

/-! ### the three cases -/

theorem docShape_tag (n : Str) (w : Bool) (a : Attrs) (k : Nodes) :
    docShape (.cons (.tag n w a k) .nil) =
      if n = nHtml then .soleHtml w a k else if n = nBody then .soleBody w a k else .fragment := by
  simp only [docShape]

theorem emptyHead_tagified : emptyHead.tagified = true := by decide

theorem specRoot_ok {cfg : Cfg} {content : Nodes} {kw : List (Str × AttrArg)} {n : Str} {w : Bool} {a : Attrs}
    {ks : Nodes} (h : specRoot cfg content kw = .ok (n, w, a, ks)) :
    n = nHtml ∧ ks.tagifiedKids = true ∧ ks.collect = content.expandAll.collect := by
  unfold specRoot at h
  revert h
  fun_cases docShape content <;> intro h <;> simp only at h <;> split at h <;> cases h <;>
    simp [collect_cons_tag, Nodes.expandAll, Node.expand, emptyHead, Node.tagified, Nodes.tagifiedKids,
      C09.C09_expandAll_tagified]

/-- **`_gen_html_tag_tree` up to hoisting = the root the property describes**; the stored content is returned as is -/
theorem genTree_eq (cfg : Cfg) (content : Nodes) (kw : List (Str × AttrArg)) :
    genTree cfg content kw =
      match specRoot cfg content kw with
      | .error e => .error e
      | .ok (n, w, a, ks) => .ok (.tag n w a ks, content) := by
  unfold genTree specRoot
  fun_cases docShape content
  · simp only [if_true, C09.C09_tagify_tag]
    cases updateKw cfg _ kw <;> rfl
  case case4 hne =>
    split
    · exact (hne _ _ _ _ rfl).elim
    · simp only [wrapHtml, C09.C09_tagify_tag]
      cases tagInitAttrs cfg [] kw <;> rfl
  all_goals
    simp only [*, if_false, if_true, wrapHtml, C09.C09_tagify_tag]
    cases tagInitAttrs cfg [] kw <;> rfl

variable {cfg : Cfg} {lp : Option Str} {iv : Bool}

theorem mkTag_shape {name : Str} {kw : KVs} {t : Node} (h : mkTag cfg name kw = .ok t) :
    ∃ a, t = .tag name true a .nil := by
  unfold mkTag at h
  split at h
  · cases h
  · split at h
    · cases h
    · cases h; exact ⟨_, rfl⟩

theorem mkTags_shape {cfg : Cfg} {name : Str} : ∀ {l : List KVs} {ts : List Node}, mkTags cfg name l = .ok ts →
    ts.length = l.length ∧ ∀ t ∈ ts, ∃ a, t = .tag name true a .nil := by
  intro l ts h
  induction l generalizing ts with
  | nil => cases h; simp
  | cons m r ih =>
    obtain ⟨t, ts', ht, hts, rfl⟩ := mkTags_cons_ok h
    obtain ⟨hl, hall⟩ := ih hts
    exact ⟨by simp [hl], List.forall_mem_cons.mpr ⟨mkTag_shape ht, hall⟩⟩

/-- a list of childless tags: nothing to expand, nothing to collect -/
def ChildlessTags (ts : List Node) : Prop := ∀ t ∈ ts, ∃ n a, t = Node.tag n true a .nil

theorem childless_of_shapes {ms ls ss : List Node} {a b c : Str} (h1 : ∀ t ∈ ms, ∃ x, t = .tag a true x .nil)
    (h2 : ∀ t ∈ ls, ∃ x, t = .tag b true x .nil) (h3 : ∀ t ∈ ss, ∃ x, t = .tag c true x .nil) :
    ChildlessTags (ms ++ ls ++ ss) := by
  intro t ht
  simp only [List.mem_append] at ht
  rcases ht with (ht | ht) | ht
  · exact ⟨a, h1 t ht⟩
  · exact ⟨b, h2 t ht⟩
  · exact ⟨c, h3 t ht⟩

theorem childless_expand : ∀ {ts : List Node}, ChildlessTags ts →
    (Nodes.ofList ts).expandAll = Nodes.ofList ts ∧ (Nodes.ofList ts).collect = [] := by
  intro ts h
  induction ts with
  | nil => exact ⟨rfl, rfl⟩
  | cons t r ih =>
    obtain ⟨n, a, rfl⟩ := h t (by simp)
    obtain ⟨h1, h2⟩ := ih fun x hx => h x (by simp [hx])
    simp [Nodes.ofList, expandAll_cons_tag, collect_cons_tag, h1, h2, Nodes.expandAll]

theorem asDictSheets_length {base : Str} {l r : List KVs} (h : asDictSheets base l = .ok r) : r.length = l.length := by
  induction l generalizing r with
  | nil => cases h; rfl
  | cons s t ih =>
    obtain ⟨_, r', _, hr, rfl⟩ := asDictSheets_cons_ok h
    simp [ih hr]

theorem asDictScripts_length {base : Str} {l r : List KVs} (h : asDictScripts base l = .ok r) : r.length = l.length := by
  induction l generalizing r with
  | nil => cases h; rfl
  | cons s t ih =>
    obtain ⟨_, r', _, hr, rfl⟩ := asDictScripts_cons_ok h
    simp [ih hr]

/-- **the shape of `as_html_tags`**: one childless `<meta>` per meta entry, one `<link>` per stylesheet, one
    `<script>` per script, in this order, followed by the dependency's own head nodes -/
theorem asHtmlTags_shape {d : DepInfo} {hh : Bool} {head ts : Nodes}
    (h : asHtmlTags cfg d hh head lp iv = .ok ts) :
    ∃ metas links scripts : List Node,
      ts = Nodes.ofList (metas ++ links ++ scripts) ++ (if hh then head else .nil) ∧
      metas.length = d.metas.length ∧ links.length = d.stylesheet.length ∧ scripts.length = d.script.length ∧
      (∀ t ∈ metas, ∃ a, t = .tag nMeta true a .nil) ∧ (∀ t ∈ links, ∃ a, t = .tag nLink true a .nil) ∧
      (∀ t ∈ scripts, ∃ a, t = .tag nScript true a .nil) := by
  obtain ⟨dd, metas, links, scripts, hdd, hm, hl, hs, rfl⟩ := asHtmlTags_ok h
  obtain ⟨e1, e2, e3⟩ := asDict_ok hdd
  obtain ⟨l1, s1⟩ := mkTags_shape hm
  obtain ⟨l2, s2⟩ := mkTags_shape hl
  obtain ⟨l3, s3⟩ := mkTags_shape hs
  exact ⟨metas, links, scripts, rfl, by rw [l1, e1], by rw [l2, asDictSheets_length e2],
    by rw [l3, asDictScripts_length e3], s1, s2, s3⟩

theorem depTags_expand_collect {d : Node} {ts : Nodes}
    (h : depTags cfg lp iv d = .ok ts) : ts.expandAll.collect = depHeadDeps d := by
  cases d with
  | dep i hh head =>
    obtain ⟨metas, links, scripts, rfl, _, _, _, s1, s2, s3⟩ := asHtmlTags_shape h
    obtain ⟨h1, h2⟩ := childless_expand (childless_of_shapes s1 s2 s3)
    rw [Nodes.expandAll_append, C10.C10_collect_append, h1, h2]
    cases hh <;> simp [depHeadDeps, Nodes.expandAll]
  | _ => simp [depTags] at h; subst h; simp [depHeadDeps, Nodes.expandAll]

theorem listing_expand (ds : List Node) : (listing ds).expandAll = listing ds := by
  unfold listing
  split <;> simp [Nodes.expandAll, Node.expand, listingNode]

theorem listing_collect (ds : List Node) : (listing ds).collect = [] := by
  unfold listing
  split <;> simp [listingNode, Nodes.collect, Node.collect]

theorem depMarkupAll_eq (ds : List Node) :
    depMarkupAll cfg lp iv ds =
      match depTagsAll cfg lp iv ds with
      | .error e => .error e
      | .ok ts => .ok ts.expandAll := by
  induction ds with
  | nil => rfl
  | cons d r ih =>
    simp only [depMarkupAll, depMarkup, depTagsAll, ih]
    cases depTags cfg lp iv d <;> cases depTagsAll cfg lp iv r <;> simp [Nodes.expandAll_append]

/-- what a second collection pass finds in the nodes appended to the head -/
theorem depMarkupAll_collect {ds : List Node} {ms : Nodes} (h : depMarkupAll cfg lp iv ds = .ok ms) :
    ms.collect = ds.flatMap depHeadDeps := by
  induction ds generalizing ms with
  | nil => cases h; rfl
  | cons d r ih =>
    simp only [depMarkupAll, depMarkup] at h
    cases hd : depTags cfg lp iv d <;> cases hr : depMarkupAll cfg lp iv r <;> rw [hd, hr] at h <;> cases h
    simp [C10.C10_collect_append, depTags_expand_collect hd, ih hr]

/-- `_hoist_head_content` on an `<html>` tag: find-or-insert by index, copy, insert at 0, append, extend amount to
    `withHead` -/
theorem hoist_eq (w : Bool) (a : Attrs) (ks : Nodes) :
    hoist cfg (.tag nHtml w a ks) lp iv =
      match depTagsAll cfg lp iv (resolve ks.collect) with
      | .error e => .error e
      | .ok tags => .ok (.tag nHtml w a (withHead (listing (resolve ks.collect) ++ tags) ks)) := by
  simp only [hoist, Node.getDeps, Nodes.getDeps, ne_eq, not_true_eq_false, if_false, if_true]
  cases depTagsAll cfg lp iv (resolve ks.collect) with
  | error e => rfl
  | ok tags =>
    refine congrArg (fun k => Except.ok (Node.tag nHtml w a k)) ?_
    rcases first_head ks with h0 | ⟨pre, w', a', hk, post, rfl, hp⟩
    · rw [(no_head h0).1, withHead_of_no_head _ h0]
      rfl
    · obtain ⟨_, _, i, hi, hm⟩ := at_first_head rfl hp
      rw [hi, withHead_append _ hp]
      exact hm _

end HtmlVerif.Doc
