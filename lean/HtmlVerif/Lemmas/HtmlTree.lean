/-
Layer 1 of C01, and the side conditions of layers 2 and 3 (where the renderer's pieces meet tokens):
  serialize_toksOf  : serialising the tokens of the piece list gives the rendered string
  pieces_ok         : the pieces of an ordinary tree are well formed
  tok_good          : well-formed pieces give tokens the tokenizer reads back and that decode on their own
  rawAttrs_ok       : attribute values as written decode to the stored values
-/
import HtmlVerif.Spec.Pieces
import HtmlVerif.Lemmas.Pieces
import HtmlVerif.Lemmas.HtmlBuild

namespace HtmlVerif

def rawAttrs (cfg : Cfg) (a : Attrs) : List (Str × Str) := a.map fun kv => (kv.1, emitAttrVal cfg kv.2)

def Piece.tok (cfg : Cfg) : Piece → Tok
  | .opn n _ a sc => .stag n (rawAttrs cfg a) sc
  | .cls n _ => .etag n
  | .ws s => .text s
  | .txt s => .text (escText cfg s)
  | .raw s => .text s

def toksOf (cfg : Cfg) (ps : List Piece) : List Tok := ps.map (Piece.tok cfg)

@[simp] theorem tok_opn (cfg : Cfg) (n : Str) (w : Bool) (a : Attrs) (sc : Bool) :
    (Piece.opn n w a sc).tok cfg = .stag n (rawAttrs cfg a) sc := rfl
@[simp] theorem tok_cls (cfg : Cfg) (n : Str) (w : Bool) : (Piece.cls n w).tok cfg = .etag n := rfl

@[simp] theorem toksOf_nil (cfg : Cfg) : toksOf cfg [] = [] := rfl
@[simp] theorem toksOf_cons (cfg : Cfg) (p : Piece) (ps : List Piece) :
    toksOf cfg (p :: ps) = p.tok cfg :: toksOf cfg ps := rfl
@[simp] theorem toksOf_append (cfg : Cfg) (a b : List Piece) :
    toksOf cfg (a ++ b) = toksOf cfg a ++ toksOf cfg b := by simp [toksOf]

theorem serAttrs_raw (cfg : Cfg) (a : Attrs) : serAttrs (rawAttrs cfg a) = renderAttrs cfg a := by
  induction a with
  | nil => rfl
  | cons kv r ih => simpa [rawAttrs, serAttrs, renderAttrs] using ih

theorem ser_tok (cfg : Cfg) (p : Piece) : (p.tok cfg).ser = p.realize cfg := by
  cases p with
  | opn n w a sc => simp [Tok.ser, openTag, serAttrs_raw, tagEnd]
  | cls n w => simp [Tok.ser, closeTag]
  | _ => simp [Piece.tok, Tok.ser]

theorem serialize_toksOf (cfg : Cfg) (ps : List Piece) : serialize (toksOf cfg ps) = realizeAll cfg ps := by
  induction ps with
  | nil => rfl
  | cons p r ih => simp [ser_tok, ih]

def Piece.okP : Piece → Bool
  | .opn n _ a _ => validName n && attrsOrdinary a
  | .cls n _ => validName n
  | .ws s => wsOnly s
  | .txt _ => true
  | .raw _ => false

theorem if_wsP (c : Prop) [Decidable c] (s : Str) : (if c then wsP s else []) = wsP (if c then s else []) := by
  split <;> simp [wsP]

theorem wsOnly_ite (c : Prop) [Decidable c] {s : Str} (h : wsOnly s = true) :
    wsOnly (if c then s else []) = true := by
  split <;> simp [h]

theorem okP_wsP (s : Str) (h : wsOnly s = true) : (wsP s).all Piece.okP = true := by
  unfold wsP; split <;> simp [Piece.okP, h]

mutual
  theorem pieces_ok (cfg : Cfg) (t : Node) (i : Nat) (e : Str) (ht : t.ordinary cfg.noesc = true)
      (he : wsOnly e = true) : (t.pieces cfg i e).all Piece.okP = true := by
    cases t with
    | tag name ws attrs kids =>
      simp only [Node.ordinary, Bool.and_eq_true, Bool.not_eq_true'] at ht
      obtain ⟨⟨⟨hn, hne⟩, ha⟩, hk⟩ := ht
      have hkids := fun w => kids_ok cfg kids (i + 1) e true w hk he
      rw [pieces_tag, hne]
      simp [if_wsP, okP_wsP, wsOnly_ite, wsOnly_append, wsOnly_indentStr, he, hkids, Piece.okP, hn, ha]
    | _ => rfl
  theorem kids_ok (cfg : Cfg) (ks : Nodes) (i : Nat) (e : Str) (first prevWs : Bool)
      (hk : ks.ordinaryKids cfg.noesc = true) (he : wsOnly e = true) :
      (ks.piecesKids cfg i e first prevWs true).all Piece.okP = true := by
    cases ks with
    | nil => rfl
    | cons h t =>
      simp only [Nodes.ordinaryKids, Bool.and_eq_true] at hk
      obtain ⟨hh, ht⟩ := hk
      have iht := kids_ok cfg t i e
      cases h with
      | tag n w a k =>
        have h1 := pieces_ok cfg (.tag n w a k) i e hh he
        have h2 := pieces_ok cfg (.tag n w a k) 0 [] hh (by simp)
        simp only [piecesKids_tag, if_wsP, List.all_append, okP_wsP, wsOnly_ite, he, iht _ _ ht he, Bool.and_true,
          Bool.true_and]
        split <;> assumption
      | text s =>
        simp [Nodes.piecesKids, if_wsP, okP_wsP, wsOnly_ite, wsOnly_indentStr, he, iht _ _ ht he, textP, Piece.okP]
      | mnode m => exact iht _ _ ht he
      | dep d hd hs => exact iht _ _ ht he
      | _ => cases hh
end

theorem rawAttrs_ok (cfg : Cfg) (h : AttrTblOk cfg.attrTbl) (a : Attrs) (ha : attrsOrdinary a = true) :
    (rawAttrs cfg a).all attrOk = true ∧ decodeAttrs (rawAttrs cfg a) = plainAttrs a := by
  induction a with
  | nil => exact ⟨rfl, rfl⟩
  | cons kv r ih =>
    obtain ⟨k, v⟩ := kv
    simp only [attrsOrdinary, Bool.and_eq_true, Bool.not_eq_true'] at ha
    obtain ⟨⟨⟨⟨hk, hkc⟩, hv⟩, _⟩, hr⟩ := ha
    cases v with
    | html s => cases hv
    | plain s =>
      obtain ⟨ih1, ih2⟩ := ih hr
      refine ⟨?_, ?_⟩
      · show (attrOk (k, htmlEscapeT cfg.attrTbl s) && (rawAttrs cfg r).all attrOk) = true
        simp [attrOk, hk, hkc, esc_inert h s, ih1]
      · show (k, decodeRefs (htmlEscapeT cfg.attrTbl s)) :: decodeAttrs (rawAttrs cfg r) = _
        rw [esc_decodes_self h s, ih2]
        rfl

theorem tok_good (cfg : Cfg) (h1 : TextTblOk cfg.textTbl) (h2 : AttrTblOk cfg.attrTbl) (p : Piece)
    (hp : p.okP = true) : (p.tok cfg).ok = true ∧ (p.tok cfg).closed := by
  cases p with
  | opn n w a sc =>
    simp only [Piece.okP, Bool.and_eq_true] at hp
    exact ⟨by simp [Tok.ok, hp.1, (rawAttrs_ok cfg h2 a hp.2).1], trivial⟩
  | cls n w => exact ⟨hp, trivial⟩
  | ws s =>
    refine ⟨?_, closed_of_decodes fun r => ws_decodes s r hp⟩
    simp only [Piece.tok, Tok.ok, Bool.not_eq_true', List.contains_eq_mem, decide_eq_false_iff_not]
    exact fun hm => absurd (List.all_eq_true.1 hp _ hm) (by decide)
  | txt s =>
    exact ⟨by simpa [Piece.tok, Tok.ok, escText] using esc_inert h1 s, closed_of_decodes (esc_decodes h1 s)⟩
  | raw s => cases hp

end HtmlVerif
