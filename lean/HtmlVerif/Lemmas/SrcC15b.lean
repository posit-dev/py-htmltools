/-
Source tie for the Tag constructor and the helpers around it (Props/SrcC15b.lean): embeddings of the model's values
(`TagArg Arg`, `WsArg`, `TagM`) into the Python value universe, the model of the whole of `Tag.__init__` composed from the
models of its parts (`tagInitWs`, `tagInitAttrs`, `TL.init`), the loop rule for the two comprehensions, and facts about the
primitives of Py/PrimC15b.lean on the embedded shapes.
-/
import HtmlVerif.Lemmas.SrcC14
import HtmlVerif.Lemmas.SrcC10b
import HtmlVerif.Model.Consolidate
import HtmlVerif.Model.TagFn
import HtmlVerif.Py.PrimC15b

set_option linter.unusedVariables false

namespace HtmlVerif.SrcTie
open HtmlVerif HtmlVerif.Py HtmlVerif.Generated.Src

/-- one positional argument of `Tag(...)` / `consolidate_attrs(...)`: an attribute dict, or a value of the child-list model -/
def embTagArgC15b : TagArg Arg → PVal
  | .dict d => embArgDict d
  | .child c => embA c

/-- what is given for `_add_ws`: a bool, or any value that is not one -/
inductive WsVC15b
  | bool (b : Bool)
  | other (v : PVal) (h : isInstance v ["bool"] = false)

def WsVC15b.emb : WsVC15b → PVal
  | .bool b => .bool b
  | .other v _ => v

def WsVC15b.toWs : WsVC15b → WsArg
  | .bool b => .bool b
  | .other _ _ => .other

/-- the names of the parameters of `Tag.__init__` other than `*args` / `**kwargs`: a keyword of that name is not an attribute -/
def reservedC15b : List Str := [['s', 'e', 'l', 'f'], ['_', 'n', 'a', 'm', 'e'], ['_', 'a', 'd', 'd', '_', 'w', 's']]

def kwFreeC15b (names : List Str) (kw : List (Str × AttrArg)) : Bool := kw.all fun kv => !names.contains kv.1

/-- the children are values the fragment can represent, and none of them is a dict (a dict is an attribute argument) -/
def kidsOkC15b (kids : List Arg) : Bool := kids.all fun c => argRep c && !c.isDict

/-- a Tag as `__init__` leaves it (the attributes in the order of `tagFieldNamesC15b`) -/
def embTagMC15b (cls : String) (t : TagM) : PVal :=
  .obj cls [("name", .str t.name), ("attrs", embAttrs t.attrs), ("children", embTL t.children), ("add_ws", .bool t.ws),
            ("prev_displayhook", .none)]

def tagFieldNamesC15b : List String := ["name", "attrs", "children", "add_ws", "prev_displayhook"]

/-- an instance restricted to these attributes, in this order: the order in which `__init__` makes its assignments (the
    order of `__dict__`) is not part of what the tie states -/
def projTagC15b : PVal → PVal
  | .obj c fs => .obj c (tagFieldNamesC15b.filterMap fun k => (fieldGet? k fs).map fun v => (k, v))
  | v => v

/-- `Tag.__init__(self, _name, *args, _add_ws, **kwargs)`: the `_add_ws` check (Model/TagFn.lean), then the attributes
    (Model/Attrs.lean) from the dict arguments and the keywords, then the children (Model/Children.lean) from the other
    arguments; the first failure decides -/
def tagInitC15b (cfg : Cfg) (name : Str) (ws : WsArg) (args : List (TagArg Arg)) (kw : List (Str × AttrArg)) :
    Except Err TagM :=
  match tagInitWs ws with
  | none => .error .typeError
  | some b =>
    match tagInitAttrs cfg (dictsOf args) kw with
    | .error e => .error e
    | .ok a =>
      match TL.init (kidsOf args) with
      | .error e => .error e
      | .ok c => .ok ⟨name, b, a, c⟩

/-- whether `TagList(*kids)` raises: the `checkKids` parameter of Model/Consolidate.lean, instantiated with C14's model -/
def checkKidsC15b (kids : List Arg) : Except Err Unit :=
  match TL.init kids with
  | .ok _ => .ok ()
  | .error e => .error e

/-- outcome of a mutating Tag method in the functional reading: the new receiver, or the exception -/
def embTagOutC15b (cls : String) (r : Except Err Unit × TagM) : PyM PVal :=
  match r.1 with
  | .ok _ => .ok (embTagMC15b cls r.2)
  | .error e => .error (embErr e)

theorem map_eq_bindC15b {α β} (f : α → β) (x : PyM α) : (f <$> x) = x >>= fun a => Except.ok (f a) := by
  cases x <;> rfl

theorem bind_assocC15b {α β γ} (x : PyM α) (f : α → PyM β) (g : β → PyM γ) :
    (x >>= f) >>= g = x >>= fun a => f a >>= g := by
  cases x <;> rfl

/-! ### the comprehensions `[x for x in args if <test on x>]` -/

/-- whatever the body of the comprehension loop is: if one pass appends the item exactly when `p` holds of it, the loop
    computes the filter; stated with the continuation after the loop -/
theorem filter_loop_kC15b {β : Type} (p : PVal → Bool) (L acc : List PVal)
    (f : PVal → List PVal → PyM (ForInStep (List PVal)))
    (hstep : ∀ x ∈ L, ∀ s, f x s = .ok (.yield (if p x then s ++ [x] else s)))
    (k : List PVal → PyM β) :
    (forIn L acc f >>= k) = k (acc ++ L.filter p) := by
  induction L generalizing acc with
  | nil => simp
  | cons x t ih =>
    simp only [List.forIn_cons, hstep x (by simp) acc, ok_bind]
    rw [ih _ (fun y hy s => hstep y (by simp [hy]) s)]
    by_cases hp : p x = true
    · simp [hp]
    · simp [hp]

theorem isDict_embC15b (x : Arg) : isInstance (embA x) ["dict"] = x.isDict := (isInstance_embA x).2.2.2.2.2.2

theorem isDict_embArgDictC15b (d : List (Str × AttrArg)) : isInstance (embArgDict d) ["dict"] = true := rfl

theorem kidsOk_consC15b (c : Arg) (r : List Arg) :
    kidsOkC15b (c :: r) = ((argRep c && !c.isDict) && kidsOkC15b r) := rfl

/-- the dict arguments, as the first comprehension of `Tag.__init__` selects them -/
theorem filter_dictsC15b (args : List (TagArg Arg)) (hk : kidsOkC15b (kidsOf args) = true) :
    (args.map embTagArgC15b).filter (fun v => isInstance v ["dict"]) = (dictsOf args).map embArgDict := by
  induction args with
  | nil => rfl
  | cons a t ih =>
    cases a with
    | dict d =>
      simp only [kidsOf] at hk
      simp [embTagArgC15b, isDict_embArgDictC15b, dictsOf, List.filter_cons, ih hk]
    | child c =>
      simp only [kidsOf, kidsOk_consC15b, Bool.and_eq_true, Bool.not_eq_true'] at hk
      simp [embTagArgC15b, isDict_embC15b, hk.1.2, dictsOf, ih hk.2]

/-- the other arguments, as the second comprehension selects them -/
theorem filter_kidsC15b (args : List (TagArg Arg)) (hk : kidsOkC15b (kidsOf args) = true) :
    (args.map embTagArgC15b).filter (fun v => !isInstance v ["dict"]) = (kidsOf args).map embA := by
  induction args with
  | nil => rfl
  | cons a t ih =>
    cases a with
    | dict d =>
      simp only [kidsOf] at hk
      simp [embTagArgC15b, isDict_embArgDictC15b, kidsOf, ih hk]
    | child c =>
      simp only [kidsOf, kidsOk_consC15b, Bool.and_eq_true, Bool.not_eq_true'] at hk
      simp [embTagArgC15b, isDict_embC15b, hk.1.2, kidsOf, ih hk.2]

theorem kidsOk_repC15b (kids : List Arg) (hk : kidsOkC15b kids = true) : kids.all argRep = true := by
  induction kids with
  | nil => rfl
  | cons c r ih =>
    simp only [kidsOk_consC15b, Bool.and_eq_true] at hk
    simp [hk.1.1, ih hk.2]

theorem kwFree_subC15b (names names' : List Str) (kw : List (Str × AttrArg)) (h : kwFreeC15b names kw = true)
    (hsub : names'.all (fun n => names.contains n) = true) : kwFreeC15b names' kw = true := by
  simp only [kwFreeC15b, List.all_eq_true, Bool.not_eq_true', List.contains_eq_mem, decide_eq_false_iff_not,
    decide_eq_true_eq] at h hsub ⊢
  exact fun kv hkv hm => h kv hkv (hsub _ hm)

/-- `f(**kw)` when no key of `kw` names a parameter of `f`: everything goes to `**kwargs`, unchanged -/
theorem pyKwRest_embC15b (kw : List (Str × AttrArg)) (bound taken : List Str)
    (h : kwFreeC15b reservedC15b kw = true)
    (hsub : (bound ++ taken).all (fun n => reservedC15b.contains n) = true) :
    pyKwRestC15b (embArgDict kw) bound taken = .ok (embArgDict kw) := by
  have hf := kwFree_subC15b _ _ kw h hsub
  simp only [kwFreeC15b, List.all_eq_true, Bool.not_eq_true', List.contains_eq_mem, List.mem_append,
    decide_eq_false_iff_not, not_or] at hf
  have h1 : ((kw.map fun kv => (kv.1, embArg kv.2)).any fun kv => bound.contains kv.1) = false := by
    simpa [List.any_eq_false] using fun kv hkv => (hf kv hkv).1
  have h2 : ((kw.map fun kv => (kv.1, embArg kv.2)).filter fun kv => !taken.contains kv.1)
      = kw.map fun kv => (kv.1, embArg kv.2) := by
    rw [List.filter_eq_self]
    intro x hx
    obtain ⟨kv, hkv, rfl⟩ := List.mem_map.mp hx
    simpa using (hf kv hkv).2
  simp only [pyKwRestC15b, embArgDict, h1, h2, Bool.false_eq_true, if_false, pure_eq_ok]

/-- `f(**kw)` when no key of `kw` names a parameter of `f`: a parameter with a default keeps its default -/
theorem pyKwTake_embC15b (kw : List (Str × AttrArg)) (name : Str) (dflt : PVal)
    (h : kwFreeC15b reservedC15b kw = true) (hn : reservedC15b.contains name = true) :
    pyKwTakeC15b (embArgDict kw) name dflt = .ok dflt := by
  have hf := kwFree_subC15b _ [name] kw h (by simpa using hn)
  have hall : ∀ kv ∈ kw, kv.1 ≠ name := by simpa [kwFreeC15b] using hf
  have : Py.dictGet? name (kw.map fun kv => (kv.1, embArg kv.2)) = none := by
    clear h hf
    induction kw with
    | nil => rfl
    | cons kv t ih =>
      simp only [List.map_cons, Py.dictGet?]
      rw [if_neg (hall kv (by simp))]
      exact ih (fun x hx => hall x (by simp [hx]))
  simp only [pyKwTakeC15b, embArgDict, this, Option.getD_none, pure_eq_ok]

theorem pyDictInit0_embC15b (a : Attrs) : pyDictInit0C15b (embAttrs a) = .ok (embAttrs a) := rfl
theorem pyDictCopy_embC15b (a : Attrs) : pyDictCopyC15b (embAttrs a) = .ok (embAttrs a) := rfl

theorem pySetAttr_objC15b (c : String) (fs : List (String × PVal)) (n : String) (v : PVal) :
    pySetAttr (.obj c fs) n v = .ok (.obj c (fieldSet n v fs)) := rfl

theorem pyGetAttr_objC15b (c : String) (fs : List (String × PVal)) (n : String) :
    pyGetAttr (.obj c fs) n = match fieldGet? n fs with | some v => .ok v | none => .error .attributeError := by
  simp only [pyGetAttr]; cases fieldGet? n fs <;> rfl

theorem fieldGet?_fieldSet_sameC15b (k : String) (v : PVal) (fs : List (String × PVal)) :
    fieldGet? k (fieldSet k v fs) = some v := by
  rw [fieldGet?_fieldSetC10b, if_pos rfl]

theorem fieldGet?_fieldSet_otherC15b (k k' : String) (v : PVal) (fs : List (String × PVal)) (h : k' ≠ k) :
    fieldGet? k' (fieldSet k v fs) = fieldGet? k' fs := by
  rw [fieldGet?_fieldSetC10b, if_neg (Ne.symm h)]

theorem projTag_objC15b (c : String) (fs : List (String × PVal)) (n a ch w d : PVal)
    (h1 : fieldGet? "name" fs = some n) (h2 : fieldGet? "attrs" fs = some a) (h3 : fieldGet? "children" fs = some ch)
    (h4 : fieldGet? "add_ws" fs = some w) (h5 : fieldGet? "prev_displayhook" fs = some d) :
    projTagC15b (.obj c fs) = .obj c [("name", n), ("attrs", a), ("children", ch), ("add_ws", w), ("prev_displayhook", d)] := by
  simp [projTagC15b, tagFieldNamesC15b, h1, h2, h3, h4, h5]

theorem pyGetAttr_projC15b (v : PVal) (k : String) (hk : tagFieldNamesC15b.contains k = true) :
    pyGetAttr (projTagC15b v) k = pyGetAttr v k := by
  cases v with
  | obj c fs =>
    have key : ∀ names : List String, fieldGet? k (names.filterMap fun n => (fieldGet? n fs).map fun v => (n, v))
        = if names.contains k then fieldGet? k fs else none := by
      intro names
      induction names with
      | nil => rfl
      | cons n t ih =>
        by_cases hn : n = k
        · subst hn; cases hg : fieldGet? n fs <;> simp [hg, ih, fieldGet?]
        · cases hg : fieldGet? n fs <;> simp [hg, ih, fieldGet?, hn, Ne.symm hn]
    simp only [projTagC15b, pyGetAttr, key, hk, if_true]
  | _ => rfl

/-- positional binding at run time (`self.children.append(*args)`) -/
theorem pyPosArg_consC15b (a : PVal) (r : List PVal) : pyPosArgC15b (a :: r) 0 = .ok a := rfl
theorem pyPosArg_nilC15b (i : Nat) : pyPosArgC15b [] i = .error .typeError := rfl

theorem proj_inv_errorC15b (X : PyM PVal) (e : PyErr) (h : projTagC15b <$> X = .error e) : X = .error e := by
  cases X with
  | error e' => exact h
  | ok v => exact absurd h (by simp)

theorem proj_inv_okC15b (X : PyM PVal) (w : PVal) (h : projTagC15b <$> X = .ok w) :
    ∃ v, X = .ok v ∧ projTagC15b v = w := by
  cases X with
  | error e' => exact absurd h (by simp)
  | ok v => exact ⟨v, rfl, by simpa using h⟩

theorem pyGetAttr_embTagM_attrsC15b (cls : String) (t : TagM) :
    pyGetAttr (embTagMC15b cls t) "attrs" = .ok (embAttrs t.attrs) := rfl

theorem fieldGet?_children_embTagMC15b (t : TagM) :
    fieldGet? "children" [("name", PVal.str t.name), ("attrs", embAttrs t.attrs), ("children", embTL t.children),
      ("add_ws", PVal.bool t.ws), ("prev_displayhook", PVal.none)] = some (embTL t.children) := rfl

/-- outcome of a method that works on the `children` field of an instance: the instance with the new child list, or the
    exception -/
def embKidsOutC15b (cls : String) (fs : List (String × PVal)) (o : StepOut) : PyM PVal :=
  match o.result with
  | .ok _ => .ok (.obj cls (fieldSet "children" (embTL o.state) fs))
  | .error e => .error (embErr e)

theorem embKidsOut_tagMC15b (cls : String) (t : TagM) (o : StepOut) :
    embKidsOutC15b cls [("name", PVal.str t.name), ("attrs", embAttrs t.attrs), ("children", embTL t.children),
      ("add_ws", PVal.bool t.ws), ("prev_displayhook", PVal.none)] o = embTagOutC15b cls (t.withChildren o) := by
  simp only [embKidsOutC15b, embTagOutC15b, TagM.withChildren]
  cases o.result <;> rfl

/-- the constructor model and the split model of Model/Consolidate.lean say the same about attributes and errors -/
theorem tagInitSplit_eqC15b (cfg : Cfg) (name : Str) (b : Bool) (args : List (TagArg Arg)) (kw : List (Str × AttrArg)) :
    tagInitSplit cfg checkKidsC15b args kw
      = match tagInitC15b cfg name (.bool b) args kw with
        | .ok t => .ok (t.attrs, kidsOf args)
        | .error e => .error e := by
  simp only [tagInitSplit, tagInitC15b, tagInitWs, checkKidsC15b]
  cases tagInitAttrs cfg (dictsOf args) kw with
  | error e => rfl
  | ok a => cases TL.init (kidsOf args) <;> rfl

/-- without attribute arguments it is the child-list model's `TagM.init` (Model/Children.lean) -/
theorem tagInit_kidsC15b (cfg : Cfg) (name : Str) (args : List Arg) (h : ∀ a ∈ args, a.isDict = false) :
    tagInitC15b cfg name (.bool true) (args.map .child) [] = TagM.init name args := by
  have h1 : ∀ l : List Arg, dictsOf (l.map (TagArg.child (α := Arg))) = [] := fun l => by
    induction l <;> simp_all [dictsOf]
  have h2 : ∀ l : List Arg, kidsOf (l.map (TagArg.child (α := Arg))) = l := fun l => by
    induction l <;> simp_all [kidsOf]
  have h3 : args.filter (fun a => !a.isDict) = args := List.filter_eq_self.mpr fun a ha => by simp [h a ha]
  simp only [tagInitC15b, tagInitWs, h1, h2, TagM.init, h3]
  cases TL.init args <;> rfl

/-- the flag a successfully built tag carries is the one `tagInitWs` (Model/TagFn.lean, C19) accepts -/
theorem tagInit_wsC15b (cfg : Cfg) (name : Str) (ws : WsArg) (args : List (TagArg Arg)) (kw : List (Str × AttrArg)) (t : TagM)
    (h : tagInitC15b cfg name ws args kw = .ok t) : tagInitWs ws = some t.ws ∧ t.name = name := by
  unfold tagInitC15b at h
  split at h
  · cases h
  · split at h
    · cases h
    · split at h <;> cases h
      exact ⟨‹_›, rfl⟩

/-! ### both halves of the constructor raise TypeError only (so which half is built first cannot be observed) -/

theorem accumPairs_errC15b (cfg : Cfg) (l : List (Str × AttrArg)) (acc : Attrs) (e : Err)
    (h : accumPairs cfg l acc = .error e) : e = .typeError := by
  induction l generalizing acc with
  | nil => simp [accumPairs] at h
  | cons kv t ih =>
    obtain ⟨k, v⟩ := kv
    cases v <;> simp only [accumPairs, normAttrValue] at h <;> first | exact ih _ h | (cases h; rfl)

theorem accumDicts_errC15b (cfg : Cfg) (ds : List (List (Str × AttrArg))) (acc : Attrs) (e : Err)
    (h : accumDicts cfg ds acc = .error e) : e = .typeError := by
  induction ds generalizing acc with
  | nil => simp [accumDicts] at h
  | cons d t ih =>
    simp only [accumDicts] at h
    cases hd : accumPairs cfg d acc with
    | error e' => rw [hd] at h; cases h; exact accumPairs_errC15b cfg d acc _ hd
    | ok a => rw [hd] at h; exact ih _ h

theorem tagInitAttrs_errC15b (cfg : Cfg) (ds : List (List (Str × AttrArg))) (kw : List (Str × AttrArg)) (e : Err)
    (h : tagInitAttrs cfg ds kw = .error e) : e = .typeError := by
  simp only [tagInitAttrs, attrsUpdate] at h
  cases hd : accumDicts cfg (if kw.isEmpty then ds else ds ++ [kw]) [] with
  | error e' => rw [hd] at h; cases h; exact accumDicts_errC15b cfg _ _ _ hd
  | ok a => rw [hd] at h; cases h

theorem convertLoop_errC15b (l : List Arg) (e : Err) (h : convertLoop l = .error e) : e = .typeError := by
  induction l generalizing e with
  | nil => cases h
  | cons a t ih =>
    unfold convertLoop at h
    split at h
    · split at h <;> cases h
      exact ih _ ‹_›
    · split at h
      · split at h <;> cases h
        exact ih _ ‹_›
      · cases h; rfl

theorem TLinit_errC15b (kids : List Arg) (e : Err) (h : TL.init kids = .error e) : e = .typeError := by
  simp only [TL.init, chTagchildsToTagnodes, Arg.isStr, Arg.iter, Bool.false_eq_true, if_false] at h
  exact convertLoop_errC15b _ _ h

end HtmlVerif.SrcTie
