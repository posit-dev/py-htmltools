/-
Helper lemmas for C12: what the guards `SafeSeg`, `CleanDir`, `CleanRel` give.
-/
import HtmlVerif.Lemmas.Paths
import HtmlVerif.Spec.Paths

namespace HtmlVerif

/-- a character that `relRefOk` accepts in any position -/
def urlPlain (c : Char) : Prop := c ≠ '?' ∧ c ≠ '#' ∧ c ≠ ':'

theorem inertC_ne {c : Char} (h : inertC c = true) :
    c ≠ '%' ∧ c ≠ '/' ∧ urlPlain c ∧ c.toNat < 128 := by
  have hlt : c.toNat < 128 := by
    simp only [inertC, inertN, Bool.and_eq_true, decide_eq_true_eq] at h
    omega
  refine ⟨?_, ?_, ⟨?_, ?_, ?_⟩, hlt⟩ <;> (rintro rfl; revert h; decide)

theorem unreservedC_plain {c : Char} (h : isUnreservedC c = true) : urlPlain c := by
  refine ⟨?_, ?_, ?_⟩ <;> (rintro rfl; revert h; decide)

theorem utf8Char_ascii {c : Char} (h : c.toNat < 128) : utf8Char c = [c.toNat.toUInt8] := by
  simp [utf8Char, h]

theorem utf8Char_ne_nil (c : Char) : utf8Char c ≠ [] := by
  by_cases h1 : c.toNat < 0x80 <;> by_cases h2 : c.toNat < 0x800 <;> by_cases h3 : c.toNat < 0x10000 <;>
    simp [utf8Char, h1, h2, h3]

theorem utf8_ne_nil {s : Str} (h : s ≠ []) : utf8 s ≠ [] := by
  match s, h with
  | c :: r, _ =>
    rw [utf8_cons]
    intro e
    exact utf8Char_ne_nil c (List.append_eq_nil_iff.mp e).1

theorem asciiByte_inv {c : Char} (h : c.toNat < 128) : Char.ofNat c.toNat.toUInt8.toNat = c := by
  rw [UInt8.toNat_ofNat_of_lt' (by simp [UInt8.size]; omega), Char.ofNat_toNat]

theorem utf8_ascii {s : Str} (h : ∀ c ∈ s, c.toNat < 128) : utf8 s = s.map fun c => c.toNat.toUInt8 := by
  induction s with
  | nil => rfl
  | cons c s ih =>
    rw [utf8_cons, utf8Char_ascii (h c (by simp)), ih fun x hx => h x (by simp [hx])]
    rfl

theorem utf8_ascii_inv {s : Str} (h : ∀ c ∈ s, c.toNat < 128) : (utf8 s).map (fun b => Char.ofNat b.toNat) = s := by
  rw [utf8_ascii h, List.map_map]
  exact (List.map_congr_left fun c hc => asciiByte_inv (h c hc)).trans (List.map_id _)

theorem inertC_ascii {s : Str} (h : ∀ c ∈ s, inertC c = true) : ∀ c ∈ s, c.toNat < 128 :=
  fun c hc => (inertC_ne (h c hc)).2.2.2

theorem utf8_inert_noSlash {s : Str} (h : ∀ c ∈ s, inertC c = true) : ∀ x ∈ utf8 s, x ≠ 0x2F := by
  rw [utf8_ascii (inertC_ascii h)]
  intro x hx e
  obtain ⟨c, hc, rfl⟩ := List.mem_map.mp hx
  exact (inertC_ne (h c hc)).2.1 (by rw [← asciiByte_inv (inertC_ascii h c hc), e]; rfl)

theorem safeSeg_ne_nil {s : Str} (h : SafeSeg s = true) : s ≠ [] := by
  simp [SafeSeg] at h; exact h.1.1.1

theorem safeSeg_inert {s : Str} (h : SafeSeg s = true) : ∀ c ∈ s, inertC c = true := by
  simp [SafeSeg] at h; exact h.1.1.2

theorem safeSeg_segs {s : Str} (h : SafeSeg s = true) : segs (utf8 s) = [utf8 s] :=
  segs_single _ (utf8_inert_noSlash (safeSeg_inert h)) (utf8_ne_nil (safeSeg_ne_nil h))

theorem safeSeg_noSlash {s : Str} (h : SafeSeg s = true) : '/' ∉ s :=
  fun hm => (inertC_ne (safeSeg_inert h _ hm)).2.1 rfl

theorem safeSeg_head {s : Str} (h : SafeSeg s = true) : s.head? ≠ some '/' :=
  fun e => safeSeg_noSlash h (List.mem_of_head? e)

theorem safeSeg_last {s : Str} (h : SafeSeg s = true) : s.getLast? ≠ some '/' :=
  fun e => safeSeg_noSlash h (List.mem_of_getLast? e)

theorem wideSeg_ne_nil {s : Str} (h : WideSeg s = true) : s ≠ [] := by
  simp [WideSeg] at h; exact h.1.1.1.1

theorem wideSeg_noSlash {s : Str} (h : WideSeg s = true) : '/' ∉ s := by
  simp [WideSeg] at h; exact h.1.1.1.2

theorem wideSeg_head {s : Str} (h : WideSeg s = true) : s.head? ≠ some '/' :=
  fun e => wideSeg_noSlash h (List.mem_of_head? e)

theorem wideSeg_last {s : Str} (h : WideSeg s = true) : s.getLast? ≠ some '/' :=
  fun e => wideSeg_noSlash h (List.mem_of_getLast? e)

theorem cleanDir_chars {l : Str} (h : CleanDir l = true) : ∀ c ∈ l, inertC c = true ∨ c = '/' := by
  simp [CleanDir] at h
  exact h.1.1

theorem cleanDir_head {l : Str} (h : CleanDir l = true) : l.head? ≠ some '/' := by
  simp [CleanDir] at h
  exact h.1.2

theorem cleanRel_bytesHead {p : Str} (h : CleanRel p = true) : (utf8 p).head? ≠ some 0x2F := by
  intro e
  obtain ⟨r, hu⟩ := List.head?_eq_some_iff.mp e
  simp [CleanRel, hu, splitSlash, goodSeg] at h

theorem cleanRel_head {p : Str} (h : CleanRel p = true) : p.head? ≠ some '/' :=
  head_of_bytesHead (cleanRel_bytesHead h)

theorem mem_posixJoin {a b : Str} {c : Char} (h : c ∈ posixJoin a b) : c ∈ a ∨ c = '/' ∨ c ∈ b := by
  unfold posixJoin at h
  split at h
  · exact .inr (.inr h)
  · split at h
    · rcases List.mem_append.mp h with h | h <;> simp [h]
    · simpa using h

theorem posixJoin_head {a b : Str} (ha : a ≠ []) (hb : b.head? ≠ some '/') :
    (posixJoin a b).head? = a.head? := by
  unfold posixJoin
  simp only [hb, if_false]
  split <;> (cases a <;> simp_all)

theorem posixJoin_head_ne {a b : Str} (ha : a.head? ≠ some '/') (hb : b.head? ≠ some '/') :
    (posixJoin a b).head? ≠ some '/' := by
  by_cases h : a = []
  · rw [h, posixJoin_empty]
    exact hb
  · rw [posixJoin_head h hb]
    exact ha

theorem posixJoin_getLast {a b : Str} (hb : b ≠ []) : (posixJoin a b).getLast? = b.getLast? := by
  have hx := List.getLast?_eq_some_getLast hb
  unfold posixJoin
  split
  · rfl
  · split <;> simp [List.getLast?_append, List.getLast?_cons, hx]

theorem posixJoin_ne_nil {a b : Str} (hb : b ≠ []) : posixJoin a b ≠ [] := by
  unfold posixJoin
  split
  · exact hb
  · split <;> simp [hb]

theorem utf8_inert_inj (s t : Str) (hs : ∀ c ∈ s, inertC c = true) (ht : ∀ c ∈ t, inertC c = true)
    (h : utf8 s = utf8 t) : s = t := by
  rw [← utf8_ascii_inv (inertC_ascii hs), h, utf8_ascii_inv (inertC_ascii ht)]

/-! ### the shape of a local URL -/

theorem firstSeg_noColon {u : Str} (h : ':' ∉ u) : (u.takeWhile (· != '/')).contains ':' = false := by
  rw [List.contains_eq_mem, decide_eq_false_iff_not]
  exact fun hm => h (List.takeWhile_subset _ hm)

theorem relRefOk_of {u : Str} (h : ∀ c ∈ u, urlPlain c) (hh : u.head? ≠ some '/') : relRefOk u = true := by
  simp only [relRefOk, Bool.and_eq_true, List.all_eq_true, bne_iff_ne, ne_eq,
    firstSeg_noColon fun hm => (h _ hm).2.2 rfl, Bool.not_false, and_true]
  exact ⟨fun c hc => ⟨(h c hc).1, (h c hc).2.1⟩, hh⟩

theorem urlPlain_slash : urlPlain '/' := by unfold urlPlain; decide
theorem urlPlain_pct : urlPlain '%' := by unfold urlPlain; decide

/-- the closed form is what `source_path_map` computes -/
theorem withPrefix_eq_hrefBaseSpec (lp : Option Str) {dn : Str} (hdn : dn.head? ≠ some '/') :
    withPrefix lp dn = hrefBaseSpec lp dn := by
  cases lp with
  | none => rfl
  | some l => by_cases hl : l = [] <;> simp [withPrefix, hrefBaseSpec, posixJoin, hdn, hl]

/-- the base URL is the prefix (`None` and `""` alike: nothing) joined with the directory name -/
theorem hrefBaseSpec_eq_join (lp : Option Str) {dn : Str} (hdn : dn.head? ≠ some '/') :
    hrefBaseSpec lp dn = posixJoin (lp.getD []) dn := by
  cases lp with
  | none => exact posixJoin_empty.symm
  | some l => by_cases hl : l = [] <;> simp [hrefBaseSpec, posixJoin, hdn, hl]

theorem cleanDir_of_opt {lp : Option Str} (hl : CleanDirOpt lp = true) (hne : lp.getD [] ≠ []) :
    CleanDir (lp.getD []) = true := by
  cases lp with
  | none => exact absurd rfl hne
  | some l => simpa [CleanDirOpt, show l ≠ [] from hne] using hl

theorem hrefBaseSpec_plain {lp : Option Str} {dn : Str} (hl : CleanDirOpt lp = true) (hn : SafeSeg dn = true) :
    ∀ c ∈ hrefBaseSpec lp dn, c ≠ '%' ∧ urlPlain c := by
  have hin : ∀ c, inertC c = true ∨ c = '/' → c ≠ '%' ∧ urlPlain c := by
    rintro c (h | rfl)
    · exact ⟨(inertC_ne h).1, (inertC_ne h).2.2.1⟩
    · exact ⟨by decide, urlPlain_slash⟩
  intro c hc
  rw [hrefBaseSpec_eq_join lp (safeSeg_head hn)] at hc
  rcases mem_posixJoin hc with h | h | h
  · exact hin c (cleanDir_chars (cleanDir_of_opt hl (List.ne_nil_of_mem h)) c h)
  · exact hin c (.inr h)
  · exact hin c (.inl (safeSeg_inert hn c h))

theorem hrefBaseSpec_head {lp : Option Str} {dn : Str} (hl : CleanDirOpt lp = true) (hn : SafeSeg dn = true) :
    (hrefBaseSpec lp dn).head? ≠ some '/' := by
  rw [hrefBaseSpec_eq_join lp (safeSeg_head hn)]
  refine posixJoin_head_ne (fun e => ?_) (safeSeg_head hn)
  exact cleanDir_head (cleanDir_of_opt hl (List.ne_nil_of_mem (List.mem_of_head? e))) e

/-- the components of `[lib_prefix/]name[-version]` -/
theorem segs_hrefBaseSpec {lp : Option Str} {dn : Str} (hn : SafeSeg dn = true) :
    segs (utf8 (hrefBaseSpec lp dn)) = segsOpt lp ++ [utf8 dn] := by
  rw [hrefBaseSpec_eq_join lp (safeSeg_head hn), segs_utf8_posixJoin _ dn (safeSeg_head hn), safeSeg_segs hn]
  cases lp <;> rfl

end HtmlVerif
