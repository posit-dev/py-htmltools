/-
The attribute-merge lemma needed by C03 (DESIGN §6 C03, `C03_merge`):
for one `update` call (hence also `Tag(...)`, `add_class`, `add_style`) supplying the values v₁ … vₙ for the
same name, the emitted attribute text equals the operands' own emissions joined by single spaces, where a
plain operand emits its attribute-escaped text and an HTML() operand emits itself.

`EscDistrib cfg` (the hypothesis `hdistrib`) says that attribute escaping distributes over `s ++ " " ++ t`;
`escDistrib_of_no_space_key` derives it from the table side-condition "no key of the table is a space".
-/
import HtmlVerif.Lemmas.AttrDict
import HtmlVerif.Lemmas.Escape

namespace HtmlVerif

def EscDistrib (cfg : Cfg) : Prop :=
  ∀ s t : Str, htmlEscapeT cfg.attrTbl (s ++ ' ' :: t)
    = htmlEscapeT cfg.attrTbl s ++ ' ' :: htmlEscapeT cfg.attrTbl t

theorem emitOperand_eq (cfg : Cfg) (v : AttrVal) : emitOperand cfg v = emitAttrVal cfg v := by
  cases v <;> rfl

theorem emit_mergeVal (cfg : Cfg) (hdistrib : EscDistrib cfg) (a b : AttrVal) :
    emitAttrVal cfg (mergeVal cfg a b) = emitAttrVal cfg a ++ ' ' :: emitAttrVal cfg b := by
  cases a <;> cases b <;> simp [mergeVal, emitAttrVal, hdistrib _ _]

theorem joinStr_merge_head (c : Char) (a b : Str) (r : List Str) :
    joinStr [c] ((a ++ c :: b) :: r) = joinStr [c] (a :: b :: r) := by
  cases r <;> simp [joinStr]

theorem emit_joinVals (cfg : Cfg) (hdistrib : EscDistrib cfg) (v : AttrVal) (vs : List AttrVal) :
    emitAttrVal cfg (joinVals cfg v vs) = joinStr [' '] ((v :: vs).map (emitOperand cfg)) := by
  induction vs generalizing v with
  | nil => simp [joinVals, joinStr, emitOperand_eq]
  | cons w g ih =>
    rw [joinVals_cons, ih]
    simp only [List.map_cons, emitOperand_eq, emit_mergeVal cfg hdistrib, joinStr_merge_head]

/-- values all of one kind (`c` is `.plain` or `.html`) stay in that kind and are a plain join of the texts -/
theorem joinVals_same (cfg : Cfg) (c : Str → AttrVal) (hc : ∀ a b, mergeVal cfg (c a) (c b) = c (a ++ ' ' :: b))
    (s : Str) (ss : List Str) : joinVals cfg (c s) (ss.map c) = c (joinStr [' '] (s :: ss)) := by
  induction ss generalizing s with
  | nil => rfl
  | cons w g ih => rw [List.map_cons, joinVals_cons, hc, ih, joinStr_merge_head]

theorem attrsUpdate_eq (cfg : Cfg) (cur : Attrs) (args : List (List (Str × AttrArg)))
    (hok : ∀ kv ∈ args.flatten, kv.2 ≠ .bad) :
    attrsUpdate cfg cur args = .ok (dictUpdate cur (mergeSpec cfg args.flatten)) := by
  simp [attrsUpdate, accumDicts_eq_flatten, accumPairs_eq cfg _ _ hok, accumNorm_nil, mergeSpec]

theorem attrsUpdate_bad (cfg : Cfg) (cur : Attrs) (args : List (List (Str × AttrArg)))
    (hbad : ∃ kv ∈ args.flatten, kv.2 = .bad) :
    attrsUpdate cfg cur args = .error .typeError := by
  simp [attrsUpdate, accumDicts_eq_flatten, accumPairs_bad cfg _ _ hbad]

theorem attrsUpdate_ok_inv (cfg : Cfg) (cur new : Attrs) (args : List (List (Str × AttrArg)))
    (h : attrsUpdate cfg cur args = .ok new) :
    new = dictUpdate cur (mergeSpec cfg args.flatten) ∧ ∀ kv ∈ args.flatten, kv.2 ≠ .bad := by
  by_cases hb : ∃ kv ∈ args.flatten, kv.2 = .bad
  · rw [attrsUpdate_bad cfg cur args hb] at h; cases h
  · have hok : ∀ kv ∈ args.flatten, kv.2 ≠ .bad := fun kv hkv e => hb ⟨kv, hkv, e⟩
    rw [attrsUpdate_eq cfg cur args hok] at h
    exact ⟨by cases h; rfl, hok⟩

/-- **C03_merge.** One `update` call whose (normalised, undropped) values for the name `k` are `v :: vs`, in
    argument order: afterwards `k` is present and the text the attribute writer emits for it is the
    operands' emissions joined by single spaces — plain operands attribute-escaped, HTML() operands verbatim. -/
theorem C03_merge (cfg : Cfg) (hdistrib : EscDistrib cfg) (cur : Attrs) (args : List (List (Str × AttrArg)))
    (hok : ∀ kv ∈ args.flatten, kv.2 ≠ .bad) (k : Str) (v : AttrVal) (vs : List AttrVal)
    (hg : groupVals k (normPairs args.flatten) = v :: vs) :
    ∃ new m, attrsUpdate cfg cur args = .ok new ∧ alookup k new = some m ∧
      emitAttrVal cfg m = joinStr [' '] ((v :: vs).map (emitOperand cfg)) := by
  refine ⟨_, joinVals cfg v vs, attrsUpdate_eq cfg cur args hok, ?_, emit_joinVals cfg hdistrib v vs⟩
  rw [mergeSpec, alookup_dictUpdate _ _ _ (nodup_keysOf_mergeSpecN _ _), alookup_mergeSpecN, hg]
  simp

/-- the same through the writer: the attribute is written as ` k="…"` with that text -/
theorem C03_merge_rendered (cfg : Cfg) (hdistrib : EscDistrib cfg) (k : Str) (v : AttrVal) (vs : List AttrVal) :
    renderAttrs cfg [(k, joinVals cfg v vs)]
      = ' ' :: k ++ '=' :: '"' :: joinStr [' '] ((v :: vs).map (emitOperand cfg)) ++ ['"'] := by
  simp [renderAttrs, emit_joinVals cfg hdistrib]

/-! ### `hdistrib` from the table side-condition -/

theorem escDistrib_of_space (cfg : Cfg) (hsp : htmlEscapeT cfg.attrTbl [' '] = [' ']) : EscDistrib cfg := by
  intro s t
  rw [← List.singleton_append, htmlEscapeT_append, htmlEscapeT_append, hsp]
  rfl

theorem escDistrib_of_no_space_key (cfg : Cfg) (h : ∀ kv ∈ cfg.attrTbl, kv.1 ≠ ' ') : EscDistrib cfg := by
  apply escDistrib_of_space
  have : needsEscape cfg.attrTbl [' '] = false := by simpa [needsEscape] using h
  rw [htmlEscapeT, this]
  rfl

end HtmlVerif
