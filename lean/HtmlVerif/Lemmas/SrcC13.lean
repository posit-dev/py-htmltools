/-
Embeddings and helper lemmas for the source tie of C13 (Props/SrcC13.lean): the extraction of serialised dependencies
from HTML text (`HTMLTextDocument._static_extract_serialized_html_deps`, `_extract_serialized_html_deps`, `__init__`)
against `scan` / `tdDedupKeepFirst` / `recover` / `extract` / `textDocInit` (Model/TextDoc.lean), and `json.dumps` of the
record `HTMLDependency.serialize_to_script_json` builds.
-/
import HtmlVerif.Generated.Src
import HtmlVerif.Lemmas.PyLoop
import HtmlVerif.Lemmas.SrcTie
import HtmlVerif.Lemmas.SrcC10b
import HtmlVerif.Lemmas.Extract
import HtmlVerif.Model.TextDoc

set_option linter.unusedVariables false

namespace HtmlVerif.SrcTie
open HtmlVerif HtmlVerif.Py HtmlVerif.Generated.Src

theorem reFindallC13_str (pat x : Str) (h : pat = extractPatternC13) :
    reFindallC13 (.str pat) (.str x) = .ok (.list ((scan x.length x).2.map .str)) := by
  simp [reFindallC13, h]

theorem reSubC13_str (pat x : Str) (h : pat = extractPatternC13) :
    reSubC13 (.str pat) (.str []) (.str x) = .ok (.str (scan x.length x).1) := by
  simp [reSubC13, h]

/-- a set of strings as the Python value (latest first) -/
def setOfC13 (seen : List Str) : PVal := setObjC13 (seen.map .str)

theorem pySetNewC13_eq : pySetNewC13 = setOfC13 [] := rfl

theorem all_str_mapC13 (seen : List Str) :
    (seen.map PVal.str).all isStrKindC13 = true := by
  simp [isStrKindC13]

theorem any_isStrValC13 (b : Str) (seen : List Str) : (seen.map PVal.str).any (isStrValC13 b) = seen.contains b := by
  induction seen with
  | nil => rfl
  | cons a t ih =>
    simp only [List.map_cons, List.any_cons, ih, isStrValC13, List.contains_cons]
    rw [Bool.beq_comm]

theorem pyInC13_set (b : Str) (seen : List Str) : pyInC13 (.str b) (setOfC13 seen) = .ok (.bool (seen.contains b)) := by
  simp only [pyInC13, setOfC13, setObjC13, all_str_mapC13, if_true, any_isStrValC13, pure_eq_ok]

theorem pySetAddC13_set (b : Str) (seen : List Str) (h : seen.contains b = false) :
    pySetAddC13 (setOfC13 seen) (.str b) = .ok (setOfC13 (b :: seen)) := by
  simp only [pySetAddC13, setOfC13, setObjC13, all_str_mapC13, if_true, any_isStrValC13, h, Bool.false_eq_true, if_false,
    pure_eq_ok, List.map_cons]

theorem pyListAppendC13_list (l : List PVal) (v : PVal) : pyListAppendC13 (.list l) v = .ok (.list (l ++ [v])) := rfl

theorem pyListExtendC13_list (l m : List PVal) : pyListExtendC13 (.list l) (.list m) = .ok (.list (l ++ m)) := rfl

/-- `HTMLDependency.__init__` on a new instance, arguments in the order the keyword call binds them -/
def newDepC13 (G : Globals) (a : List PVal) : PyM PVal :=
  match a with
  | [a1, a2, a3, a4, a5, a6, a7, a8] => HTMLDependency_init G (PVal.obj "HTMLDependency" []) a1 a2 a3 a4 a5 a6 a7 a8
  | _ => throw PyErr.unsupported

/-- the keyword parameters of `HTMLDependency.__init__` without / with a default -/
def depReqC13 : List Str := [['n', 'a', 'm', 'e'], ['v', 'e', 'r', 's', 'i', 'o', 'n']]
def depOptC13 : List (Str × PVal) :=
  [(['s', 'o', 'u', 'r', 'c', 'e'], PVal.none), (['s', 'c', 'r', 'i', 'p', 't'], PVal.none),
   (['s', 't', 'y', 'l', 'e', 's', 'h', 'e', 'e', 't'], PVal.none), (['a', 'l', 'l', '_', 'f', 'i', 'l', 'e', 's'], PVal.bool false),
   (['m', 'e', 't', 'a'], PVal.none), (['h', 'e', 'a', 'd'], PVal.none)]

/-- `HTMLDependency(**json.loads(body))` -/
def rebuildC13 (G : Globals) (b : Str) : PyM PVal :=
  pyJsonLoadsC13 (.str b) >>= pyCallKwC13 (newDepC13 G) depReqC13 depOptC13

/-- the shape of `recoverAll` -/
def rebuildAllC13 (R : Str → PyM PVal) : List Str → PyM (List PVal)
  | [] => .ok []
  | b :: r =>
    match R b with
    | .error e => .error e
    | .ok d =>
      match rebuildAllC13 R r with
      | .error e => .error e
      | .ok ds => .ok (d :: ds)

/-- rule for the `seen_deps` loop of `_static_extract_serialized_html_deps`, whatever its body and whatever other locals
    its state carries (`getSeen` / `getDeps` read the set and the list out of the state); `R`: what a pass does with a
    body not seen before; `k`: the code after the loop -/
theorem extract_loop_kC13 {σ β : Type} (getSeen getDeps : σ → PVal) (R : Str → PyM PVal) (bodies : List Str)
    (f : PVal → σ → PyM (ForInStep σ))
    (hstep : ∀ (b : Str) (s : σ) (seen : List Str) (acc : List PVal), getSeen s = setOfC13 seen → getDeps s = .list acc →
      (seen.contains b = true → ∃ s', f (.str b) s = .ok (.yield s') ∧ getSeen s' = setOfC13 seen ∧ getDeps s' = .list acc)
      ∧ (seen.contains b = false →
            (∀ e, R b = .error e → f (.str b) s = .error e)
            ∧ (∀ d, R b = .ok d → ∃ s', f (.str b) s = .ok (.yield s')
                ∧ getSeen s' = setOfC13 (b :: seen) ∧ getDeps s' = .list (acc ++ [d]))))
    (k : σ → PyM β) (r : List PVal → PyM β) (hk : ∀ s ds, getDeps s = .list ds → k s = r ds)
    (init : σ) (seen : List Str) (acc : List PVal) (h1 : getSeen init = setOfC13 seen) (h2 : getDeps init = .list acc) :
    (forIn (bodies.map PVal.str) init f >>= k)
      = (rebuildAllC13 R (dedupGo seen bodies) >>= fun ds => r (acc ++ ds)) := by
  induction bodies generalizing init seen acc with
  | nil =>
    simp only [List.map_nil, List.forIn_nil, pure_eq_ok, ok_bind, dedupGo, rebuildAllC13, List.append_nil]
    exact hk init acc h2
  | cons b t ih =>
    simp only [List.map_cons, List.forIn_cons, dedupGo]
    have hs := hstep b init seen acc h1 h2
    cases hc : seen.contains b with
    | true =>
      obtain ⟨s', e1, e2, e3⟩ := hs.1 hc
      simp only [e1, ok_bind, if_true]
      exact ih s' seen acc e2 e3
    | false =>
      obtain ⟨e1, e2⟩ := hs.2 hc
      simp only [Bool.false_eq_true, if_false, rebuildAllC13]
      cases hR : R b with
      | error e => simp only [e1 e hR, error_bind]
      | ok d =>
        obtain ⟨s', e3, e4, e5⟩ := e2 d hR
        simp only [e3, ok_bind]
        rw [ih s' (b :: seen) (acc ++ [d]) e4 e5]
        cases rebuildAllC13 R (dedupGo (b :: seen) t) with
        | error e => simp only [error_bind]
        | ok ds => simp only [ok_bind, List.append_assoc, List.cons_append, List.nil_append]

/-- two steps in a row against their composition: the failure case … -/
theorem bind2_errorC13 {α β γ : Type} {x : PyM α} {g : α → PyM β} {k : α → β → PyM γ} {e : PyErr}
    (h : (x >>= g) = .error e) : (x >>= fun a => g a >>= fun d => k a d) = .error e := by
  cases x with
  | error e' => simp at h; subst h; rfl
  | ok a =>
    simp only [ok_bind] at h ⊢
    rw [h]; rfl

/-- … and the success case -/
theorem bind2_okC13 {α β σ : Type} {x : PyM α} {g : α → PyM β} {k : α → β → PyM (ForInStep σ)} {d : β} {Q : σ → Prop}
    (h : (x >>= g) = .ok d) (hp : ∀ a, ∃ s', k a d = .ok (.yield s') ∧ Q s') :
    ∃ s', (x >>= fun a => g a >>= fun d => k a d) = .ok (.yield s') ∧ Q s' := by
  cases x with
  | error e' => simp at h
  | ok a =>
    simp only [ok_bind] at h ⊢
    rw [h]; exact hp a

/-- the keys of a dict are pairwise distinct (what every Python dict satisfies) -/
def kvNodupC13 (d : List (Str × Str)) : Prop := (d.map Prod.fst).Nodup

def SDepNodupC13 (d : SDep) : Prop :=
  (∀ x ∈ d.info.script, kvNodupC13 x) ∧ (∀ x ∈ d.info.stylesheet, kvNodupC13 x) ∧ (∀ x ∈ d.info.metas, kvNodupC13 x)

theorem dictSet_newC13 (k : Str) (v : PVal) (acc : List (Str × PVal)) (h : ∀ a ∈ acc, a.1 ≠ k) :
    Py.dictSet k v acc = acc ++ [(k, v)] := by
  induction acc with
  | nil => rfl
  | cons x t ih =>
    obtain ⟨k', v'⟩ := x
    have h1 : k' ≠ k := h (k', v') (by simp)
    simp only [Py.dictSet, h1, if_false, List.cons_append]
    rw [ih (fun a ha => h a (by simp [ha]))]

theorem embJMems_kvObjC13 (d : List (Str × Str)) (acc : List (Str × PVal)) (hnd : kvNodupC13 d)
    (hdis : ∀ kv ∈ d, ∀ a ∈ acc, a.1 ≠ kv.1) :
    embJMemsC13 (kvObj d) acc = acc ++ d.map (fun kv => (kv.1, PVal.str kv.2)) := by
  induction d generalizing acc with
  | nil => simp [kvObj, embJMemsC13]
  | cons x t ih =>
    obtain ⟨k, v⟩ := x
    simp only [kvNodupC13, List.map_cons, List.nodup_cons] at hnd
    simp only [kvObj, embJMemsC13, embJsonC13]
    rw [dictSet_newC13 k (.str v) acc (fun a ha => hdis (k, v) (by simp) a ha)]
    rw [ih _ hnd.2]
    · simp
    · intro kv hkv a ha
      simp only [List.mem_append, List.mem_singleton] at ha
      rcases ha with ha | rfl
      · exact hdis kv (by simp [hkv]) a ha
      · intro heq
        exact hnd.1 (by simp only [List.mem_map]; exact ⟨kv, hkv, heq.symm⟩)

theorem embJson_kvObjC13 (d : List (Str × Str)) (hnd : kvNodupC13 d) :
    embJsonC13 (.obj (kvObj d)) = embKvsC10b d := by
  simp only [embJsonC13, embKvsC10b]
  rw [embJMems_kvObjC13 d [] hnd (by simp)]
  simp

theorem embJList_kvArrC13 (l : List (List (Str × Str))) (hnd : ∀ x ∈ l, kvNodupC13 x) :
    embJListC13 (kvArr l) = l.map embKvsC10b := by
  induction l with
  | nil => simp [kvArr, embJListC13]
  | cons x t ih =>
    simp only [kvArr, embJListC13, List.map_cons]
    rw [embJson_kvObjC13 x (hnd x (by simp)), ih (fun y hy => hnd y (by simp [hy]))]

theorem embJson_kvArrC13 (l : List (List (Str × Str))) (hnd : ∀ x ∈ l, kvNodupC13 x) :
    embJsonC13 (.arr (kvArr l)) = (ItemsV.many (l.map ItemV.dict)).emb := by
  simp only [embJsonC13, embJList_kvArrC13 l hnd, ItemsV.emb, List.map_map]
  rfl

/-- the `source` of a record as the `source=` argument -/
def sourceVC13 : DepSource → SourceV
  | .none => .none
  | .href h => .dict [(kHref, h)]
  | .subdir Option.none d _ => .dict [(kSubdir, d)]
  | .subdir (some p) d _ => .dict [(kSubdir, d), (kPackage, p)]

theorem embJson_srcJsonC13 (s : DepSource) : embJsonC13 (srcJson s) = (sourceVC13 s).emb := by
  cases s with
  | none => rfl
  | href h => rfl
  | subdir p d a =>
    cases p with
    | none => rfl
    | some p =>
      simp only [srcJson, embJsonC13, embJMemsC13, sourceVC13, SourceV.emb, embKvsC10b, Py.dictSet, List.map_cons, List.map_nil]
      have : kSubdir ≠ kPackage := by decide
      simp [this]

/-- the `head` of a record as the `head=` argument -/
def headVC13 : Option Str → HeadV
  | Option.none => .none
  | some s => .text s

theorem embJson_optStrC13 (h : Option Str) : embJsonC13 (optStrJson h) = (headVC13 h).emb := by
  cases h <;> rfl

theorem callKw_recordC13 (F : List PVal → PyM PVal) (v1 v2 v3 v4 v5 v6 v7 v8 : PVal) :
    pyCallKwC13 F depReqC13 depOptC13
        (.dict [(kName, v1), (kVersion, v2), (kSource, v3), (kScript, v4), (kStylesheet, v5), (kMeta, v6), (kAllFiles, v7), (kHead, v8)])
      = F [v1, v2, v3, v4, v5, v7, v6, v8] := by
  rfl

theorem embJson_depToJsonC13 (d : SDep) (hnd : SDepNodupC13 d) :
    embJsonC13 (depToJson d)
      = .dict [(kName, .str d.info.name), (kVersion, .str d.info.version), (kSource, (sourceVC13 d.info.source).emb),
          (kScript, (ItemsV.many (d.info.script.map ItemV.dict)).emb), (kStylesheet, (ItemsV.many (d.info.stylesheet.map ItemV.dict)).emb),
          (kMeta, (ItemsV.many (d.info.metas.map ItemV.dict)).emb), (kAllFiles, .bool d.info.allFiles), (kHead, (headVC13 d.head).emb)] := by
  have e : ∀ (v1 v2 v3 v4 v5 v6 v7 v8 : Json),
      embJsonC13 (.obj (.cons kName v1 (.cons kVersion v2 (.cons kSource v3 (.cons kScript v4 (.cons kStylesheet v5
        (.cons kMeta v6 (.cons kAllFiles v7 (.cons kHead v8 .nil)))))))))
      = .dict [(kName, embJsonC13 v1), (kVersion, embJsonC13 v2), (kSource, embJsonC13 v3), (kScript, embJsonC13 v4),
          (kStylesheet, embJsonC13 v5), (kMeta, embJsonC13 v6), (kAllFiles, embJsonC13 v7), (kHead, embJsonC13 v8)] := by
    intro v1 v2 v3 v4 v5 v6 v7 v8
    rfl
  rw [depToJson, e, embJson_srcJsonC13, embJson_kvArrC13 _ hnd.1, embJson_kvArrC13 _ hnd.2.1, embJson_kvArrC13 _ hnd.2.2,
    embJson_optStrC13]
  rfl

/-- the arguments `HTMLDependency(**record)` passes for the record of `d`, `packaging` accepting the version with rank `rk` -/
def depArgVC13 (rk : Nat) (d : SDep) : DepArgV :=
  { name := d.info.name, version := d.info.version, verOk := true, vrank := rk, source := sourceVC13 d.info.source,
    script := .many (d.info.script.map ItemV.dict), stylesheet := .many (d.info.stylesheet.map ItemV.dict),
    metas := .many (d.info.metas.map ItemV.dict), allFiles := d.info.allFiles }

theorem validateDicts_allC13 (req : List Str) (l : List (List (Str × Str)))
    (h : ∀ x ∈ l, ∀ k ∈ req, hasKey k x = true) : validateDicts req (l.map PyItem.dict) = .ok l := by
  have hck : ∀ (x : List (Str × Str)) (r : List Str), (∀ k ∈ r, hasKey k x = true) → checkKeys x r = .ok () := by
    intro x r
    induction r with
    | nil => intro _; rfl
    | cons k t ih =>
      intro hk
      simp only [checkKeys, hk k (by simp), if_true]
      exact ih (fun k' hk' => hk k' (by simp [hk']))
  induction l with
  | nil => rfl
  | cons x t ih =>
    simp only [List.map_cons, validateDicts, validateDict, hck x req (h x (by simp)), ih (fun y hy => h y (by simp [hy]))]

theorem checkSource_sourceVC13 (s : DepSource) : checkSource (sourceVC13 s).toArg = .ok s.forgetAbs := by
  cases s with
  | none => rfl
  | href h => rfl
  | subdir p d a => cases p <;> rfl

theorem map_addRel_presentC13 (l : List (List (Str × Str))) (h : ∀ x ∈ l, hasKey ['r','e','l'] x = true) : l.map addRel = l := by
  induction l with
  | nil => rfl
  | cons x t ih =>
    simp only [List.map_cons, addRel_presentC10b x (h x (by simp)), ih (fun y hy => h y (by simp [hy]))]

theorem depInit_recordC13 (rk : Nat) (d : SDep) (hw : d.wellFormed = true) :
    depInit (depArgVC13 rk d).toArg
      = .ok { d.info with vrank := rk, source := d.info.source.forgetAbs } := by
  simp only [SDep.wellFormed, Bool.and_eq_true, List.all_eq_true] at hw
  obtain ⟨⟨hsc, hst⟩, hme⟩ := hw
  have e1 : validateDicts reqScript (d.info.script.map PyItem.dict) = .ok d.info.script :=
    validateDicts_allC13 _ _ (fun x hx k hk => by
      simp only [reqScript, List.mem_singleton] at hk; subst hk; exact hsc x hx)
  have e2 : validateDicts reqStylesheet (d.info.stylesheet.map PyItem.dict) = .ok d.info.stylesheet :=
    validateDicts_allC13 _ _ (fun x hx k hk => by
      simp only [reqStylesheet, List.mem_singleton] at hk; subst hk; exact (hst x hx).1)
  have e3 : validateDicts reqMeta (d.info.metas.map PyItem.dict) = .ok d.info.metas :=
    validateDicts_allC13 _ _ (fun x hx k hk => by
      simp only [reqMeta, List.mem_cons, List.not_mem_nil, or_false] at hk
      rcases hk with rfl | rfl
      · exact (hme x hx).1
      · exact (hme x hx).2)
  have e4 : d.info.stylesheet.map addRel = d.info.stylesheet := map_addRel_presentC13 _ (fun x hx => (hst x hx).2)
  simp only [depInit, depArgVC13, DepArgV.toArg, ItemsV.toArg, List.map_map, Bool.not_true, Bool.false_eq_true, if_false,
    checkSource_sourceVC13, normItems]
  have m : ∀ l : List (List (Str × Str)), List.map (ItemV.toItem ∘ ItemV.dict) l = l.map PyItem.dict := fun l => rfl
  simp only [m, e1, e2, e3, e4]

/-- a dependency rebuilt from its record, as the Python object (attributes in the order of the model's description):
    `source` is the dict the record holds, the version carries the rank `packaging` gives it, `head` is
    `TagList(HTML(markup))` -/
def embSDepC13 (rk : Nat) (d : SDep) : PVal :=
  embDepObjC10b "HTMLDependency" (sourceVC13 d.info.source).emb { d.info with vrank := rk }
    (match d.head with
     | Option.none => PVal.none
     | some s => tagListObjC10b [.html s])

theorem embSDep_normC13 (rk : Nat) (d : SDep) : embSDepC13 rk d.norm = embSDepC13 rk d := by
  have : sourceVC13 d.info.source.forgetAbs = sourceVC13 d.info.source := by
    cases hs : d.info.source with
    | none => rfl
    | href h => rfl
    | subdir p dd a => cases p <;> rfl
  simp only [embSDepC13, SDep.norm, this, embDepObjC10b]

theorem norm_versionC13 (d : SDep) : d.norm.info.version = d.info.version := rfl

/-- the answer `(text, deps)` with every dependency restricted to the attributes the model describes (`projDepC10b`: the
    order in which `__init__` assigns them is not part of what is stated) -/
def projExtractC13 : PVal → PVal
  | .tuple [t, .list ds] => .tuple [t, .list (ds.map projDepC10b)]
  | v => v

def embExtractC13 (e : SDep → PVal) (p : Str × List SDep) : PVal := .tuple [.str p.1, .list (p.2.map e)]

theorem rebuildAll_recoverAllC13 (R : Str → PyM PVal) (e : SDep → PVal) (l : List Str)
    (hrec : ∀ b ∈ l, projDepC10b <$> R b = embRes e (recover b)) :
    (∃ er, recoverAll l = .error er ∧ rebuildAllC13 R l = .error (embErr er))
      ∨ (∃ ds vs, recoverAll l = .ok ds ∧ rebuildAllC13 R l = .ok vs ∧ vs.map projDepC10b = ds.map e) := by
  induction l with
  | nil => exact .inr ⟨[], [], rfl, rfl, rfl⟩
  | cons b t ih =>
    have hb := hrec b (by simp)
    simp only [rebuildAllC13, recoverAll]
    cases hr : recover b <;> cases hR : R b <;> rw [hr, hR] at hb <;> simp [embRes] at hb
    · exact .inl ⟨_, rfl, by rw [hb]⟩
    · rcases ih (fun x hx => hrec x (by simp [hx])) with ⟨er, h1, h2⟩ | ⟨ds, vs, h1, h2, h3⟩
      · exact .inl ⟨er, by rw [h1], by rw [h2]⟩
      · exact .inr ⟨_ :: ds, _ :: vs, by rw [h1], by rw [h2], by simp [hb, h3]⟩

theorem mem_dedupGoC13 (seen l : List Str) (b : Str) (h : b ∈ dedupGo seen l) : b ∈ l := by
  induction l generalizing seen with
  | nil => simp [dedupGo] at h
  | cons a r ih =>
    simp only [dedupGo] at h
    split at h
    · exact List.mem_cons_of_mem _ (ih seen h)
    · rcases List.mem_cons.mp h with rfl | h
      · simp
      · exact List.mem_cons_of_mem _ (ih _ h)

/-- an `HTMLTextDocument` (or subclass `cls`) instance with the three attributes the constructor sets -/
def textDocObjC13 (cls : String) (html : Str) (deps : List PVal) (ph : PVal) : PVal :=
  .obj cls [("_html", .str html), ("_deps", .list deps), ("_deps_replace_pattern", ph)]

/-- the `deps=` argument -/
def optListC13 : Option (List PVal) → PVal
  | Option.none => PVal.none
  | some l => .list l

/-- the `deps_replace_pattern=` argument -/
def optStrC13 : Option Str → PVal
  | Option.none => PVal.none
  | some p => .str p

/-- the attributes of an `HTMLTextDocument` -/
def docFieldNamesC13 : List String := ["_html", "_deps", "_deps_replace_pattern"]

/-- an instance restricted to these attributes, in this order: the order in which `__init__` makes its assignments (the
    order of `__dict__`) is not part of what the tie states -/
def normDocC13 : PVal → PVal
  | .obj c fs => .obj c (docFieldNamesC13.filterMap fun k => (fieldGet? k fs).map fun v => (k, v))
  | v => v

def projDocCoreC13 : PVal → PVal
  | .obj cls [("_html", t), ("_deps", .list ds), ("_deps_replace_pattern", ph)] =>
    .obj cls [("_html", t), ("_deps", .list (ds.map projDepC10b)), ("_deps_replace_pattern", ph)]
  | w => w

/-- … and every dependency restricted to the attributes the model describes -/
def projDocC13 (v : PVal) : PVal := projDocCoreC13 (normDocC13 v)

theorem projDoc_mapC13 (x : PyM PVal) : projDocC13 <$> x = projDocCoreC13 <$> (normDocC13 <$> x) := by
  cases x <;> rfl

theorem normDoc_textDocObjC13 (cls : String) (html : Str) (deps : List PVal) (ph : PVal) :
    normDocC13 (textDocObjC13 cls html deps ph) = textDocObjC13 cls html deps ph := by
  rfl

theorem projDep_embSDepC13 (rk : Nat) (d : SDep) : projDepC10b (embSDepC13 rk d) = embSDepC13 rk d := by
  exact rfl

theorem jsonOfKvs_kvsC13 (d : List (Str × Str)) :
    jsonOfKvsC13 (d.map fun kv => (kv.1, PVal.str kv.2)) = .ok (kvObj d) := by
  induction d with
  | nil => rfl
  | cons x t ih =>
    obtain ⟨k, v⟩ := x
    simp only [List.map_cons, jsonOfKvsC13, jsonOfPValC13, pure_eq_ok, ok_bind, ih, kvObj]

theorem jsonOfPVal_kvsC13 (d : List (Str × Str)) : jsonOfPValC13 (embKvsC10b d) = .ok (.obj (kvObj d)) := by
  simp only [embKvsC10b, jsonOfPValC13, jsonOfKvs_kvsC13, ok_bind, pure_eq_ok]

theorem jsonOfList_dictsC13 (l : List (List (Str × Str))) : jsonOfListC13 (l.map embKvsC10b) = .ok (kvArr l) := by
  induction l with
  | nil => rfl
  | cons x t ih => simp only [List.map_cons, jsonOfListC13, jsonOfPVal_kvsC13, ih, ok_bind, pure_eq_ok, kvArr]

theorem jsonOfPVal_dictsC13 (l : List (List (Str × Str))) : jsonOfPValC13 (embDictsC10b l) = .ok (.arr (kvArr l)) := by
  simp only [embDictsC10b, jsonOfPValC13, jsonOfList_dictsC13, ok_bind, pure_eq_ok]

theorem jsonOfPVal_sourceC13 (s : DepSource) : jsonOfPValC13 (sourceVC13 s).emb = .ok (srcJson s) := by
  cases s with
  | none => rfl
  | href h => rfl
  | subdir p d a => cases p <;> rfl

/-- the `indent=` argument -/
def optNatC13 : Option Nat → PVal
  | Option.none => PVal.none
  | some n => .int n

theorem jsonIndent_optNatC13 (i : Option Nat) : jsonIndentC13 (optNatC13 i) = .ok i := by
  cases i with
  | none => rfl
  | some n => simp [optNatC13, jsonIndentC13]

/-- `json.dumps(res, indent=indent)` for the `res` dict of `serialize_to_script_json` is the model's print of the record -/
theorem jsonDumps_recordC13 (info : DepInfo) (head : Option Str) (ind : Option Nat) :
    pyJsonDumpsC13
        (.dict [(kName, .str info.name), (kVersion, .str info.version), (kSource, (sourceVC13 info.source).emb),
          (kScript, embDictsC10b info.script), (kStylesheet, embDictsC10b info.stylesheet), (kMeta, embDictsC10b info.metas),
          (kAllFiles, .bool info.allFiles), (kHead, optStrC13 head)])
        (optNatC13 ind)
      = .ok (.str (jsonPrint ind (depToJson { info := info, head := head }))) := by
  have hh : jsonOfPValC13 (optStrC13 head) = .ok (optStrJson head) := by
    cases head <;> rfl
  simp only [pyJsonDumpsC13, jsonOfPValC13, jsonOfKvsC13, jsonOfPVal_sourceC13, jsonOfPVal_dictsC13, hh, jsonIndent_optNatC13,
    ok_bind, pure_eq_ok, depToJson]

theorem mem_keys_dictSetC13 (k : Str) (v : PVal) (acc : List (Str × PVal)) (x : Str) :
    x ∈ (Py.dictSet k v acc).map Prod.fst ↔ x = k ∨ x ∈ acc.map Prod.fst := by
  induction acc with
  | nil => simp [Py.dictSet]
  | cons a t ih => by_cases h : a.1 = k <;> simp [Py.dictSet, h, ih, or_left_comm]

theorem mem_keys_embJMemsC13 : (ms : JMems) → (acc : List (Str × PVal)) → (x : Str) →
    (x ∈ (embJMemsC13 ms acc).map Prod.fst ↔ x ∈ acc.map Prod.fst ∨ x ∈ ms.keys)
  | .nil, acc, x => by simp [embJMemsC13, JMems.keys]
  | .cons k v t, acc, x => by
    simp only [embJMemsC13, JMems.keys, List.mem_cons, mem_keys_embJMemsC13 t, mem_keys_dictSetC13, or_assoc, or_left_comm]

theorem dictGet?_isSome_memC13 (k : Str) (kvs : List (Str × PVal)) : (Py.dictGet? k kvs).isSome = true ↔ k ∈ kvs.map Prod.fst := by
  induction kvs with
  | nil => simp [Py.dictGet?]
  | cons a t ih =>
    by_cases h : a.1 = k
    · simp [Py.dictGet?, h]
    · simp [Py.dictGet?, h, ih, Ne.symm h]

theorem get?_none_iffC13 : (ms : JMems) → (k : Str) → (ms.get? k = none ↔ k ∉ ms.keys)
  | .nil, k => by simp [JMems.get?, JMems.keys]
  | .cons k' v t, k => by
    have ih := get?_none_iffC13 t k
    simp only [JMems.get?, JMems.keys, List.mem_cons, not_or]
    cases ht : t.get? k with
    | some x => simp [show k ∈ t.keys from Classical.not_not.mp (fun hh => by rw [ih.mpr hh] at ht; cases ht)]
    | none =>
      by_cases h : k' = k
      · simp [h]
      · simp [h, ih.mp ht, Ne.symm h]

theorem dictGet?_embJMems_noneC13 (ms : JMems) (k : Str) (h : ms.get? k = none) :
    (Py.dictGet? k (embJMemsC13 ms [])).isNone = true := by
  cases hd : Py.dictGet? k (embJMemsC13 ms []) with
  | none => rfl
  | some v =>
    have hm := (mem_keys_embJMemsC13 ms [] k).mp ((dictGet?_isSome_memC13 _ _).mp (by rw [hd]; rfl))
    exact absurd hm (by simpa using (get?_none_iffC13 ms k).mp h)

/-- the parameter names, both ways of writing them -/
theorem okKey_depKeysC13 (k : Str) :
    (depReqC13.contains k || depOptC13.any (fun p => p.1 == k)) = depKeys.contains k := by
  have h : depKeys = depReqC13 ++ depOptC13.map Prod.fst := rfl
  rw [h, List.contains_eq_any_beq, List.contains_eq_any_beq, List.any_append, List.any_map]
  simp only [Function.comp_def, Bool.beq_comm (a := k)]

end HtmlVerif.SrcTie
