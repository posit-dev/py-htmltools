/-
Character references (Spec/Refs.lean): what the two per-character escape maps write (`EscOf`, `escRows`) decodes to the original
character, contains no delimiter, and every `&` in it starts one of the references.
-/
import HtmlVerif.Spec.Refs

namespace HtmlVerif

theorem decodeRefs_cons_ne (c : Char) (cs : Str) (h : c ≠ '&') : decodeCharRefs (c :: cs) = c :: decodeCharRefs cs := by
  rw [decodeCharRefs]; simp [h]

/-- the references the two per-character maps write: the character and its reference without the `&` -/
def escRows : List (Char × Str) :=
  [('&', ['a', 'm', 'p', ';']), ('<', ['l', 't', ';']), ('>', ['g', 't', ';']), ('"', ['q', 'u', 'o', 't', ';']),
   ('\'', ['a', 'p', 'o', 's', ';']), ('\r', ['#', '1', '3', ';']), ('\n', ['#', '1', '0', ';'])]

def EscOf (specials : List Char) (c : Char) (out : Str) : Prop :=
  (c ∉ specials ∧ out = [c]) ∨ (c ∈ specials ∧ ∃ r, (c, r) ∈ escRows ∧ out = '&' :: r)

theorem escTextChar_escOf (c : Char) : EscOf textSpecials c (escTextChar c) := by
  by_cases h : c ∈ textSpecials
  · simp only [textSpecials, List.mem_cons, List.not_mem_nil, or_false] at h
    rcases h with rfl | rfl | rfl <;> exact .inr ⟨by decide, _, by decide, rfl⟩
  · refine .inl ⟨h, ?_⟩
    simp only [textSpecials, List.mem_cons, List.not_mem_nil, or_false, not_or] at h
    simp [escTextChar, h]

theorem escAttrChar_escOf (c : Char) : EscOf attrSpecials c (escAttrChar c) := by
  by_cases h : c ∈ attrSpecials
  · simp only [attrSpecials, List.mem_cons, List.not_mem_nil, or_false] at h
    rcases h with rfl | rfl | rfl | rfl | rfl | rfl | rfl <;> exact .inr ⟨by decide, _, by decide, rfl⟩
  · refine .inl ⟨h, ?_⟩
    simp only [attrSpecials, List.mem_cons, List.not_mem_nil, or_false, not_or] at h
    simp [escAttrChar, h]

theorem crMatchRef_row : ∀ kv ∈ escRows, ∀ rest, crMatchRef (kv.2 ++ rest) = some (kv.1, kv.2.length) := by
  intro kv hkv rest
  simp only [escRows, List.mem_cons, List.not_mem_nil, or_false] at hkv
  rcases hkv with rfl | rfl | rfl | rfl | rfl | rfl | rfl <;> rfl

section escOf
variable {sp : List Char} {c : Char} {out : Str} (h : EscOf sp c out) (hamp : '&' ∈ sp)
include h hamp

theorem decode_escOf (rest : Str) : decodeCharRefs (out ++ rest) = c :: decodeCharRefs rest := by
  obtain ⟨hc, rfl⟩ | ⟨-, r, hr, rfl⟩ := h
  · exact decodeRefs_cons_ne c _ fun e => hc (e ▸ hamp)
  · rw [List.cons_append, decodeCharRefs, if_pos rfl, crMatchRef_row _ hr]
    simp

omit hamp in
theorem validEscape_escOf (cs rest : Str) : validEscape sp (c :: cs) (out ++ rest) = validEscape sp cs rest := by
  obtain ⟨hc, rfl⟩ | ⟨hc, r, hr, rfl⟩ := h
  · simp [validEscape, hc]
  · simp [validEscape, hc, crMatchAny, crMatchRef_row _ hr]

omit hamp in
theorem escOf_no (d : Char) (hd : d ∈ sp) (hne : d ≠ '&') (hsp : ∀ x ∈ sp, x ∈ attrSpecials) : d ∉ out := by
  obtain ⟨hc, rfl⟩ | ⟨-, r, hr, rfl⟩ := h
  · simpa using fun e : d = c => hc (e ▸ hd)
  · have : ∀ kv ∈ escRows, ∀ x ∈ attrSpecials, x ∉ kv.2 := by decide +kernel
    simpa [hne] using this _ hr d (hsp d hd)

theorem ampsOk_escOf (refs : List Str) (hrefs : ∀ kv ∈ escRows, kv.1 ∈ sp → kv.2 ∈ refs) (rest : Str) :
    ampsOk refs (out ++ rest) = ampsOk refs rest := by
  have hno : ∀ r : Str, '&' ∉ r → ampsOk refs (r ++ rest) = ampsOk refs rest := by
    intro r hr
    induction r with
    | nil => rfl
    | cons x r ih =>
      simp only [List.mem_cons, not_or] at hr
      simp [ampsOk, ih hr.2, Ne.symm hr.1]
  obtain ⟨hc, rfl⟩ | ⟨hc, r, hr, rfl⟩ := h
  · exact hno _ (by simpa using fun e : '&' = c => hc (e ▸ hamp))
  · have hamp' : ∀ kv ∈ escRows, '&' ∉ kv.2 := by decide +kernel
    have hany : refs.any (fun x => x.isPrefixOf (r ++ rest)) = true :=
      List.any_eq_true.mpr ⟨r, hrefs _ hr hc, List.isPrefixOf_iff_prefix.mpr (List.prefix_append r rest)⟩
    rw [List.cons_append, ampsOk, hno r (hamp' _ hr), hany]
    rfl

end escOf

/-! ### whole strings: any per-character map of that kind -/

section strings
variable {sp : List Char} {f : Char → Str} (hf : ∀ c, EscOf sp c (f c))
include hf

theorem decode_flatMap (hamp : '&' ∈ sp) (s : Str) : decodeCharRefs (s.flatMap f) = s := by
  induction s with
  | nil => simp [decodeCharRefs]
  | cons c cs ih => rw [List.flatMap_cons, decode_escOf (hf c) hamp, ih]

theorem validEscape_flatMap (s : Str) : validEscape sp s (s.flatMap f) = true := by
  induction s with
  | nil => rfl
  | cons c cs ih => rw [List.flatMap_cons, validEscape_escOf (hf c), ih]

theorem inert_flatMap (s : Str) (d : Char) (hd : d ∈ sp) (hne : d ≠ '&') (hsp : ∀ x ∈ sp, x ∈ attrSpecials) :
    d ∉ s.flatMap f := by
  simp only [List.mem_flatMap, not_exists, not_and]
  exact fun c _ => escOf_no (hf c) d hd hne hsp

theorem ampsOk_flatMap (hamp : '&' ∈ sp) (refs : List Str) (hrefs : ∀ kv ∈ escRows, kv.1 ∈ sp → kv.2 ∈ refs)
    (s : Str) : ampsOk refs (s.flatMap f) = true := by
  induction s with
  | nil => rfl
  | cons c cs ih => rw [List.flatMap_cons, ampsOk_escOf (hf c) hamp refs hrefs, ih]

end strings

theorem decode_escText (s : Str) : decodeCharRefs (s.flatMap escTextChar) = s :=
  decode_flatMap escTextChar_escOf (by decide) s

theorem decode_escAttr (s : Str) : decodeCharRefs (s.flatMap escAttrChar) = s :=
  decode_flatMap escAttrChar_escOf (by decide) s

theorem escText_inert (s : Str) (d : Char) (hd : d = '<' ∨ d = '>') : d ∉ s.flatMap escTextChar := by
  refine inert_flatMap escTextChar_escOf s d ?_ ?_ (by decide) <;> rcases hd with rfl | rfl <;> decide

theorem escAttr_inert (s : Str) (d : Char)
    (hd : d = '<' ∨ d = '>' ∨ d = '"' ∨ d = '\'' ∨ d = '\r' ∨ d = '\n') : d ∉ s.flatMap escAttrChar := by
  refine inert_flatMap escAttrChar_escOf s d ?_ ?_ (fun _ h => h) <;>
    rcases hd with rfl | rfl | rfl | rfl | rfl | rfl <;> decide

theorem escText_ampsOk (s : Str) : ampsOk textRefs (s.flatMap escTextChar) = true :=
  ampsOk_flatMap escTextChar_escOf (by decide) _ (by decide) s

theorem escAttr_ampsOk (s : Str) : ampsOk attrRefs (s.flatMap escAttrChar) = true :=
  ampsOk_flatMap escAttrChar_escOf (by decide) _ (by decide) s

theorem validEscape_text (s : Str) : validEscape textSpecials s (s.flatMap escTextChar) = true :=
  validEscape_flatMap escTextChar_escOf s

theorem validEscape_attr (s : Str) : validEscape attrSpecials s (s.flatMap escAttrChar) = true :=
  validEscape_flatMap escAttrChar_escOf s

end HtmlVerif
