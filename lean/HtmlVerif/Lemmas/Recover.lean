/-
`HTMLDependency(**record)` applied to the record of a dependency gives the dependency back (`C13_recover_equal`).
-/
import HtmlVerif.Spec.SerDep

namespace HtmlVerif

theorem kvOfMems_kvObj (d : List (Str × Str)) : kvOfMems (kvObj d) = .ok d := by
  induction d with
  | nil => rfl
  | cons kv r ih => obtain ⟨k, v⟩ := kv; simp [kvObj, kvOfMems, jsonStr?, ih]

theorem kvsOfList_kvArr (l : List (List (Str × Str))) : kvsOfList (kvArr l) = .ok l := by
  induction l with
  | nil => rfl
  | cons d r ih => simp [kvArr, kvsOfList, kvOfMems_kvObj, ih]

theorem dictList_kvArr (req : List Str) (l : List (List (Str × Str)))
    (h : ∀ d ∈ l, ∀ k ∈ req, sdHasKey k d = true) : dictList req (some (.arr (kvArr l))) = .ok l := by
  have h' : (l.all fun d => req.all fun k => d.any fun kv => kv.1 == k) = true := by
    simpa only [List.all_eq_true, sdHasKey] using h
  simp [dictList, kvsOfList_kvArr, h']

theorem addRel_id (d : List (Str × Str)) (h : sdHasKey kRel d = true) : jsonAddRel d = d :=
  if_pos h

theorem map_addRel_id (l : List (List (Str × Str))) (h : ∀ d ∈ l, sdHasKey kRel d = true) :
    l.map jsonAddRel = l :=
  (List.map_congr_left fun d hd => addRel_id d (h d hd)).trans (List.map_id l)

theorem srcOfJson_srcJson (s : DepSource) : srcOfJson (some (srcJson s)) = .ok s.forgetAbs := by
  rcases s with _ | h | ⟨_ | p, d, a⟩ <;> rfl

theorem depOfJson_depToJson (d : SDep) (hw : d.wellFormed = true) : depOfJson (depToJson d) = .ok d.norm := by
  obtain ⟨i, head⟩ := d
  simp only [SDep.wellFormed, Bool.and_eq_true, List.all_eq_true] at hw
  obtain ⟨⟨hs, hst⟩, hm⟩ := hw
  have h1 := dictList_kvArr [['s', 'r', 'c']] i.script (by simpa [kSrc] using hs)
  have h2 := dictList_kvArr [kHref] i.stylesheet (by simpa using fun x hx => (hst x hx).1)
  have h3 := dictList_kvArr [kName, ['c', 'o', 'n', 't', 'e', 'n', 't']] i.metas (by simpa [kContent] using hm)
  have h4 := map_addRel_id i.stylesheet fun x hx => (hst x hx).2
  have h5 := srcOfJson_srcJson i.source
  -- every key of the record is a parameter of the constructor, and each lookup finds its field
  obtain ⟨ms, e, g⟩ : ∃ ms, depToJson ⟨i, head⟩ = .obj ms ∧ (ms.keys.all fun k => depKeys.contains k) = true ∧
      ms.get? kName = some (.str i.name) ∧ ms.get? kVersion = some (.str i.version) ∧
      ms.get? kSource = some (srcJson i.source) ∧ ms.get? kScript = some (.arr (kvArr i.script)) ∧
      ms.get? kStylesheet = some (.arr (kvArr i.stylesheet)) ∧ ms.get? kMeta = some (.arr (kvArr i.metas)) ∧
      ms.get? kAllFiles = some (.bool i.allFiles) ∧ ms.get? kHead = some (optStrJson head) :=
    ⟨_, rfl, rfl, rfl, rfl, rfl, rfl, rfl, rfl, rfl, rfl⟩
  rw [e]
  simp only [depOfJson, g, h1, h2, h3, h4, h5]
  cases head <;> rfl

end HtmlVerif
