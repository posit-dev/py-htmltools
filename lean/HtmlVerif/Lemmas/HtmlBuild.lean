/-
Tree building, renderer-free:
  buildGo_mergeAcc : building from the merged token list = building from the unmerged one
  buildN           : a machine that builds the *normalised* forest directly
  buildGo_norm     : (buildGo ts …).map normalise = buildN ts …   when every text token decodes compositionally
  buildN_congr     : leading whitespace of the pending text run is irrelevant
-/
import HtmlVerif.Lemmas.HtmlTokenize
import HtmlVerif.Lemmas.HtmlEscape

namespace HtmlVerif

theorem buildGo_flushTok (p : Str) (ts : List Tok) (cur : List PTree) (st : List Frame) :
    buildGo (flushTok p ++ ts) [] cur st = buildGo ts p cur st := by
  unfold flushTok
  by_cases hp : p = []
  · simp [hp]
  · simp [hp, buildGo]

theorem buildGo_mergeAcc (ts : List Tok) (p : Str) (cur : List PTree) (st : List Frame) :
    buildGo (mergeAcc p ts) [] cur st = buildGo ts p cur st := by
  induction ts generalizing p cur st with
  | nil => simpa [mergeAcc] using buildGo_flushTok p [] cur st
  | cons t r ih =>
    cases t with
    | text s => simp [mergeAcc, buildGo, ih]
    | stag n a sc =>
      simp only [mergeAcc, buildGo_flushTok]
      cases sc <;> simp [buildGo, ih]
    | etag n =>
      simp only [mergeAcc, buildGo_flushTok]
      cases st <;> simp [buildGo, ih]

theorem build_mergeText (ts : List Tok) : build (mergeText ts) = build ts :=
  buildGo_mergeAcc ts [] [] []

/-! ### normalisation is compositional -/

@[simp] theorem normList_nil : PTree.normList [] = [] := rfl
@[simp] theorem normList_cons (t : PTree) (ts : List PTree) :
    PTree.normList (t :: ts) = t.norm ++ PTree.normList ts := rfl

theorem normList_append (a b : List PTree) :
    PTree.normList (a ++ b) = PTree.normList a ++ PTree.normList b := by
  induction a with
  | nil => simp
  | cons x xs ih => simp [ih]

theorem norm_text (s : Str) : (PTree.text s).norm = textNode (decodeRefs s) := rfl

theorem norm_elem (n : Str) (a : List (Str × Str)) (sc : Bool) (ks : List PTree) :
    (PTree.elem n a sc ks).norm = [.elem n (decodeAttrs a) sc (PTree.normList ks)] := rfl

theorem textNode_reverse (s : Str) : (textNode s).reverse = textNode s := by
  unfold textNode; split <;> simp

theorem norm_reverse (t : PTree) : t.norm.reverse = t.norm := by
  cases t with
  | text s => rw [norm_text, textNode_reverse]
  | elem n a sc ks => simp [norm_elem]

theorem normList_reverse (a : List PTree) : PTree.normList a.reverse = (PTree.normList a).reverse := by
  induction a with
  | nil => simp
  | cons x xs ih => simp [normList_append, ih, norm_reverse]

def flushN (pd : Str) (cur : List PTree) : List PTree := textNode pd ++ cur

theorem flushN_nil (cur : List PTree) : flushN [] cur = cur := by simp [flushN, textNode, trimWs]

def Frame.normF (fr : Frame) : Frame := ⟨fr.name, decodeAttrs fr.attrs, PTree.normList fr.sibs⟩

/-- like `buildGo`, but the pending run `pd` is already decoded, attributes are decoded on arrival,
    and text runs are trimmed (and dropped when empty) when they are closed -/
def buildN : List Tok → Str → List PTree → List Frame → Option (List PTree)
  | [], pd, cur, [] => some (flushN pd cur).reverse
  | [], _, _, _ :: _ => none
  | .text s :: ts, pd, cur, st => buildN ts (pd ++ decodeRefs s) cur st
  | .stag n as true :: ts, pd, cur, st => buildN ts [] (.elem n (decodeAttrs as) true [] :: flushN pd cur) st
  | .stag n as false :: ts, pd, cur, st => buildN ts [] [] (⟨n, decodeAttrs as, flushN pd cur⟩ :: st)
  | .etag _ :: _, _, _, [] => none
  | .etag n :: ts, pd, cur, fr :: st =>
    if fr.name = n then buildN ts [] (.elem n fr.attrs false (flushN pd cur).reverse :: fr.sibs) st
    else none

def Closed (s : Str) : Prop := ∀ r, decodeRefs (s ++ r) = decodeRefs s ++ decodeRefs r

theorem closed_nil : Closed [] := fun _ => rfl

theorem closed_append {a b : Str} (ha : Closed a) (hb : Closed b) : Closed (a ++ b) := by
  intro r
  rw [List.append_assoc, ha, hb, ha, List.append_assoc]

theorem closed_of_decodes {x y : Str} (h : ∀ r, decodeRefs (x ++ r) = y ++ decodeRefs r) : Closed x := by
  intro r
  have h0 := h []
  rw [List.append_nil, decodeRefs_nil, List.append_nil] at h0
  rw [h r, h0]

def Tok.closed : Tok → Prop
  | .text s => Closed s
  | _ => True

theorem normList_flushT (p : Str) (cur : List PTree) :
    PTree.normList (flushT p cur) = flushN (decodeRefs p) (PTree.normList cur) := by
  unfold flushT
  by_cases hp : p = []
  · simp [hp, flushN_nil]
  · simp [hp, norm_text, flushN]

theorem buildGo_norm (ts : List Tok) (p : Str) (cur : List PTree) (st : List Frame)
    (hp : Closed p) (hts : ∀ t ∈ ts, t.closed) :
    (buildGo ts p cur st).map normalise
      = buildN ts (decodeRefs p) (PTree.normList cur) (st.map Frame.normF) := by
  induction ts generalizing p cur st with
  | nil => cases st <;> simp [buildGo, buildN, normalise, normList_reverse, normList_flushT]
  | cons t r ih =>
    obtain ⟨ht, hr⟩ := List.forall_mem_cons.1 hts
    cases t with
    | text s => rw [buildGo, buildN, ih _ _ _ (closed_append hp ht) hr, hp s]
    | stag n a sc =>
      cases sc <;> simp [buildGo, buildN, ih _ _ _ closed_nil hr, Frame.normF, norm_elem, normList_flushT]
    | etag n =>
      cases st with
      | nil => simp [buildGo, buildN]
      | cons fr st' =>
        by_cases hn : fr.name = n <;>
          simp [buildGo, buildN, hn, ih _ _ _ closed_nil hr, Frame.normF, norm_elem, normList_flushT,
            normList_reverse]

theorem flushN_congr {a b : Str} (h : a.dropWhile isWs = b.dropWhile isWs) (cur : List PTree) :
    flushN a cur = flushN b cur := by
  simp [flushN, textNode, trimWs, h]

theorem buildN_congr (ts : List Tok) (a b : Str) (h : a.dropWhile isWs = b.dropWhile isWs)
    (cur : List PTree) (st : List Frame) : buildN ts a cur st = buildN ts b cur st := by
  induction ts generalizing a b cur st with
  | nil => cases st <;> simp [buildN, flushN_congr h]
  | cons t r ih =>
    cases t with
    | text s => exact ih _ _ (by simp only [List.dropWhile_append, h]) cur st
    | stag n a' sc => cases sc <;> simp [buildN, flushN_congr h]
    | etag n => cases st <;> simp [buildN, flushN_congr h]

theorem flushN_append_ws (s w : Str) (hw : wsOnly w = true) (cur : List PTree) :
    flushN (s ++ w) cur = flushN s cur := by
  simp [flushN, textNode, trimWs_append_ws s w hw]

end HtmlVerif
