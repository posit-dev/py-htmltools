/-
End-tag neutralisation (C13): after it no `</` is left, it commutes with the printer (it only ever acts
inside string bodies), and the neutralised body is still read back as the same string.
-/
import HtmlVerif.Lemmas.JsonVal
import HtmlVerif.Spec.EndTag

namespace HtmlVerif

def hasLtSlash : Str → Bool
  | [] => false
  | c :: r => (c == '<' && r.head? == some '/') || hasLtSlash r

/-- after a `<` the pass never writes a bare `/` -/
theorem neutG_true_head (s : Str) : (neutG true s).head? ≠ some '/' := by
  cases s with
  | nil => simp [neutG]
  | cons c r => by_cases hc : c = '/' <;> simp [neutG, hc]

theorem neutG_no_lt_slash (p : Bool) (s : Str) : hasLtSlash (neutG p s) = false := by
  induction s generalizing p with
  | nil => rfl
  | cons c r ih =>
    by_cases hpc : (p && c == '/') = true
    · simp [neutG, hpc, hasLtSlash, ih]
    · by_cases hc : c = '<'
      · subst hc
        simpa [neutG, hasLtSlash, ih] using neutG_true_head r
      · simp [neutG, hpc, hasLtSlash, ih, hc]

theorem hasLtSlash_of_infix (s : Str) (h : ['<', '/'] <:+: s) : hasLtSlash s = true := by
  obtain ⟨pre, post, rfl⟩ := h
  induction pre with
  | nil => simp [hasLtSlash]
  | cons c cs ih => simp only [List.cons_append, hasLtSlash, ih, Bool.or_true]

theorem neutralise_no_lt_slash (s : Str) : ¬ ['<', '/'] <:+: neutralise s := by
  intro h
  have := hasLtSlash_of_infix _ h
  rw [neutralise, neutG_no_lt_slash] at this
  exact Bool.noConfusion this

/-- a pattern character that is no lower-case letter matches only itself -/
theorem ciEq_nonletter {p c : Char} (hp : p.toNat < 97) (h : ciEq p c = true) : c = p := by
  simp only [ciEq, Bool.or_eq_true, beq_iff_eq, Bool.and_eq_true, decide_eq_true_eq] at h
  rcases h with h | ⟨⟨h, _⟩, _⟩
  · exact Char.toNat_inj.mp h
  · omega

theorem ciIsPrefix_endTag (s : Str) (h : ciIsPrefix endTagLike s = true) :
    ∃ r, s = '<' :: '/' :: r := by
  match s, h with
  | c1 :: c2 :: r, h =>
    simp only [endTagLike, ciIsPrefix, Bool.and_eq_true] at h
    exact ⟨r, by rw [ciEq_nonletter (by decide) h.1, ciEq_nonletter (by decide) h.2.1]⟩
  | [_], h => simp [endTagLike, ciIsPrefix] at h
  | [], h => simp [endTagLike, ciIsPrefix] at h

theorem hasEndTagLike_imp (s : Str) (h : hasEndTagLike s = true) : hasLtSlash s = true := by
  induction s with
  | nil => simp [hasEndTagLike] at h
  | cons c cs ih =>
    simp only [hasEndTagLike, Bool.or_eq_true] at h
    rcases h with h | h
    · obtain ⟨r, e⟩ := ciIsPrefix_endTag _ h
      rw [e]; simp [hasLtSlash]
    · simp [hasLtSlash, ih h]

theorem hasEndTagLike_drop (s : Str) (h : hasEndTagLike s = false) (k : Nat) :
    ciIsPrefix endTagLike (s.drop k) = false := by
  induction s generalizing k with
  | nil => simp [endTagLike, ciIsPrefix]
  | cons c cs ih =>
    simp only [hasEndTagLike, Bool.or_eq_false_iff] at h
    cases k with
    | zero => simpa using h.1
    | succ k => simpa using ih h.2 k

theorem neutralise_no_end_tag (s : Str) : hasEndTagLike (neutralise s) = false := by
  cases h : hasEndTagLike (neutralise s) with
  | false => rfl
  | true =>
    have := hasEndTagLike_imp _ h
    rw [neutralise, neutG_no_lt_slash] at this
    exact Bool.noConfusion this

/-! ### the pass acts piecewise -/

theorem neutG_append (p : Bool) (a : Str) : ∃ q, ∀ b, neutG p (a ++ b) = neutG p a ++ neutG q b := by
  induction a generalizing p with
  | nil => exact ⟨p, fun b => rfl⟩
  | cons c r ih =>
    obtain ⟨q, hq⟩ := ih (c == '<')
    exact ⟨q, fun b => by simp [neutG, hq]⟩

theorem neutG_cons_plain (p : Bool) (c : Char) (X : Str) (h : c ≠ '/') (h' : c ≠ '<') :
    neutG p (c :: X) = c :: neutG false X := by
  simp [neutG, h, beq_false_of_ne h']

theorem neutG_plain (L rest : Str) (h : ∀ c ∈ L, c ≠ '<') : neutG false (L ++ rest) = L ++ neutG false rest := by
  induction L with
  | nil => rfl
  | cons c r ih =>
    have hc : c ≠ '<' := h c (by simp)
    have hr : ∀ d ∈ r, d ≠ '<' := fun d hd => h d (by simp [hd])
    have hb : (c == '<') = false := by simp [hc]
    simp [neutG, hb, ih hr]

theorem neutG_noSlash (L : Str) (h : ∀ c ∈ L, c ≠ '/') (p : Bool) : ∃ q, ∀ X, neutG p (L ++ X) = L ++ neutG q X := by
  induction L generalizing p with
  | nil => exact ⟨p, fun X => rfl⟩
  | cons c r ih =>
    have hc : c ≠ '/' := h c (by simp)
    obtain ⟨q, hq⟩ := ih (fun d hd => h d (by simp [hd])) (c == '<')
    exact ⟨q, fun X => by simp [neutG, hc, hq]⟩

theorem neutG_length (p : Bool) (s : Str) : s.length ≤ (neutG p s).length := by
  induction s generalizing p with
  | nil => simp [neutG]
  | cons c r ih =>
    have := ih (c == '<')
    simp only [neutG, List.length_append, List.length_cons]
    split <;> simp <;> omega

theorem escChar_slash : escChar '/' = ['/'] := by decide

theorem strUnit?_slashEsc (tail : Str) : strUnit? ('\\' :: '/' :: tail) = some ('/', tail) := by
  simp [strUnit?, simpleEsc?]

/-- what the pass makes of one escaped character is still one unit that is read back as that character:
    `/` may have become `\/`, every other escape is copied -/
theorem neutG_escChar (p : Bool) (c : Char) : ∃ piece q, (∀ X, neutG p (escChar c ++ X) = piece ++ neutG q X) ∧
    (∃ x r, piece = x :: r ∧ x ≠ '"') ∧ ∀ tail, strUnit? (piece ++ tail) = some (c, tail) := by
  by_cases hc : c = '/'
  · subst hc
    rw [escChar_slash]
    cases p
    · exact ⟨['/'], false, fun X => rfl, ⟨_, _, rfl, by decide⟩, fun tail => by simp [strUnit?]⟩
    · exact ⟨['\\', '/'], false, fun X => rfl, ⟨_, _, rfl, by decide⟩, strUnit?_slashEsc⟩
  · have hns : ∀ x ∈ escChar c, x ≠ '/' := fun x hx e =>
      (escChar_mem c x hx).2.2.elim (fun h => h.1 e) (fun h => hc (h.1 ▸ e))
    obtain ⟨q, hq⟩ := neutG_noSlash (escChar c) hns p
    exact ⟨_, q, hq, escChar_head c, strUnit?_esc c⟩

theorem neutBody_parse : ∀ (s rest : Str) (p : Bool) (f : Nat), s.length < f →
    parseStrBody f (neutG p (escBody s) ++ '"' :: rest) = some (s, rest)
  | _, _, _, 0, hf => absurd hf (Nat.not_lt_zero _)
  | [], _, _, _ + 1, _ => rfl
  | c :: cs, rest, p, f + 1, hf => by
    obtain ⟨piece, q, hq, hhead, hu⟩ := neutG_escChar p c
    rw [escBody_cons, hq, List.append_assoc, parseStrBody_step f _ _ c hhead (hu _),
      neutBody_parse cs rest q f (Nat.lt_of_succ_lt_succ hf)]
    rfl

def neutBody (s : Str) : Str := neutralise (escBody s)

theorem neutBody_ok : BodyOK neutBody := fun s rest f hf =>
  neutBody_parse s rest false f
    (Nat.lt_of_le_of_lt (Nat.le_trans (escBody_length s) (neutG_length false (escBody s))) hf)

theorem neutG_nlInd (ind : Option Nat) (lvl : Nat) (X : Str) :
    neutG false (nlInd ind lvl ++ X) = nlInd ind lvl ++ neutG false X :=
  neutG_plain _ _ fun c hc => by rcases mem_nlInd hc with rfl | rfl <;> decide

theorem neutG_lead (ind : Option Nat) (lvl : Nat) (first : Bool) (X : Str) :
    neutG false ((if first then nlInd ind lvl else itemSep ind lvl) ++ X)
      = (if first then nlInd ind lvl else itemSep ind lvl) ++ neutG false X :=
  neutG_plain _ _ fun c hc => by rcases mem_lead hc with rfl | rfl | rfl <;> decide

theorem neutG_strLit (enc : Str → Str) (s X : Str) :
    neutG false (strLit enc s ++ X) = strLit (fun s => neutralise (enc s)) s ++ neutG false X := by
  obtain ⟨q, hq⟩ := neutG_append false (enc s)
  rw [strLit_append, strLit_append, neutG_cons_plain _ _ _ (by decide) (by decide), hq,
    neutG_cons_plain _ _ _ (by decide) (by decide)]
  rfl

mutual
  theorem neutG_printVal (enc : Str → Str) (ind : Option Nat) :
      ∀ (v : Json) (lvl : Nat) (rest : Str),
        neutG false (printVal enc ind lvl v ++ rest)
          = printVal (fun s => neutralise (enc s)) ind lvl v ++ neutG false rest
    | .null, _, rest => neutG_plain ['n', 'u', 'l', 'l'] rest (by decide)
    | .bool true, _, rest => neutG_plain ['t', 'r', 'u', 'e'] rest (by decide)
    | .bool false, _, rest => neutG_plain ['f', 'a', 'l', 's', 'e'] rest (by decide)
    | .str s, _, rest => neutG_strLit enc s rest
    | .arr xs, lvl, rest => by
      rw [printVal_arr_append, printVal_arr_append, neutG_cons_plain _ _ _ (by decide) (by decide),
        neutG_printElems enc ind xs lvl true, neutG_cons_plain _ _ _ (by decide) (by decide)]
    | .obj ms, lvl, rest => by
      rw [printVal_obj_append, printVal_obj_append, neutG_cons_plain _ _ _ (by decide) (by decide),
        neutG_printMems enc ind ms lvl true, neutG_cons_plain _ _ _ (by decide) (by decide)]
  theorem neutG_printElems (enc : Str → Str) (ind : Option Nat) :
      ∀ (xs : JList) (lvl : Nat) (first : Bool) (rest : Str),
        neutG false (printElems enc ind lvl first xs ++ rest)
          = printElems (fun s => neutralise (enc s)) ind lvl first xs ++ neutG false rest
    | .nil, lvl, first, rest => by
      rw [printElems_nil, printElems_nil]
      cases first
      · exact neutG_nlInd ind lvl rest
      · rfl
    | .cons h t, lvl, first, rest => by
      rw [printElems_cons_append, printElems_cons_append, neutG_lead, neutG_printVal enc ind h (lvl + 1),
        neutG_printElems enc ind t lvl false rest]
  theorem neutG_printMems (enc : Str → Str) (ind : Option Nat) :
      ∀ (ms : JMems) (lvl : Nat) (first : Bool) (rest : Str),
        neutG false (printMems enc ind lvl first ms ++ rest)
          = printMems (fun s => neutralise (enc s)) ind lvl first ms ++ neutG false rest
    | .nil, lvl, first, rest => by
      rw [printMems_nil, printMems_nil]
      cases first
      · exact neutG_nlInd ind lvl rest
      · rfl
    | .cons k v t, lvl, first, rest => by
      rw [printMems_cons_append, printMems_cons_append, neutG_lead, neutG_strLit,
        neutG_plain [':', ' '] _ (by decide), neutG_printVal enc ind v (lvl + 1),
        neutG_printMems enc ind t lvl false rest]
end

theorem neutralise_jsonPrint (ind : Option Nat) (v : Json) :
    neutralise (jsonPrint ind v) = printVal neutBody ind 0 v := by
  have := neutG_printVal escBody ind v 0 []
  simp only [List.append_nil, neutG] at this
  exact this

theorem jsonParse_neutralise (ind : Option Nat) (v : Json) : jsonParse (neutralise (jsonPrint ind v)) = some v :=
  neutralise_jsonPrint ind v ▸ jsonParse_printVal neutBody neutBody_ok ind v

end HtmlVerif
