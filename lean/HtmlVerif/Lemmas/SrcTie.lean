/-
Shared definitions and helper lemmas of the source tie (Props/Src*.lean).
-/
import HtmlVerif.Py.Prim
import HtmlVerif.Lemmas.PyLoop
import HtmlVerif.Model.Tree
import HtmlVerif.Model.Html
import HtmlVerif.Model.Attrs

namespace HtmlVerif.SrcTie
open HtmlVerif HtmlVerif.Py

/-- the module constants the translated functions read, for given tables -/
def globalsOf (cfg : Cfg) (isSpace : Char → Bool := fun _ => false) (lower : Str → Str := id) : Globals :=
  { HTML_ESCAPE_TABLE := embTbl cfg.textTbl, HTML_ATTRS_ESCAPE_TABLE := embTbl cfg.attrTbl,
    VOID_TAG_NAMES := cfg.void, NO_ESCAPE_TAG_NAMES := cfg.noesc, isSpace := isSpace, lower := lower }

/-- one pass of `for key, value in table.items(): text = text.replace(key, value)` on the state (text, key, value) -/
def escStep (it : PVal) (st : PVal × PVal × PVal) : PVal × PVal × PVal :=
  match it, st.1 with
  | .tuple [.str [c], .str r], .str x => (PVal.str (replaceChar c r x), PVal.str [c], PVal.str r)
  | _, _ => st

theorem escape_fold (t : List (Char × Str)) (s : Str) (k v : PVal) :
    ((t.map fun kv => PVal.tuple [PVal.str [kv.1], PVal.str kv.2]).foldl
      (fun st it => escStep it st) (PVal.str s, k, v)).1 = PVal.str (seqReplace t s) := by
  induction t generalizing s k v with
  | nil => rfl
  | cons kv t ih => simp only [List.map_cons, List.foldl_cons, seqReplace, escStep]; exact ih _ _ _

theorem seqReplace_foldlM (t : List (Char × Str)) (s : Str) :
    t.foldlM (m := Except Err) (fun b kv => .ok (replaceChar kv.1 kv.2 b)) s = .ok (seqReplace t s) := by
  induction t generalizing s with
  | nil => rfl
  | cons kv t ih => simp only [List.foldlM_cons, bind, Except.bind, seqReplace]; exact ih _

def embErr : Err → PyErr
  | .typeError => .typeError
  | .valueError => .valueError
  | .keyError => .keyError
  | .runtimeError => .runtimeError
  | .notImplemented => .notImplemented
  | .exception => .exception

def embRes {α} (f : α → PVal) : Except Err α → PyM PVal
  | .ok a => .ok (f a)
  | .error e => .error (embErr e)

/-- an operand of `+`: `ob s` is an instance of some other class whose `str()` is `s` and which defines no `__add__` -/
def embH : HVal → PVal
  | .plain s => .str s
  | .html s => .html s
  | .ob s => .obj "Other" [("__str__", .str s)]

def embArg : AttrArg → PVal
  | .none => .none
  | .boolF => .bool false
  | .boolT => .bool true
  | .str s => .str s
  | .html s => .html s
  | .num t => .float t
  | .bad => .obj "Other" []

def embVal : AttrVal → PVal
  | .plain s => .str s
  | .html s => .html s

def embAttrs (a : Attrs) : PVal := .dict (a.map fun kv => (kv.1, embVal kv.2))

def embArgDict (d : List (Str × AttrArg)) : PVal := .dict (d.map fun kv => (kv.1, embArg kv.2))

theorem endswith_char (s : Str) (c : Char) :
    pyEndswith (.str s) (.str [c]) = .ok (.bool (decide (s.getLast? = some c))) := by
  simp only [pyEndswith, textOf, pure_eq_ok]
  congr 2
  rcases List.eq_nil_or_concat s with rfl | ⟨t, a, rfl⟩
  · simp
  · simp [List.isPrefixOf, eq_comm]
    by_cases h : c = a <;> simp [h]

theorem slice_dropLast (s : Str) : pySlice (.str s) none (some (-1)) = .ok (.str s.dropLast) := by
  simp only [pySlice, sliceList, clampIdx, pure_eq_ok]
  congr 2
  have : ((-1 : Int) + (s.length : Int)).toNat = s.length - 1 := by omega
  simp [this, List.dropLast_eq_take]

theorem replaceChar_single (k v : Char) (s : Str) : replaceChar k [v] s = s.map fun c => if c = k then v else c := by
  induction s with
  | nil => rfl
  | cons a t ih =>
    simp only [replaceChar, List.flatMap_cons, List.map_cons] at *
    split <;> simp_all

theorem dictSet_emb (k : Str) (v : AttrVal) (a : Attrs) :
    Py.dictSet k (embVal v) (a.map fun kv => (kv.1, embVal kv.2)) = (HtmlVerif.dictSet k v a).map fun kv => (kv.1, embVal kv.2) := by
  induction a with
  | nil => rfl
  | cons x t ih =>
    obtain ⟨k', v'⟩ := x
    simp only [List.map_cons, Py.dictSet, HtmlVerif.dictSet]
    split <;> simp_all

@[simp] theorem embVal_plain (s : Str) : embVal (.plain s) = .str s := rfl
@[simp] theorem embVal_html (s : Str) : embVal (.html s) = .html s := rfl

/-- the model's step for one `(k, v)` pair of the inner loop of `update` -/
def pairStep (cfg : Cfg) (kv : Str × AttrArg) (acc : Attrs) : Except Err Attrs :=
  match normAttrValue kv.2 with
  | .error e => .error e
  | .ok none => .ok acc
  | .ok (some val) =>
    let nm := normAttrName kv.1
    let val' := match alookup nm acc with
      | some old => mergeVal cfg old val
      | none => val
    .ok (HtmlVerif.dictSet nm val' acc)

theorem accumPairs_fold (cfg : Cfg) (l : List (Str × AttrArg)) (acc : Attrs) :
    accumPairs cfg l acc = l.foldlM (fun acc kv => pairStep cfg kv acc) acc := by
  induction l generalizing acc with
  | nil => rfl
  | cons kv t ih =>
    obtain ⟨k, v⟩ := kv
    simp only [accumPairs, List.foldlM_cons, pairStep]
    cases normAttrValue v with
    | error e => rfl
    | ok o => cases o with
      | none => exact ih acc
      | some w => exact ih _

theorem accumDicts_fold (cfg : Cfg) (ds : List (List (Str × AttrArg))) (acc : Attrs) :
    accumDicts cfg ds acc = ds.foldlM (fun acc d => accumPairs cfg d acc) acc := by
  induction ds generalizing acc with
  | nil => rfl
  | cons d t ih =>
    simp only [accumDicts, List.foldlM_cons]
    cases accumPairs cfg d acc with
    | error e => rfl
    | ok a => exact ih a

theorem dictGet_map {β : Type} (f : β → PVal) (k : Str) (l : List (Str × β)) :
    Py.dictGet? k (l.map fun kv => (kv.1, f kv.2)) = (alookup k l).map f := by
  induction l with
  | nil => rfl
  | cons x t ih =>
    obtain ⟨k', v'⟩ := x
    simp only [List.map_cons, Py.dictGet?, alookup]
    split <;> simp_all

theorem dictGet_emb (k : Str) (a : Attrs) :
    Py.dictGet? k (a.map fun kv => (kv.1, embVal kv.2)) = (alookup k a).map embVal :=
  dictGet_map embVal k a

theorem attrsUpdate_fold (cfg : Cfg) (cur : Attrs) (ds : List (List (Str × AttrArg))) :
    attrsUpdate cfg cur ds
      = match ds.foldlM (fun acc d => d.foldlM (fun acc kv => pairStep cfg kv acc) acc) [] with
        | .ok attrz => .ok (dictUpdate cur attrz)
        | .error e => .error e := by
  simp only [attrsUpdate, accumDicts_fold, accumPairs_fold]
  split <;> simp_all

theorem dictUpdate_emb (cur attrz : Attrs) :
    (attrz.map fun kv => (kv.1, embVal kv.2)).foldl (fun c kv => Py.dictSet kv.1 kv.2 c)
        (cur.map fun kv => (kv.1, embVal kv.2))
      = (dictUpdate cur attrz).map fun kv => (kv.1, embVal kv.2) := by
  induction attrz generalizing cur with
  | nil => rfl
  | cons x t ih =>
    simp only [List.map_cons, List.foldl_cons, dictUpdate, dictSet_emb]
    exact ih _

end HtmlVerif.SrcTie
