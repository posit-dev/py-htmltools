/-
Closed forms of add_class / remove_class / add_style (they all funnel through `TagAttrDict.update`) and of the
css() loop.  Helper lemmas for Props/C16.
-/
import HtmlVerif.Lemmas.Tokens
import HtmlVerif.Lemmas.Consolidate

namespace HtmlVerif

theorem normAttrName_classKey : normAttrName classKey = classKey := by decide
theorem normAttrName_styleKey : normAttrName styleKey = styleKey := by decide

theorem nav_none : normAttrValue .none = .ok none := rfl
theorem nav_str (s : Str) : normAttrValue (.str s) = .ok (some (.plain s)) := rfl
theorem nav_html (s : Str) : normAttrValue (.html s) = .ok (some (.html s)) := rfl

/-- `update({k: self.get(k)}, {k: new})`, with `prepend` the two dicts the other way round: what is stored under
    `k` is the new value merged after (before) the old one -/
theorem update_with_old (cfg : Cfg) (a : Attrs) {k : Str} (hk : normAttrName k = k)
    {new : AttrArg} {nv : AttrVal} (hn : normAttrValue new = .ok (some nv)) (p : Bool) :
    (if p then attrsUpdate cfg a [[(k, new)], [(k, getArg k a)]]
      else attrsUpdate cfg a [[(k, getArg k a)], [(k, new)]])
      = .ok (dictSet k (addedVal cfg (alookup k a) nv p) a) := by
  have hg : normAttrValue (getArg k a) = .ok (alookup k a) := by
    unfold getArg
    cases alookup k a with
    | none => rfl
    | some v => cases v <;> rfl
  cases p <;> cases h : alookup k a <;>
    simp [attrsUpdate, accumDicts, accumPairs, hg, h, hn, hk, alookup, dictSet, dictUpdate, addedVal]

theorem addClass_eq (cfg : Cfg) (a : Attrs) (cls : Str) (p : Bool) :
    addClass cfg a cls p = .ok (dictSet classKey (addedVal cfg (alookup classKey a) (.plain cls) p) a) :=
  update_with_old cfg a normAttrName_classKey (new := .str cls) rfl p

theorem addStyle_eq (cfg : Cfg) (a : Attrs) {style : AttrArg} {nv : AttrVal} (p : Bool)
    (hn : normAttrValue style = .ok (some nv)) (hacc : styleRejected style = false) :
    addStyle cfg a style p = .ok (dictSet styleKey (addedVal cfg (alookup styleKey a) nv p) a) := by
  rw [addStyle, if_neg (by simp [hacc])]
  exact update_with_old cfg a normAttrName_styleKey hn p

theorem textOf_dictSet (k : Str) (v : AttrVal) (a : Attrs) : textOf k (dictSet k v a) = v.str := by
  simp [textOf, alookup_dictSet_self]

theorem textOf_eq_nil_of_none {k : Str} {a : Attrs} (h : alookup k a = none) : textOf k a = [] := by
  simp [textOf, h]

/-- `d.pop(k)` takes out the first entry for `k` (the only one, in a well-formed dictionary) -/
theorem dictPop_eq (k : Str) (a : Attrs) :
    dictPop k a = if k ∈ keysOf a then .ok (a.eraseP (·.1 == k)) else .error .keyError := by
  induction a with
  | nil => rfl
  | cons hd r ih =>
    by_cases hk : hd.1 = k
    · simp [dictPop, keysOf_cons, hk]
    · rw [dictPop, if_neg hk, ih]
      by_cases hr : k ∈ keysOf r <;> simp [keysOf_cons, hr, hk, Ne.symm hk]

theorem alookup_erase_self {k : Str} {a : Attrs} (hnd : (keysOf a).Nodup) :
    alookup k (a.eraseP (·.1 == k)) = none := by
  induction a with
  | nil => rfl
  | cons hd r ih =>
    rw [keysOf_cons, List.nodup_cons] at hnd
    by_cases hk : hd.1 = k
    · simpa [hk] using (alookup_eq_none_iff k r).mpr (hk ▸ hnd.1)
    · simp [hk, alookup, ih hnd.2]

theorem alookup_erase_ne {q k : Str} (a : Attrs) (hq : q ≠ k) :
    alookup q (a.eraseP (·.1 == k)) = alookup q a := by
  induction a with
  | nil => rfl
  | cons hd r ih => by_cases hk : hd.1 = k <;> simp [alookup, hk, ih, Ne.symm hq]

abbrev keptTokens (sp : Char → Bool) (a : Attrs) (cls : Str) : List Str :=
  (tokens sp (classOf a)).filter fun v => v != strip sp cls

theorem rejoin_spec (a : Attrs) (s : Str) :
    normAttrValue (rejoinArg a s) = .ok (some (rejoinVal a s)) ∧ (rejoinVal a s).str = s ∧
    (rejoinVal a s).isHtml = match alookup classKey a with | some v => v.isHtml | none => false := by
  unfold rejoinArg rejoinVal
  cases alookup classKey a with
  | none => exact ⟨rfl, rfl, rfl⟩
  | some v => cases v <;> exact ⟨rfl, rfl, rfl⟩

/-- `remove_class` never raises: when it comes to `pop`, the class text is not empty, so the key is there -/
theorem removeClass_eq (cfg : Cfg) (sp : Char → Bool) (a : Attrs) (cls : Str) :
    removeClass cfg sp a cls = .ok
      (if cls = [] ∨ classOf a = [] then a
       else if keptTokens sp a cls ≠ [] then dictSet classKey (rejoinVal a (joinStr [' '] (keptTokens sp a cls))) a
       else a.eraseP (·.1 == classKey)) := by
  have hp : textOf classKey a ≠ [] → classKey ∈ keysOf a := fun hc =>
    Decidable.byContradiction fun hn => hc (textOf_eq_nil_of_none ((alookup_eq_none_iff _ _).mpr hn))
  simp only [removeClass, attrsUpdate_single, attrsSetItem, (rejoin_spec a _).1, normAttrName_classKey,
    dictPop_eq, keptTokens, classOf, List.isEmpty_iff]
  by_cases h1 : cls = [] <;> by_cases h2 : textOf classKey a = [] <;> simp [h1, h2, hp, apply_ite Except.ok]

theorem removeClass_ok {cfg : Cfg} {sp : Char → Bool} {a a' : Attrs} {cls : Str}
    (h : removeClass cfg sp a cls = .ok a') :
    a' = a ∧ (cls = [] ∨ classOf a = []) ∨
    a' = dictSet classKey (rejoinVal a (joinStr [' '] (keptTokens sp a cls))) a ∧ keptTokens sp a cls ≠ [] ∨
    a' = a.eraseP (·.1 == classKey) ∧ cls ≠ [] ∧ classOf a ≠ [] ∧ keptTokens sp a cls = [] := by
  rw [removeClass_eq] at h
  cases h
  by_cases hc : cls = [] ∨ classOf a = []
  · exact .inl ⟨if_pos hc, hc⟩
  · by_cases hk : keptTokens sp a cls = [] <;> simp [hk, not_or.mp hc]

theorem isBad_none : CssVal.none.isBad = false := rfl
theorem isBad_text (s : Str) : (CssVal.text s).isBad = false := rfl
theorem isBad_list (xs : List Str) : (CssVal.list xs).isBad = false := rfl
theorem isBad_badList : CssVal.badList.isBad = true := rfl

theorem cssLoop_eq (lower : Str → Str) (c : Str) (kw : List (Str × CssVal)) (res : Str) :
    cssLoop lower c kw res =
      if kw.any (fun kv => kv.2.isBad) then .error .typeError
      else .ok (res ++ (kw.filterMap (cssDecl lower c)).flatten) := by
  induction kw generalizing res with
  | nil => simp [cssLoop]
  | cons hd t ih =>
    obtain ⟨k, v⟩ := hd
    cases v with
    | badList => simp [cssLoop, isBad_badList]
    | _ =>
      rw [cssLoop, ih, List.any_cons, List.filterMap_cons]
      simp only [isBad_none, isBad_text, isBad_list, Bool.false_or, cssDecl, List.flatten_cons, List.append_assoc]

theorem endsSemi_append (s t : Str) (ht : endsSemi t = true) : endsSemi (s ++ t) = true := by
  simp only [endsSemi, beq_iff_eq] at *
  simp [List.getLast?_append, ht]

theorem cssDecl_endsSemi {lower : Str → Str} {kv : Str × CssVal} {d : Str} (h : cssDecl lower [] kv = some d) :
    endsSemi d = true := by
  obtain ⟨k, v⟩ := kv
  cases v <;> simp [cssDecl] at h <;> subst h <;> simp [endsSemi, List.getLast?_append, List.getLast?_cons]

theorem flatten_endsSemi (ds : List Str) (h : ∀ d ∈ ds, endsSemi d = true) (hne : ds.flatten ≠ []) :
    endsSemi ds.flatten = true := by
  induction ds with
  | nil => simp at hne
  | cons d r ih =>
    rw [List.forall_mem_cons] at h
    rw [List.flatten_cons]
    by_cases hr : r.flatten = []
    · simpa [hr] using h.1
    · exact endsSemi_append _ _ (ih h.2 hr)

end HtmlVerif
