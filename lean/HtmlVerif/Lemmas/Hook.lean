/-
Helper lemmas for C17: facts about the primitive steps (`callHook`, `enterTag`, `exitTag`) and three invariants of
`exec`, each by mutual induction over programs: `Stable` (what a run leaves alone), `Refines`/`RefinesTop` (a run does
what the program text says) and `Grown` (what the tag of each entered block gains).
-/
import HtmlVerif.Spec.Hook

namespace HtmlVerif.Hook
open HtmlVerif

@[simp] theorem addChildren_hook (s : St) (t : TagId) (its : List Item) : (s.addChildren t its).hook = s.hook := rfl
@[simp] theorem addChildren_outer (s : St) (t : TagId) (its : List Item) : (s.addChildren t its).outer = s.outer := rfl

@[simp] theorem addChildren_prev (s : St) (t u : TagId) (its : List Item) :
    ((s.addChildren t its).tags u).prev = (s.tags u).prev := by
  simp only [St.addChildren]; split <;> simp_all

@[simp] theorem addChildren_children_self (s : St) (t : TagId) (its : List Item) :
    ((s.addChildren t its).tags t).children = (s.tags t).children ++ its := by
  simp [St.addChildren]

theorem addChildren_children_ne (s : St) (t u : TagId) (its : List Item) (h : u ≠ t) :
    ((s.addChildren t its).tags u).children = (s.tags u).children := by
  simp [St.addChildren, h]

theorem addChildren_nil (s : St) (t : TagId) : s.addChildren t [] = s := by
  cases s with
  | mk hk tg ou =>
    simp only [St.addChildren, List.append_nil]
    congr
    funext u
    split <;> simp_all

/-- the wrapper installed by `__enter__`, as one equation -/
theorem callHook_wrap (t : TagId) (v : Val) (s : St) :
    callHook (.wrap t) v s = (normDisplayed v).map (s.addChildren t) := by
  simp only [callHook, normDisplayed]
  cases h : wrapFilter v with
  | none => simp [Except.map, addChildren_nil]
  | some v' => simp only []; cases toItems v' <;> rfl

theorem callHook_ok {h : HookId} {v : Val} {s s' : St} (hc : callHook h v s = .ok s') :
    s'.hook = s.hook ∧ (∀ u, (s'.tags u).prev = (s.tags u).prev) ∧
      (∀ u, h ≠ .wrap u → (s'.tags u).children = (s.tags u).children) ∧ (h ≠ .outer → s'.outer = s.outer) := by
  cases h with
  | outer => cases hc; exact ⟨rfl, fun _ => rfl, fun _ _ => rfl, fun hne => absurd rfl hne⟩
  | unset => cases hc
  | wrap t =>
    rw [callHook_wrap] at hc
    cases hn : normDisplayed v with
    | error e => rw [hn] at hc; cases hc
    | ok its =>
      rw [hn] at hc; cases hc
      exact ⟨rfl, fun u => addChildren_prev .., fun u hne => addChildren_children_ne _ _ _ _ (fun e => hne (e ▸ rfl)),
        fun _ => rfl⟩

theorem callHook_tagRef_ok (h : HookId) (t : TagId) (s : St) (hu : h ≠ .unset) :
    ∃ s', callHook h (.tagRef t) s = .ok s' := by
  cases h with
  | outer => exact ⟨_, rfl⟩
  | unset => exact absurd rfl hu
  | wrap x => exact ⟨_, rfl⟩

/-! ### the child rules: `flatten`, then the loop -/

theorem nodeOf_toVal (i : Item) : nodeOf i.toVal = .ok i := by cases i <;> rfl

theorem toNodes_map_toVal (its : List Item) : toNodes (its.map Item.toVal) = .ok its := by
  induction its with
  | nil => rfl
  | cons i its ih => simp [toNodes, nodeOf_toVal, ih]

theorem nodeOf_error {v : Val} {e : Err} (h : nodeOf v = .error e) : e = .typeError := by
  cases v <;> cases h <;> rfl

theorem toNodes_error {l : List Val} {e : Err} (h : toNodes l = .error e) : e = .typeError := by
  induction l with
  | nil => cases h
  | cons v l ih =>
    simp only [toNodes] at h
    split at h
    · next hv => cases h; exact nodeOf_error hv
    · split at h
      · next hl => cases h; exact ih hl
      · cases h

theorem toNodes_append (a b : List Val) : toNodes (a ++ b) = appendE (toNodes a) (toNodes b) := by
  induction a with
  | nil => cases hb : toNodes b <;> simp [toNodes, appendE, hb]
  | cons v a ih =>
    simp only [List.cons_append, toNodes, ih]
    cases nodeOf v with
    | error e => rfl
    | ok i => cases toNodes a <;> cases toNodes b <;> rfl

def failed : Except Err (List Item) → Bool
  | .error _ => true
  | .ok _ => false

theorem failed_appendE (a b : Except Err (List Item)) : failed (appendE a b) = (failed a || failed b) := by
  cases a <;> cases b <;> rfl

mutual
  theorem Val.failed_iff (v : Val) : failed (toNodes v.flat) = v.badChild := by
    cases v with
    | list vs => exact Vals.failed_iff vs
    | tuple vs => exact Vals.failed_iff vs
    | tagList its => exact congrArg failed (toNodes_map_toVal its)
    | _ => rfl
  theorem Vals.failed_iff (vs : Vals) : failed (toNodes vs.flat) = vs.anyBadChild := by
    cases vs with
    | nil => rfl
    | cons v vs =>
      simp only [Vals.flat, Vals.anyBadChild, toNodes_append, failed_appendE]
      rw [Val.failed_iff v, Vals.failed_iff vs]
end

theorem toItems_error_iff (v : Val) (e : Err) : toItems v = .error e ↔ e = .typeError ∧ v.badChild = true := by
  rw [← Val.failed_iff v, toItems]
  cases hn : toNodes v.flat with
  | error e' => cases toNodes_error hn; simp [failed, eq_comm]
  | ok its => simp [failed]

/-- a displayed value is appended as what the wrapper hands on; when it hands on nothing, that is like appending `None` -/
theorem normDisplayed_eq_toItems (v : Val) : normDisplayed v = toItems ((wrapFilter v).getD .none) := by
  unfold normDisplayed
  cases wrapFilter v <;> rfl

theorem rejected_eq_badChild (v : Val) : v.rejected = ((wrapFilter v).getD .none).badChild := by
  cases v <;> rfl

@[simp] theorem entered_hook (s : St) (t : TagId) : (s.entered t).hook = .wrap t := rfl
@[simp] theorem entered_outer (s : St) (t : TagId) : (s.entered t).outer = s.outer := rfl
@[simp] theorem entered_children (s : St) (t u : TagId) : ((s.entered t).tags u).children = (s.tags u).children := by
  simp only [St.entered]; split <;> simp_all
@[simp] theorem entered_prev_self (s : St) (t : TagId) : ((s.entered t).tags t).prev = some s.hook := by
  simp [St.entered]
theorem entered_prev_ne (s : St) (t u : TagId) (h : u ≠ t) : ((s.entered t).tags u).prev = (s.tags u).prev := by
  simp [St.entered, h]

theorem enterTag_none {s : St} {t : TagId} (h : (s.tags t).prev = none) : enterTag t s = .ok (s.entered t) := by
  simp [enterTag, h]

theorem enterTag_some {s : St} {t : TagId} (h : (s.tags t).prev ≠ none) : enterTag t s = .error .runtimeError := by
  cases hp : (s.tags t).prev with
  | none => exact absurd hp h
  | some x => simp [enterTag, hp]

theorem exitTag_prev (t u : TagId) (s : St) : ((exitTag t s).1.tags u).prev = (s.tags u).prev := by
  simp only [exitTag]
  split
  · next s2 hc => simpa using (callHook_ok hc).2.1 u
  · rfl

theorem exitTag_saved {t : TagId} {s : St} {h : HookId} (hp : (s.tags t).prev = some h) :
    (exitTag t s).1.hook = h ∧ (∀ u, h ≠ .wrap u → ((exitTag t s).1.tags u).children = (s.tags u).children) ∧
      (h ≠ .outer → (exitTag t s).1.outer = s.outer) := by
  simp only [exitTag, hp]
  split
  · next s2 hc =>
    obtain ⟨h1, _, h3, h4⟩ := callHook_ok hc
    exact ⟨by simpa using h1, fun u hne => by simpa using h3 u hne, fun hne => by simpa using h4 hne⟩
  · exact ⟨rfl, fun _ _ => rfl, fun _ => rfl⟩

theorem exitTag_ok {t : TagId} {s : St} {h : HookId} (hp : (s.tags t).prev = some h) (hu : h ≠ .unset) :
    (exitTag t s).2 = .done := by
  obtain ⟨s2, hs2⟩ := callHook_tagRef_ok h t { s with hook := h } hu
  simp [exitTag, hp, hs2]

theorem exitTag_wrap {t x : TagId} {s : St} (hp : (s.tags t).prev = some (.wrap x)) :
    exitTag t s = (({ s with hook := .wrap x } : St).addChildren x [.tagRef t], .done) := by
  simp only [exitTag, hp]; rfl

theorem exitTag_outer {t : TagId} {s : St} (hp : (s.tags t).prev = some .outer) :
    exitTag t s = ({ s with hook := .outer, outer := s.outer ++ [.tagRef t] }, .done) := by
  simp only [exitTag, hp]; rfl

theorem display_exec_wrap {s : St} {x : TagId} (hk : s.hook = .wrap x) (v : Val) :
    (Prog.display v).exec s =
      match normDisplayed v with
      | .ok its => (s.addChildren x its, .done)
      | .error e => (s, .raised e) := by
  simp only [Prog.exec, hk, callHook_wrap]
  cases normDisplayed v <;> rfl

theorem block_exec_none {s : St} {t : TagId} (b : Progs) (h : (s.tags t).prev = none) :
    (Prog.block t b).exec s =
      ((exitTag t (b.exec (s.entered t)).1).1,
       withOutcome (b.exec (s.entered t)).2 (exitTag t (b.exec (s.entered t)).1).2) := by
  simp [Prog.exec, enterTag_none h]

theorem block_exec_some {s : St} {t : TagId} (b : Progs) (h : (s.tags t).prev ≠ none) :
    (Prog.block t b).exec s = (s, .raised .runtimeError) := by
  simp [Prog.exec, enterTag_some h]

theorem Progs.exec_cons (p : Prog) (ps : Progs) (s : St) :
    (Progs.cons p ps).exec s =
      match (p.exec s).2 with
      | .done => ps.exec (p.exec s).1
      | .raised e => ((p.exec s).1, .raised e) := by
  rw [Progs.exec]
  split <;> simp_all

/-! ### what `exec` leaves alone, by mutual induction over programs -/

theorem ne_of_prev {s : St} {t u : TagId} (ht : (s.tags t).prev = none) (hu : (s.tags u).prev ≠ none) : u ≠ t := by
  intro e; subst e; exact hu ht

/-- what running statements from `s` to `s'` leaves alone: a `prev_displayhook` that is set is never changed again;
    `sys.displayhook` is what it was; a tag other than the current sink keeps its children, unless it is entered on
    the way; the outermost recorder is called only if it is the current hook -/
structure Stable (s s' : St) : Prop where
  prev  : ∀ u h, (s.tags u).prev = some h → (s'.tags u).prev = some h
  hook  : s'.hook = s.hook
  frame : ∀ u, s.hook ≠ .wrap u → (s.tags u).prev ≠ none ∨ (s'.tags u).prev = none →
    (s'.tags u).children = (s.tags u).children
  outer : s.hook ≠ .outer → s'.outer = s.outer

theorem Stable.refl (s : St) : Stable s s := ⟨fun _ _ h => h, rfl, fun _ _ _ => rfl, fun _ => rfl⟩

theorem Stable.prev_ne {s s' : St} (h : Stable s s') {u : TagId} (hu : (s.tags u).prev ≠ none) :
    (s'.tags u).prev ≠ none := by
  obtain ⟨y, hy⟩ := Option.ne_none_iff_exists'.mp hu
  simp [h.prev u y hy]

theorem Stable.prev_none {s s' : St} (h : Stable s s') {u : TagId} (hu : (s'.tags u).prev = none) :
    (s.tags u).prev = none :=
  Decidable.of_not_not fun hn => h.prev_ne hn hu

theorem Stable.trans {a b c : St} (h1 : Stable a b) (h2 : Stable b c) : Stable a c where
  prev u h hp := h2.prev u h (h1.prev u h hp)
  hook := h2.hook.trans h1.hook
  outer hk := (h2.outer (h1.hook ▸ hk)).trans (h1.outer hk)
  -- entered before `a`: still entered at `b`; not entered at `c`: not entered at `b` either
  frame u hk hu := by
    rw [h2.frame u (h1.hook ▸ hk) (hu.imp_left h1.prev_ne), h1.frame u hk (hu.imp_right h2.prev_none)]

theorem block_stable {s s' : St} {t : TagId} (ht : (s.tags t).prev = none) (ih : Stable (s.entered t) s') :
    Stable s (exitTag t s').1 := by
  have hp2 := ih.prev t s.hook (entered_prev_self s t)
  obtain ⟨x1, x2, x3⟩ := exitTag_saved hp2
  refine ⟨fun u h hp => ?_, x1, fun u hk hu => ?_, fun hk => ?_⟩
  · rw [exitTag_prev]
    exact ih.prev u h (by rw [entered_prev_ne _ _ _ (ne_of_prev ht (by simp [hp]))]; exact hp)
  · have hne : u ≠ t := hu.elim (ne_of_prev ht) fun h e => by subst e; rw [exitTag_prev, hp2] at h; cases h
    rw [x2 u hk, ih.frame u (fun e => hne (HookId.wrap.inj e).symm)
      (hu.imp (by rw [entered_prev_ne _ _ _ hne]; exact id) (by rw [exitTag_prev]; exact id)), entered_children]
  · rw [x3 hk, ih.outer (by simp), entered_outer]

mutual
  theorem Prog.exec_stable (p : Prog) (s : St) : Stable s (p.exec s).1 := by
    cases p with
    | display v =>
      simp only [Prog.exec]
      split
      · next s' hc =>
        have ⟨h1, h2, h3, h4⟩ := callHook_ok hc
        exact ⟨fun u _ hp => (h2 u).trans hp, h1, fun u hk _ => h3 u hk, h4⟩
      · exact .refl s
    | raise => exact .refl s
    | rebind _ => exact .refl s
    | block t b =>
      by_cases ht : (s.tags t).prev = none
      · rw [block_exec_none b ht]; exact block_stable ht (Progs.exec_stable b _)
      · rw [block_exec_some b ht]; exact .refl s
  theorem Progs.exec_stable (ps : Progs) (s : St) : Stable s (ps.exec s).1 := by
    cases ps with
    | nil => exact .refl s
    | cons p ps =>
      rw [Progs.exec_cons]
      split
      · exact (Prog.exec_stable p s).trans (Progs.exec_stable ps _)
      · exact Prog.exec_stable p s
end

/-! ### one block, from outside -/

theorem body_prev (b : Progs) (s : St) (t : TagId) : ((b.exec (s.entered t)).1.tags t).prev = some s.hook :=
  (Progs.exec_stable b _).prev t s.hook (entered_prev_self s t)

theorem block_outcome {s : St} {t : TagId} (b : Progs) (ht : (s.tags t).prev = none) (hu : s.hook ≠ .unset) :
    ((Prog.block t b).exec s).2 = (b.exec (s.entered t)).2 := by
  rw [block_exec_none b ht, exitTag_ok (body_prev b s t) hu]
  rfl

theorem block_sink {s : St} {t x : TagId} (b : Progs) (ht : (s.tags t).prev = none) (hk : s.hook = .wrap x)
    (hx : (s.tags x).prev ≠ none) :
    (((Prog.block t b).exec s).1.tags x).children = (s.tags x).children ++ [.tagRef t] := by
  have hxt : x ≠ t := ne_of_prev ht hx
  have hfr := (Progs.exec_stable b (s.entered t)).frame x (fun e => hxt (HookId.wrap.inj e).symm)
    (.inl (by rw [entered_prev_ne _ _ _ hxt]; exact hx))
  rw [block_exec_none b ht, exitTag_wrap (hk ▸ body_prev b s t)]
  simp [hfr]

theorem block_log {s : St} {t : TagId} (b : Progs) (ht : (s.tags t).prev = none) (hk : s.hook = .outer) :
    ((Prog.block t b).exec s).1.outer = s.outer ++ [.tagRef t] := by
  rw [block_exec_none b ht, exitTag_outer (hk ▸ body_prev b s t)]
  simp [(Progs.exec_stable b (s.entered t)).outer (by simp)]

/-! ### refinement: the hook-driven execution computes what the program text says (`spec`) -/

theorem agree_entered {s : St} {E : List TagId} {t : TagId} (hA : Agree s E) :
    Agree (s.entered t) (t :: E) := by
  intro u
  by_cases hu : u = t
  · subst hu; simp
  · rw [entered_prev_ne _ _ _ hu, ← hA u]; simp [hu]

theorem prev_none_of_notin {s : St} {E : List TagId} {t : TagId} (hA : Agree s E) (h : t ∉ E) :
    (s.tags t).prev = none :=
  Decidable.of_not_not fun hp => h ((hA t).mpr hp)

/-- what `exec` (result `r`, from state `s`, under the wrapper of tag `x`) and `spec` (`d`) must agree on -/
structure Refines (x : TagId) (s : St) (r : St × Outcome) (d : Direct Item) : Prop where
  outcome : r.2 = d.outcome
  agree   : Agree r.1 d.entered
  sink    : (r.1.tags x).children = (s.tags x).children ++ d.items

theorem Refines.skip {x : TagId} {s : St} {E : List TagId} {o : Outcome} (hA : Agree s E) :
    Refines x s (s, o) ⟨[], E, o⟩ :=
  ⟨rfl, hA, (List.append_nil _).symm⟩

theorem block_refines {s : St} {t : TagId} {b : Progs} {d : Direct Item} (ht : (s.tags t).prev = none)
    (hu : s.hook ≠ .unset) (ih : Refines t (s.entered t) (b.exec (s.entered t)) d) :
    ((Prog.block t b).exec s).2 = d.outcome ∧ Agree ((Prog.block t b).exec s).1 d.entered :=
  ⟨(block_outcome b ht hu).trans ih.outcome, fun u => by rw [block_exec_none b ht, exitTag_prev]; exact ih.agree u⟩

mutual
  theorem Prog.exec_spec (p : Prog) (s : St) (E : List TagId) (x : TagId) (hA : Agree s E)
      (hk : s.hook = .wrap x) (hx : (s.tags x).prev ≠ none) : Refines x s (p.exec s) (p.spec E) := by
    cases p with
    | display v =>
      rw [display_exec_wrap hk, Prog.spec]
      cases normDisplayed v with
      | error e => exact .skip hA
      | ok its => exact ⟨rfl, fun u => addChildren_prev s x u its ▸ hA u, addChildren_children_self s x its⟩
    | raise => exact .skip hA
    | rebind _ => exact .skip hA
    | block t b =>
      by_cases htE : t ∈ E
      · rw [block_exec_some b ((hA t).mp htE)]
        simp only [Prog.spec, htE, if_true]
        exact .skip hA
      · have ht := prev_none_of_notin hA htE
        have hb := block_refines ht (by simp [hk]) (Progs.exec_spec b _ (t :: E) t (agree_entered hA) rfl (by simp))
        simp only [Prog.spec, htE, if_false]
        exact ⟨hb.1, hb.2, block_sink b ht hk hx⟩
  theorem Progs.exec_spec (ps : Progs) (s : St) (E : List TagId) (x : TagId) (hA : Agree s E)
      (hk : s.hook = .wrap x) (hx : (s.tags x).prev ≠ none) : Refines x s (ps.exec s) (ps.spec E) := by
    cases ps with
    | nil => exact .skip hA
    | cons p ps =>
      have h1 := Prog.exec_spec p s E x hA hk hx
      have st := Prog.exec_stable p s
      have ih := Progs.exec_spec ps _ _ x h1.agree (st.hook.trans hk) (st.prev_ne hx)
      simp only [Progs.exec_cons, Progs.spec, ← h1.outcome]
      cases (p.exec s).2 with
      | done => exact ⟨ih.outcome, ih.agree, by rw [ih.sink, h1.sink, List.append_assoc]⟩
      | raised e => exact ⟨rfl, h1.agree, h1.sink⟩
end

theorem body_spec {s : St} {E : List TagId} {t : TagId} (b : Progs) (hA : Agree s E) :
    Refines t (s.entered t) (b.exec (s.entered t)) (b.spec (t :: E)) :=
  Progs.exec_spec b (s.entered t) (t :: E) t (agree_entered hA) rfl (by simp)

/-! ### the blocks entered on the way -/

/-- from `s` to `s'` the tag of the block `q` is entered and gains exactly the items listed with it -/
structure Grown (s s' : St) (q : TagId × List Item) : Prop where
  fresh    : (s.tags q.1).prev = none
  entered  : (s'.tags q.1).prev ≠ none
  children : (s'.tags q.1).children = (s.tags q.1).children ++ q.2

theorem Grown.cons {s : St} {p : Prog} {ps : Progs} {L₁ L₂ : List (TagId × List Item)}
    (hw : ∀ x, s.hook = .wrap x → (s.tags x).prev ≠ none) (g₁ : ∀ q ∈ L₁, Grown s (p.exec s).1 q)
    (g₂ : ∀ q ∈ L₂, Grown (p.exec s).1 (ps.exec (p.exec s).1).1 q) :
    ∀ q ∈ L₁ ++ match (p.exec s).2 with | .done => L₂ | .raised _ => [],
      Grown s ((Progs.cons p ps).exec s).1 q := by
  have h1 := Prog.exec_stable p s
  have h2 := Progs.exec_stable ps (p.exec s).1
  rw [Progs.exec_cons]
  cases (p.exec s).2 with
  | done =>
    intro q hq
    cases List.mem_append.mp hq with
    | inl h =>
      -- the rest does not disturb a block that has ended
      have g := g₁ q h
      exact ⟨g.fresh, h2.prev_ne g.entered,
        (h2.frame q.1 (fun e => hw _ (h1.hook ▸ e) g.fresh) (.inl g.entered)).trans g.children⟩
    | inr h =>
      -- the first statement has not touched a tag that is entered only later
      have g := g₂ q h
      have hf := h1.prev_none g.fresh
      exact ⟨hf, g.entered, by rw [g.children, h1.frame q.1 (fun e => hw _ e hf) (.inr g.fresh)]⟩
  | raised e => rwa [List.append_nil]

theorem Grown.enter {s s' : St} {t : TagId} {q : TagId × List Item} (g : Grown (s.entered t) s' q) : Grown s s' q := by
  have hne : q.1 ≠ t := (ne_of_prev g.fresh (by simp)).symm
  exact ⟨entered_prev_ne s t _ hne ▸ g.fresh, g.entered, entered_children s t _ ▸ g.children⟩

mutual
  theorem Prog.exec_grown (p : Prog) (s : St) (E : List TagId) (hA : Agree s E)
      (hw : ∀ x, s.hook = .wrap x → (s.tags x).prev ≠ none) : ∀ q ∈ p.blocks E, Grown s (p.exec s).1 q := by
    intro q hq
    cases p with
    | block t b =>
      by_cases htE : t ∈ E
      · simp [Prog.blocks, htE] at hq
      · have ht := prev_none_of_notin hA htE
        have hp2 := body_prev b s t
        have g : Grown s (b.exec (s.entered t)).1 q := by
          simp only [Prog.blocks, htE, if_false, List.mem_cons] at hq
          cases hq with
          | inl h => subst h; exact ⟨ht, by rw [hp2]; nofun, entered_children s t t ▸ (body_spec b hA).sink⟩
          | inr h => exact (Progs.exec_grown b _ (t :: E) t (agree_entered hA) rfl (by simp) q h).enter
        -- `__exit__` hands its tag to the saved hook only, and that is not the wrapper of a fresh tag
        rw [block_exec_none b ht]
        exact ⟨g.fresh, by rw [exitTag_prev]; exact g.entered,
          ((exitTag_saved hp2).2.1 _ fun e => hw _ e g.fresh).trans g.children⟩
    | _ => cases hq
  theorem Progs.exec_grown (ps : Progs) (s : St) (E : List TagId) (x : TagId) (hA : Agree s E)
      (hk : s.hook = .wrap x) (hx : (s.tags x).prev ≠ none) : ∀ q ∈ ps.blocks E, Grown s (ps.exec s).1 q := by
    cases ps with
    | nil => intro _ h; cases h
    | cons p ps =>
      have hw : ∀ y, s.hook = .wrap y → (s.tags y).prev ≠ none := fun y hy => by cases hk.symm.trans hy; exact hx
      have h1 := Prog.exec_spec p s E x hA hk hx
      have st := Prog.exec_stable p s
      rw [Progs.blocks, ← h1.outcome]
      exact .cons hw (Prog.exec_grown p s E hA hw)
        (Progs.exec_grown ps _ _ x h1.agree (st.hook.trans hk) (st.prev_ne hx))
end

theorem Progs.exec_blocks (ps : Progs) (s : St) (E : List TagId) (x : TagId) (hA : Agree s E)
    (hk : s.hook = .wrap x) (hx : (s.tags x).prev ≠ none) :
    ∀ q ∈ ps.blocks E, ((ps.exec s).1.tags q.1).children = (s.tags q.1).children ++ q.2 :=
  fun q hq => (Progs.exec_grown ps s E x hA hk hx q hq).children

/-! ### top level: under the outermost recorder -/

/-- what `exec` and `specTop` must agree on under the outermost hook -/
structure RefinesTop (s : St) (r : St × Outcome) (d : Direct Val) : Prop where
  outcome : r.2 = d.outcome
  agree   : Agree r.1 d.entered
  log     : r.1.outer = s.outer ++ d.items

theorem RefinesTop.skip {s : St} {E : List TagId} {o : Outcome} (hA : Agree s E) : RefinesTop s (s, o) ⟨[], E, o⟩ :=
  ⟨rfl, hA, (List.append_nil _).symm⟩

theorem Prog.exec_specTop (p : Prog) (s : St) (E : List TagId) (hA : Agree s E) (hk : s.hook = .outer) :
    RefinesTop s (p.exec s) (p.specTop E) := by
  cases p with
  | display v => simp only [Prog.exec, hk, callHook, Prog.specTop]; exact ⟨rfl, hA, rfl⟩
  | raise => exact .skip hA
  | rebind _ => exact .skip hA
  | block t b =>
    by_cases htE : t ∈ E
    · rw [block_exec_some b ((hA t).mp htE)]
      simp only [Prog.specTop, htE, if_true]
      exact .skip hA
    · have ht := prev_none_of_notin hA htE
      have hb := block_refines ht (by simp [hk]) (body_spec b hA)
      simp only [Prog.specTop, htE, if_false]
      exact ⟨hb.1, hb.2, block_log b ht hk⟩

theorem Progs.exec_specTop (ps : Progs) (s : St) (E : List TagId) (hA : Agree s E) (hk : s.hook = .outer) :
    RefinesTop s (ps.exec s) (ps.specTop E) := by
  cases ps with
  | nil => exact .skip hA
  | cons p ps =>
    have h1 := Prog.exec_specTop p s E hA hk
    have ih := Progs.exec_specTop ps _ _ h1.agree ((Prog.exec_stable p s).hook.trans hk)
    simp only [Progs.exec_cons, Progs.specTop, ← h1.outcome]
    cases (p.exec s).2 with
    | done => exact ⟨ih.outcome, ih.agree, by rw [ih.log, h1.log, List.append_assoc]⟩
    | raised e => exact ⟨rfl, h1.agree, h1.log⟩

theorem Progs.exec_grownTop (ps : Progs) (s : St) (E : List TagId) (hA : Agree s E) (hk : s.hook = .outer) :
    ∀ q ∈ ps.blocksTop E, Grown s (ps.exec s).1 q := by
  cases ps with
  | nil => intro _ h; cases h
  | cons p ps =>
    have hw : ∀ y, s.hook = .wrap y → (s.tags y).prev ≠ none := fun y hy => by cases hk.symm.trans hy
    have h1 := Prog.exec_specTop p s E hA hk
    rw [Progs.blocksTop, ← h1.outcome]
    exact .cons hw (Prog.exec_grown p s E hA hw)
      (Progs.exec_grownTop ps _ _ h1.agree ((Prog.exec_stable p s).hook.trans hk))

/-! ### the per-block restore flags -/

mutual
  theorem Prog.flags_true (p : Prog) (s : St) : ∀ f ∈ p.flags s, f = true := by
    cases p with
    | block t b =>
      simp only [Prog.flags, List.forall_mem_cons]
      refine ⟨decide_eq_true (Prog.exec_stable _ s).hook, ?_⟩
      split
      · exact Progs.flags_true b _
      · intro _ h; cases h
    | _ => intro _ h; cases h
  theorem Progs.flags_true (ps : Progs) (s : St) : ∀ f ∈ ps.flags s, f = true := by
    cases ps with
    | nil => intro _ h; cases h
    | cons p ps =>
      simp only [Progs.flags, List.forall_mem_append]
      refine ⟨Prog.flags_true p s, ?_⟩
      split
      · exact Progs.flags_true ps _
      · intro _ h; cases h
end

/-! ### current behaviour that the property does not ask for (documentation only — no obligation of C17, and the
harness generates no program that depends on it) -/

/-- observed on the pinned code: `__exit__` does not clear `prev_displayhook`, so a tag whose block has *ended* cannot
    be entered again either; nothing changes then.  The property only speaks of a tag whose block is still active; a
    maintainer who clears the field on exit (making tags reusable) changes this lemma, not the property. -/
theorem reenter_exited (t : TagId) (b b' : Progs) (s : St) (h : (s.tags t).prev = none) :
    (Prog.block t b').exec ((Prog.block t b).exec s).1 = (((Prog.block t b).exec s).1, .raised .runtimeError) := by
  apply block_exec_some
  rw [block_exec_none b h, exitTag_prev, body_prev b s t]
  simp

end HtmlVerif.Hook
