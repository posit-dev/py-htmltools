/-
Scanning (C13): leftmost-occurrence search, the OPEN/CLOSE specific "no earlier occurrence" facts, the scan
of an interleaving of text chunks and elements, and the keep-first deduplication.
-/
import HtmlVerif.Lemmas.Neutralise
import HtmlVerif.Model.TextDoc

namespace HtmlVerif

theorem findSub_eq_none (pat s : Str) : findSub pat s = none ↔ ¬ pat <:+: s := by
  induction s with
  | nil => cases pat <;> simp [findSub]
  | cons c r ih =>
    rw [findSub, List.infix_cons_iff, ← List.isPrefixOf_iff_prefix, not_or, ← ih]
    cases pat.isPrefixOf (c :: r) <;> cases findSub pat r <;> simp

theorem findSub_here (pat rest : Str) : findSub pat (pat ++ rest) = some ([], rest) := by
  cases h : pat ++ rest with
  | nil => obtain ⟨rfl, rfl⟩ := List.append_eq_nil_iff.mp h; rfl
  | cons c r =>
    rw [findSub, if_pos (h ▸ List.isPrefixOf_iff_prefix.mpr (List.prefix_append pat rest)), ← h, List.drop_left]

theorem findSub_leftmost (pat b a : Str) (h : ∀ k, k < b.length → ¬ pat <+: (b ++ (pat ++ a)).drop k) :
    findSub pat (b ++ (pat ++ a)) = some (b, a) := by
  induction b with
  | nil => exact findSub_here pat a
  | cons c t ih =>
    have hpre : ¬ pat.isPrefixOf (c :: (t ++ (pat ++ a))) = true := fun hh =>
      h 0 (Nat.zero_lt_succ _) (List.isPrefixOf_iff_prefix.mp hh)
    rw [List.cons_append, findSub, if_neg hpre, ih fun k hk => h (k + 1) (Nat.succ_lt_succ hk)]

theorem findSub_some (pat s b a : Str) (h : findSub pat s = some (b, a)) :
    s = b ++ pat ++ a ∧ ∀ k, k < b.length → ¬ pat <+: s.drop k := by
  induction s generalizing b with
  | nil => cases pat <;> simp_all [findSub]
  | cons c r ih =>
    rw [findSub] at h
    split at h
    next hp =>
      obtain ⟨rfl, rfl⟩ : [] = b ∧ _ = a := by simpa using h
      exact ⟨by simpa using (List.prefix_iff_eq_append.mp (List.isPrefixOf_iff_prefix.mp hp)).symm, by simp⟩
    next hp =>
      cases hr : findSub pat r with
      | none => simp [hr] at h
      | some p =>
        obtain ⟨b', a'⟩ := p
        obtain ⟨rfl, rfl⟩ : c :: b' = b ∧ a' = a := by simpa [hr] using h
        obtain ⟨e, hmin⟩ := ih b' hr
        refine ⟨by rw [e]; simp, fun k hk => ?_⟩
        cases k with
        | zero => exact fun hpre => hp (List.isPrefixOf_iff_prefix.mpr hpre)
        | succ k => exact hmin k (Nat.lt_of_succ_lt_succ hk)

/-! ### OPEN and CLOSE: `<` occurs only at the start -/

/-- before an occurrence of a pattern whose first character does not occur in it again, no occurrence
    starts inside a text that contains none: it would have to overlap the start of the one that follows -/
theorem no_early_of_head_unique {p : Char} {ps : Str} (hp : p ∉ ps) (t rest : Str) (h : ¬ (p :: ps) <:+: t)
    (k : Nat) (hk : k < t.length) : ¬ (p :: ps) <+: (t ++ (p :: ps ++ rest)).drop k := by
  rintro ⟨z, hz⟩
  rw [List.drop_append_of_le_length (Nat.le_of_lt hk), List.append_eq_append_iff] at hz
  have hsuf : t.drop k <:+: t := (List.drop_suffix k t).isInfix
  rcases hz with ⟨a', hw, _⟩ | ⟨c', ho, hc⟩
  · exact h (List.IsInfix.trans ⟨[], a', hw.symm⟩ hsuf)
  · cases c' with
    | nil => exact h (by rw [ho, List.append_nil]; exact hsuf)
    | cons x u =>
      obtain rfl : p = x := (List.cons.inj hc).1
      cases hd : t.drop k with
      | nil => exact absurd (congrArg List.length hd) (by simp; omega)
      | cons w0 w' =>
        rw [hd] at ho
        exact hp ((List.cons.inj ho).2 ▸ by simp)

theorem findSub_open (t rest : Str) (h : ¬ openMarker <:+: t) :
    findSub openMarker (t ++ (openMarker ++ rest)) = some (t, rest) :=
  findSub_leftmost _ t rest (no_early_of_head_unique (by decide +kernel) t rest h)

/-- the first CLOSE after a body without `</` (so without CLOSE) is the one right after it -/
theorem findSub_close (body post : Str) (h : hasLtSlash body = false) :
    findSub closeMarker (body ++ (closeMarker ++ post)) = some (body, post) :=
  findSub_leftmost _ body post (no_early_of_head_unique (by decide +kernel) body post fun hi =>
    Bool.noConfusion (h ▸ hasLtSlash_of_infix body (List.IsInfix.trans ⟨[], closeMarker.drop 2, rfl⟩ hi)))

/-- `t₀ ++ OPEN b₁ CLOSE ++ t₁ ++ … ++ OPEN bₙ CLOSE ++ tₙ` for (body, chunk after) pairs -/
def interleaveB (t0 : Str) : List (Str × Str) → Str
  | [] => t0
  | (b, t) :: r => t0 ++ (openMarker ++ (b ++ (closeMarker ++ interleaveB t r)))

def chunksOf (t0 : Str) : List (Str × Str) → Str
  | [] => t0
  | (_, t) :: r => t0 ++ chunksOf t r

theorem scan_interleaveB (t0 : Str) (items : List (Str × Str)) (f : Nat) (hf : items.length ≤ f)
    (h0 : ¬ openMarker <:+: t0)
    (hi : ∀ it ∈ items, hasLtSlash it.1 = false ∧ ¬ openMarker <:+: it.2) :
    scan f (interleaveB t0 items) = (chunksOf t0 items, items.map (·.1)) := by
  induction items generalizing t0 f with
  | nil =>
    cases f with
    | zero => rfl
    | succ f => simp [scan, interleaveB, chunksOf, (findSub_eq_none _ _).mpr h0]
  | cons it r ih =>
    obtain ⟨b, t⟩ := it
    obtain ⟨f, rfl⟩ := Nat.exists_eq_add_of_le' (Nat.le_trans (Nat.le_add_left 1 _) hf)
    obtain ⟨hb, hr⟩ := List.forall_mem_cons.mp hi
    simp only [interleaveB, scan, findSub_open t0 _ h0, findSub_close b _ hb.1,
      ih t f (Nat.le_of_succ_le_succ hf) hb.2 hr, chunksOf, List.map_cons]

theorem length_interleaveB (t0 : Str) (items : List (Str × Str)) : items.length ≤ (interleaveB t0 items).length := by
  induction items generalizing t0 with
  | nil => exact Nat.zero_le _
  | cons it r ih =>
    have := ih it.2
    have : 1 ≤ closeMarker.length := by decide
    simp only [interleaveB, List.length_append, List.length_cons]; omega

theorem dedupGo_filter (x : Str) (s1 s2 l : List Str) :
    dedupGo (s1 ++ x :: s2) l = dedupGo (s1 ++ s2) (l.filter (· ≠ x)) := by
  induction l generalizing s1 with
  | nil => rfl
  | cons b r ih =>
    by_cases hbx : b = x
    · subst hbx; simp [dedupGo, ih]
    · have hc : (s1 ++ x :: s2).contains b = (s1 ++ s2).contains b := by simp [hbx]
      simp only [List.filter_cons, ne_eq, hbx, not_false_eq_true, decide_true, if_true, dedupGo, hc]
      split
      · exact ih s1
      · exact congrArg (b :: ·) (ih (b :: s1))

theorem dedupKeepFirst_cons (x : Str) (l : List Str) :
    tdDedupKeepFirst (x :: l) = x :: tdDedupKeepFirst (l.filter (· ≠ x)) :=
  congrArg (x :: ·) (dedupGo_filter x [] [] l)

theorem dedupKeepFirst_nil : tdDedupKeepFirst [] = [] := rfl

/-- keep-first on items compared by a key (specification side) -/
def dedupOnGo {α} (key : α → Str) (seen : List Str) : List α → List α
  | [] => []
  | a :: r => if seen.contains (key a) then dedupOnGo key seen r else a :: dedupOnGo key (key a :: seen) r

def dedupOn {α} (key : α → Str) (l : List α) : List α := dedupOnGo key [] l

theorem dedupGo_map {α} (key : α → Str) (seen : List Str) (l : List α) :
    dedupGo seen (l.map key) = (dedupOnGo key seen l).map key := by
  induction l generalizing seen with
  | nil => rfl
  | cons a r ih =>
    simp only [List.map_cons, dedupGo, dedupOnGo]
    split <;> simp [ih]

theorem dedupKeepFirst_map {α} (key : α → Str) (l : List α) :
    tdDedupKeepFirst (l.map key) = (dedupOn key l).map key := dedupGo_map key [] l

theorem dedupOnGo_sublist {α} (key : α → Str) (seen : List Str) (l : List α) : (dedupOnGo key seen l).Sublist l := by
  induction l generalizing seen with
  | nil => exact .slnil
  | cons b r ih =>
    rw [dedupOnGo]
    split
    · exact (ih seen).cons b
    · exact (ih _).cons_cons b

theorem dedupOnGo_of_nodup {α} (key : α → Str) (seen : List Str) (l : List α) (hs : ∀ a ∈ l, key a ∉ seen)
    (hn : (l.map key).Nodup) : dedupOnGo key seen l = l := by
  induction l generalizing seen with
  | nil => rfl
  | cons a r ih =>
    rw [List.map_cons, List.nodup_cons] at hn
    have ha : seen.contains (key a) = false := by simpa using hs a (by simp)
    rw [dedupOnGo, ha, if_neg Bool.false_ne_true, ih _ (fun b hb => ?_) hn.2]
    exact List.not_mem_cons_of_ne_of_not_mem (fun e => hn.1 (e ▸ List.mem_map_of_mem hb))
      (hs b (List.mem_cons_of_mem _ hb))

end HtmlVerif
