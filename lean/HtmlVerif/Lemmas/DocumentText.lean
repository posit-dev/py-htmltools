/-
Helper definitions and lemmas tying the document model (`Model/Document.lean`) to the text-document model
(`Model/TextDoc.lean`): a dependency recovered from serialised JSON as a tree node, and the two halves of
"what `_hoist_head_content` appends = `headNodes`".
-/
import HtmlVerif.Lemmas.Document
import HtmlVerif.Model.TextDoc

namespace HtmlVerif.Doc
open HtmlVerif

/-- `HTMLDependency(**json.loads(text))` as a tree node: `head` text becomes `TagList(HTML(head))` -/
def sdepNode (d : SDep) : Node :=
  .dep d.info d.head.isSome (match d.head with
    | some h => .cons (.html h) .nil
    | none => .nil)

/-- `d.as_html_tags(lib_prefix=lp, include_version=iv)` of a recovered dependency (no nodes when it raises) -/
def sdepTags (cfg : Cfg) (lp : Option Str) (iv : Bool) (d : SDep) : Nodes :=
  match depTags cfg lp iv (sdepNode d) with
  | .ok ts => ts
  | .error _ => .nil

theorem listing_sdep (ds : List SDep) :
    listing (ds.map sdepNode) = (if ds.isEmpty then Nodes.nil else .cons (HtmlVerif.listingNode ds) .nil) := by
  cases ds with
  | nil => rfl
  | cons d r =>
    show Nodes.cons (Doc.listingNode _) .nil = .cons (HtmlVerif.listingNode (d :: r)) .nil
    unfold Doc.listingNode HtmlVerif.listingNode Doc.listingText HtmlVerif.listingText
    rw [List.map_map]
    rfl

theorem depTagsAll_sdep {cfg : Cfg} {lp : Option Str} {iv : Bool} {ds : List SDep} {tags : Nodes}
    (h : depTagsAll cfg lp iv (ds.map sdepNode) = .ok tags) : concatNodes (ds.map (sdepTags cfg lp iv)) = tags := by
  induction ds generalizing tags with
  | nil => cases h; rfl
  | cons d r ih =>
    simp only [List.map_cons, depTagsAll] at h
    cases hd : depTags cfg lp iv (sdepNode d) <;> cases hr : depTagsAll cfg lp iv (r.map sdepNode) <;>
      rw [hd, hr] at h <;> cases h
    simp [concatNodes, sdepTags, hd, ih hr]

end HtmlVerif.Doc
