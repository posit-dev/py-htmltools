/-
Helper lemmas for C12: `copyTo` as a whole, in its two modes.
-/
import HtmlVerif.Lemmas.Copy

namespace HtmlVerif
open FS

theorem resolve_posixJoin (a f : Str) (hf : f.head? ≠ some '/') :
    pathResolve (posixJoin a f) = pathResolve a ++ segs (utf8 f) := segs_utf8_posixJoin a f hf

theorem sourcePathMap_subdir {d : DepInfo} {pkg : Option Str} {dir abs : Str}
    (hsrc : d.source = .subdir pkg dir abs) (lp : Option Str) (iv : Bool) :
    sourcePathMap d lp iv = { source := abs, href := withPrefix lp (dirName d iv) } := by
  simp [sourcePathMap, hsrc]

theorem exists_of_isFile {fs : FS} {p : Path} (h : (fs.read p).isSome = true) : fs.exists p = true :=
  exists_iff.mpr (.inr ⟨[], by simpa using h⟩)

theorem copyTo_items {d : DepInfo} {pkg : Option Str} {dir abs : Str} (hsrc : d.source = .subdir pkg dir abs)
    (habs : abs ≠ []) {path : Str} {iv : Bool} {fs : FS} {items : List (Path × Path)}
    (hitems : copyItems d abs (posixJoin path (dirName d iv)) fs = .ok items)
    (hall : ∀ it ∈ items, fs.exists it.1 = true) (hpath : fs.fileOnPath (tgtDir d path iv) = false) :
    copyTo d path iv fs = copyLoop items (fs.removeTree (tgtDir d path iv)) := by
  have hall' : (items.all fun it => fs.exists it.1) = true := List.all_eq_true.mpr hall
  have hpath' : fs.fileOnPath (pathResolve (posixJoin path (dirName d iv))) = false := hpath
  simp [copyTo, sourcePathMap_subdir hsrc, withPrefix, habs, hitems, hall', hpath', tgtDir]

theorem read_removeTree_outside (fs : FS) {t q : Path} (h : ¬ t <+: q) : (fs.removeTree t).read q = fs.read q := by
  rw [read_removeTree, if_neg h]

theorem read_removeTree_under (fs : FS) (t q : Path) : (fs.removeTree t).read (t ++ q) = none := by
  rw [read_removeTree, if_pos (List.prefix_append t q)]

theorem copyTo_spec_listed {d : DepInfo} {pkg : Option Str} {dir abs : Str} (hsrc : d.source = .subdir pkg dir abs)
    (haf : d.allFiles = false) {path : Str} {iv : Bool} {fs : FS} (h : CopyReady d path iv fs) :
    ∃ fs', copyTo d path iv fs = (fs', .ok ()) ∧ CopySpec d path iv fs fs' := by
  simp only [CopyReady, hsrc, haf, Bool.false_eq_true, if_false] at h
  obtain ⟨habs, hST, hpath, fl, hfl, hf⟩ := h
  simp only [CopySpec, isLocal, hsrc, srcDir, wantedB, haf, hfl, if_true, Bool.false_eq_true, if_false,
    List.contains_iff_mem]
  have hitems : copyItems d abs (posixJoin path (dirName d iv)) fs
      = .ok ((fl.map fun f => segs (utf8 f)).map fun r => (pathResolve abs ++ r, tgtDir d path iv ++ r)) := by
    simp only [copyItems, haf, hfl, List.map_map, Bool.false_eq_true, ↓reduceIte]
    congr 1
    apply List.map_congr_left
    intro f hf'
    simp [resolve_posixJoin _ f (hf f hf').1, tgtDir]
  obtain ⟨fs', hl, hF, hS⟩ := copyLoop_files hST (fl.map fun f => segs (utf8 f)) (fs.removeTree (tgtDir d path iv))
    (by
      intro r hr
      obtain ⟨f, hf', rfl⟩ := List.mem_map.mp hr
      rw [read_removeTree_outside fs (not_prefix_of_apart hST _)]
      exact (hf f hf').2)
  refine ⟨fs', ?_, fun q hq => (hF q hq).trans (read_removeTree_outside fs hq), fun r => ?_⟩
  · rw [copyTo_items hsrc habs hitems ?_ hpath, hl]
    simp only [List.mem_map]
    rintro it ⟨r, ⟨f, hf', rfl⟩, rfl⟩
    exact exists_of_isFile (hf f hf').2
  · rw [hS r, read_removeTree_under, read_removeTree_outside fs (not_prefix_of_apart hST r)]

theorem mem_topLevel {fs : FS} {S : Path} {n : Bytes} :
    n ∈ fs.topLevel S ↔ ∃ r, (fs.read (S ++ n :: r)).isSome = true := by
  simp only [topLevel, mem_dedupB, List.mem_filterMap, mem_keysUnder, List.head?_eq_some_iff]
  constructor
  · rintro ⟨_, h, r, rfl⟩
    exact ⟨r, h⟩
  · rintro ⟨r, h⟩
    exact ⟨_, h, r, rfl⟩

theorem exists_of_topLevel {fs : FS} {S : Path} {n : Bytes} (h : n ∈ fs.topLevel S) :
    fs.exists (S ++ [n]) = true := by
  obtain ⟨r, hr⟩ := mem_topLevel.mp h
  exact exists_iff.mpr (.inr ⟨r, by simpa using hr⟩)

theorem copyTo_spec_all {d : DepInfo} {pkg : Option Str} {dir abs : Str} (hsrc : d.source = .subdir pkg dir abs)
    (haf : d.allFiles = true) {path : Str} {iv : Bool} {fs : FS} (h : CopyReady d path iv fs) :
    ∃ fs', copyTo d path iv fs = (fs', .ok ()) ∧ CopySpec d path iv fs fs' := by
  simp only [CopyReady, hsrc, haf, if_true] at h
  obtain ⟨habs, hST, hpath, hwf⟩ := h
  simp only [CopySpec, isLocal, hsrc, srcDir, wantedB, haf, if_true]
  have hitems : copyItems d abs (posixJoin path (dirName d iv)) fs
      = .ok ((fs.topLevel (pathResolve abs)).map fun n => (pathResolve abs ++ [n], tgtDir d path iv ++ [n])) := by
    simp [copyItems, haf, tgtDir]
  have hclr := read_removeTree_under fs (tgtDir d path iv)
  have hkeep : ∀ x, (fs.removeTree (tgtDir d path iv)).read (pathResolve abs ++ x) = fs.read (pathResolve abs ++ x) :=
    fun x => read_removeTree_outside fs (not_prefix_of_apart hST x)
  obtain ⟨fs', hl, hin, hout⟩ := copyLoop_all hST (fs.topLevel (pathResolve abs)) (fs.removeTree (tgtDir d path iv))
    (nodup_dedupB _) (hwf.congr hkeep) (fun n _ r => hclr (n :: r))
  refine ⟨fs', ?_, fun q hq => ?_, fun r => ?_⟩
  · rw [copyTo_items hsrc habs hitems ?_ hpath, hl]
    simp only [List.mem_map]
    rintro it ⟨n, hn, rfl⟩
    exact exists_of_topLevel hn
  · rw [hout q (fun n _ h => hq ((List.prefix_append _ [n]).trans h)), read_removeTree_outside fs hq]
  · match r with
    | [] => simpa using (hout _ (fun n _ h => Nat.not_succ_le_self _ (by simpa using h.length_le))).trans (hclr [])
    | n :: r =>
      by_cases hn : n ∈ fs.topLevel (pathResolve abs)
      · simp [hin n hn r, hkeep]
      · rw [hout _ (fun m hm h => hn (by rwa [← snoc_prefix_cons.mp h])), hclr]
        simp [Option.not_isSome_iff_eq_none.mp fun hs => hn (mem_topLevel.mpr ⟨r, hs⟩)]

end HtmlVerif
