/-
Helper lemmas for C08's purity / repeat / tagify-equality clauses.
-/
import HtmlVerif.Model.ReadOps
import HtmlVerif.Spec.Ident
import HtmlVerif.Lemmas.Ident

namespace HtmlVerif.Ident
open HtmlVerif

/-! ### the Boolean guard implies the inductive one -/

theorem keysNodupB_iff {β} (a : List (Str × β)) : keysNodupB a = true ↔ keysNodup a := by
  simp [keysNodupB, keysNodup]

theorem depWfB_wf (d : DepInfo) (h : depWfB d = true) : d.wf := by
  simp only [depWfB, Bool.and_eq_true, List.all_eq_true] at h
  exact ⟨fun x hx => (keysNodupB_iff x).mp (h.1.1 x hx), fun x hx => (keysNodupB_iff x).mp (h.1.2 x hx),
    fun x hx => (keysNodupB_iff x).mp (h.2 x hx)⟩

mutual
  theorem plainB_plain (x : Node) (h : plainB x = true) : x.Plain := by
    cases x with
    | tag n w a k =>
      have h := Bool.and_eq_true_iff.mp h
      exact .tag ((keysNodupB_iff a).mp h.1) (plainKidsB_plain k h.2)
    | dep d hh k =>
      have h := Bool.and_eq_true_iff.mp h
      exact .dep (depWfB_wf d h.1) (plainKidsB_plain k h.2)
    | tobjL rh c => cases h
    | tobj1 rh c => cases h
    | _ => constructor
  theorem plainKidsB_plain (ks : Nodes) (h : plainKidsB ks = true) : ks.PlainKids := by
    cases ks with
    | nil => exact .nil
    | cons a t =>
      have h := Bool.and_eq_true_iff.mp h
      exact .cons (plainB_plain a h.1) (plainKidsB_plain t h.2)
end

mutual
  theorem plain_tagified (x : Node) (h : x.Plain) : x.tagified = true := by
    cases h with
    | tag _ hk => exact plainKids_tagified _ hk
    | _ => rfl
  theorem plainKids_tagified (ks : Nodes) (h : ks.PlainKids) : ks.tagifiedKids = true := by
    cases h with
    | nil => rfl
    | cons hh ht => exact Bool.and_eq_true_iff.mpr ⟨plain_tagified _ hh, plainKids_tagified _ ht⟩
end

theorem icopyShallow_erase (x : ITree) (n : Nat) : (x.icopyShallow n).1.erase = x.erase := by
  cases x <;> rfl

/-- for a Tag, what `TagList.tagify` puts in its place is `Tag.tagify()` of it -/
theorem itagify_of_tag (i a k : Nat) (nm : Str) (ws : Bool) (at' : Attrs) (kids : ITrees) (n : Nat) :
    (ITree.tag i a k nm ws at' kids).itagify n
      = (.cons ((ITree.tag i a k nm ws at' kids).itagifyTag n).1 .nil, ((ITree.tag i a k nm ws at' kids).itagifyTag n).2) :=
  rfl

theorem runSeq_spec {σ ω κ : Type} (step : κ → σ → Nat → ω × σ × Nat) (obs : κ → σ → ω)
    (h : ∀ o s n, (step o s n).2.1 = s ∧ (step o s n).1 = obs o s) (ops : List κ) (s : σ) (n : Nat) :
    (runSeq step ops s n).1 = ops.map (fun o => obs o s) ∧ (runSeq step ops s n).2.1 = s := by
  induction ops generalizing n with
  | nil => exact ⟨rfl, rfl⟩
  | cons o r ih => simp [runSeq, h, ih]

end HtmlVerif.Ident
