/-
The generated escape tables satisfy the table conditions (`decide +kernel`) and realise the per-character maps of the
specification.
-/
import HtmlVerif.Lemmas.Decode
import HtmlVerif.Lemmas.Escape
import HtmlVerif.Generated.Tables

namespace HtmlVerif

theorem textTbl_ok : TblOk Generated.textTbl = true := by decide +kernel
theorem attrTbl_ok : TblOk Generated.attrTbl = true := by decide +kernel

theorem escCharT_eq_of_escOf {tbl : List (Char × Str)} {sp : List Char} {c : Char} {out : Str} (h : EscOf sp c out)
    (hkeys : ∀ kv ∈ tbl, kv.1 ∈ sp) (hrows : ∀ kv ∈ escRows, kv.1 ∈ sp → escCharT tbl kv.1 = '&' :: kv.2) :
    escCharT tbl c = out := by
  obtain ⟨hc, rfl⟩ | ⟨hc, r, hr, rfl⟩ := h
  · have : tbl.find? (fun kv => kv.1 == c) = none :=
      List.find?_eq_none.mpr fun kv hkv e => hc (beq_iff_eq.mp e ▸ hkeys kv hkv)
    simp [escCharT, this]
  · exact hrows _ hr hc

theorem textTbl_spec (c : Char) : escCharT Generated.textTbl c = escTextChar c :=
  escCharT_eq_of_escOf (escTextChar_escOf c) (by decide +kernel) (by decide +kernel)

theorem attrTbl_spec (c : Char) : escCharT Generated.attrTbl c = escAttrChar c :=
  escCharT_eq_of_escOf (escAttrChar_escOf c) (by decide +kernel) (by decide +kernel)

/-- `html_escape(s)` (text table) is the per-character map of the specification -/
theorem escapeText_eq (s : Str) : htmlEscapeT Generated.textTbl s = s.flatMap escTextChar := by
  rw [htmlEscapeT_perChar _ (seqOk_of_TblOk _ textTbl_ok), funext textTbl_spec]

/-- `html_escape(s, attr=True)` is the per-character map of the specification -/
theorem escapeAttr_eq (s : Str) : htmlEscapeT Generated.attrTbl s = s.flatMap escAttrChar := by
  rw [htmlEscapeT_perChar _ (seqOk_of_TblOk _ attrTbl_ok), funext attrTbl_spec]

end HtmlVerif
