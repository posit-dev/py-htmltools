/-
Equations of the renderer (`Node.render`, `Nodes.renderKids`, Model/Render.lean) used by the layout properties: one step of the
child loop per kind of child, the two early exits and the general path of a tag, and that the loop sees only visible children.
-/
import HtmlVerif.Spec.Flat
import HtmlVerif.Lemmas.Nodes

namespace HtmlVerif

theorem inlineChild?_some {v : List Node} {c : Str × Bool} (h : inlineChild? v = some c) :
    (c.2 = false ∧ v = [.text c.1]) ∨ (c.2 = true ∧ v = [.html c.1]) := by
  unfold inlineChild? at h
  split at h <;> simp_all
  · cases h; simp
  · cases h; simp

@[simp] theorem inlineChild?_nil : inlineChild? [] = none := rfl
@[simp] theorem inlineChild?_text (s : Str) : inlineChild? [.text s] = some (s, false) := rfl
@[simp] theorem inlineChild?_html (s : Str) : inlineChild? [.html s] = some (s, true) := rfl
@[simp] theorem inlineChild?_two (a b : Node) (r : List Node) : inlineChild? (a :: b :: r) = none := by
  cases a <;> rfl

@[simp] theorem indentStr_zero : indentStr 0 = [] := rfl

theorem noWs_tag {n : Str} {w : Bool} {a : Attrs} {k : Nodes} (h : (Node.tag n w a k).noWs = true) :
    w = false ∧ k.noWsKids = true := by
  simpa [Node.noWs] using h

theorem flatKids_cons (cfg : Cfg) (h : Node) (t : Nodes) (esc : Bool) :
    (Nodes.cons h t).flatKids cfg esc = h.flatIn cfg esc ++ t.flatKids cfg esc := by
  cases h <;> rfl

theorem flatIn_meta (cfg : Cfg) (esc : Bool) {h : Node} (hm : h.isMeta = true) : h.flatIn cfg esc = [] := by
  cases h <;> first | rfl | cases hm

theorem flatKids_eq_visible (cfg : Cfg) (ks : Nodes) (esc : Bool) :
    ks.flatKids cfg esc = ks.visible.flatMap (Node.flatIn cfg esc) := by
  induction ks with
  | nil => rfl
  | cons h t ih =>
    rw [flatKids_cons, ih]
    by_cases hm : h.isMeta = true <;> simp [Nodes.visible, hm, flatIn_meta]

/-! ### a tag: the two early exits, and the child loop -/

/-- the tag these are the children of takes an early exit of `Tag.get_html_string`: no visible child, or a
    single text child -/
def Nodes.oneLine (ks : Nodes) : Bool := ks.visible.isEmpty || (inlineChild? ks.visible).isSome

section tag
variable (cfg : Cfg) (name : Str) (ws : Bool) (attrs : Attrs) (kids : Nodes) (i : Nat) (e : Str)

theorem render_oneLine (h : kids.oneLine = true) :
    (Node.tag name ws attrs kids).render cfg i e = indentStr i ++ (Node.tag name ws attrs kids).flat cfg := by
  simp only [Node.render, Node.flat]
  by_cases h0 : kids.visible.isEmpty = true
  · by_cases hv : name ∈ cfg.void <;> simp [h0, hv]
  · simp only [Nodes.oneLine, h0, Bool.false_or, Option.isSome_iff_exists] at h
    obtain ⟨c, h1⟩ := h
    -- what the single-child exit writes between the tags is the child's flat form
    rcases inlineChild?_some h1 with ⟨-, hv⟩ | ⟨-, hv⟩ <;>
      by_cases hn : name ∈ cfg.noesc <;> simp [hv, flatKids_eq_visible, Node.flatIn, inlineText, hn]

theorem render_loop (h : kids.oneLine = false) :
    (Node.tag name ws attrs kids).render cfg i e
      = indentStr i ++ openTag cfg name attrs ++ '>' :: (if ws then e else [])
        ++ kids.renderKids cfg (i + 1) e true ws (!cfg.noesc.contains name)
        ++ (if ws then e ++ indentStr i else []) ++ closeTag name := by
  simp only [Nodes.oneLine, Bool.or_eq_false_iff, Option.isSome_eq_false_iff, Option.isNone_iff_eq_none] at h
  simp [Node.render, h.1, h.2]

end tag

/-! ### one step of the child loop, by kind of child -/

section step
variable (cfg : Cfg) {h : Node} (t : Nodes) (i : Nat) (e : Str) (first prevWs esc : Bool)

theorem renderKids_meta (hm : h.isMeta = true) :
    (Nodes.cons h t).renderKids cfg i e first prevWs esc = t.renderKids cfg i e first prevWs esc := by
  cases h <;> first | rfl | cases hm

theorem renderKids_tag (n : Str) (w : Bool) (a : Attrs) (k : Nodes) :
    (Nodes.cons (.tag n w a k) t).renderKids cfg i e first prevWs esc
      = (if !first && (prevWs || w) then e else [])
        ++ (if prevWs || w then (Node.tag n w a k).render cfg i e else (Node.tag n w a k).render cfg 0 [])
        ++ t.renderKids cfg i e false w esc := rfl

theorem renderKids_leaf (hm : h.isMeta = false) (ht : h.isTag = false) :
    (Nodes.cons h t).renderKids cfg i e first prevWs esc
      = (if !first && prevWs then e else []) ++ (if prevWs then indentStr i else [])
        ++ h.flatIn cfg esc ++ t.renderKids cfg i e false false esc := by
  cases h with
  | mnode _ | dep _ _ _ => cases hm
  | tag _ _ _ _ => cases ht
  | _ => rfl

/-- the same for an inline tag known to be written flat: the loop puts in front of it only the line break
    and indentation its predecessor asked for -/
theorem renderKids_flat (hm : h.isMeta = false) (hn : h.noWs = true)
    (hr : h.isTag = true → ∀ i e, h.render cfg i e = indentStr i ++ h.flat cfg) :
    (Nodes.cons h t).renderKids cfg i e first prevWs esc
      = (if !first && prevWs then e else []) ++ (if prevWs then indentStr i else [])
        ++ h.flatIn cfg esc ++ t.renderKids cfg i e false false esc := by
  cases ht : h.isTag with
  | false => exact renderKids_leaf cfg t i e first prevWs esc hm ht
  | true =>
    cases h with
    | tag n w a k =>
      cases (noWs_tag hn).1
      rw [renderKids_tag, hr rfl, hr rfl]
      cases prevWs <;> simp [Node.flatIn]
    | _ => cases ht

theorem renderKids_cons_tail (h : Node) :
    ∃ A first' prevWs', (Nodes.cons h t).renderKids cfg i e first prevWs esc
      = A ++ t.renderKids cfg i e first' prevWs' esc := by
  cases h <;> first | exact ⟨_, _, _, rfl⟩ | exact ⟨[], _, _, rfl⟩

end step

/-! ### a function of the child list that skips metadata children sees only the visible ones -/

section skipMeta
variable {α : Type} {F : Nodes → α} (hF : ∀ h t, h.isMeta = true → F (.cons h t) = F t)
include hF

theorem Nodes.skipMeta_nil {ks : Nodes} (hv : ks.visible = []) : F ks = F .nil := by
  induction ks with
  | nil => rfl
  | cons h t ih =>
    cases hm : h.isMeta with
    | true => rw [hF h t hm, ih (by simpa [Nodes.visible, hm] using hv)]
    | false => simp [Nodes.visible, hm] at hv

theorem Nodes.skipMeta_cons {ks : Nodes} {x : Node} {post : List Node} (hv : ks.visible = x :: post) :
    ∃ rest, rest.visible = post ∧ x.isMeta = false ∧ F ks = F (.cons x rest) := by
  induction ks with
  | nil => cases hv
  | cons h t ih =>
    cases hm : h.isMeta with
    | true =>
      obtain ⟨rest, h1, h2, h3⟩ := ih (by simpa [Nodes.visible, hm] using hv)
      exact ⟨rest, h1, h2, by rw [hF h t hm, h3]⟩
    | false =>
      simp only [Nodes.visible, hm] at hv
      cases hv
      exact ⟨t, rfl, hm, rfl⟩

end skipMeta

theorem renderKids_of_visible (cfg : Cfg) {ks : Nodes} {x : Node} {post : List Node}
    (hv : ks.visible = x :: post) :
    ∃ rest, rest.visible = post ∧ x.isMeta = false ∧ ks.renderKids cfg = (Nodes.cons x rest).renderKids cfg :=
  Nodes.skipMeta_cons (F := fun ks => ks.renderKids cfg)
    (fun h t hm => by funext i e first prevWs esc; exact renderKids_meta cfg t i e first prevWs esc hm) hv

theorem renderKids_reach (cfg : Cfg) {ks : Nodes} {pre : List Node} {x : Node} {post : List Node}
    (hv : ks.visible = pre ++ x :: post) (i : Nat) (e : Str) (first prevWs esc : Bool) :
    ∃ P rest first' prevWs', rest.visible = post ∧ x.isMeta = false ∧
      ks.renderKids cfg i e first prevWs esc = P ++ (Nodes.cons x rest).renderKids cfg i e first' prevWs' esc := by
  induction pre generalizing ks first prevWs with
  | nil =>
    obtain ⟨rest, h1, h2, h3⟩ := renderKids_of_visible cfg hv
    exact ⟨[], rest, first, prevWs, h1, h2, by rw [h3]; rfl⟩
  | cons p pre ih =>
    obtain ⟨rest, h1, _, h3⟩ := renderKids_of_visible cfg hv
    obtain ⟨A, f, w, hA⟩ := renderKids_cons_tail cfg rest i e first prevWs esc p
    obtain ⟨P, rest', f', w', h4, h5, h6⟩ := ih h1 f w
    exact ⟨A ++ P, rest', f', w', h4, h5, by rw [h3, hA, h6, List.append_assoc]⟩

end HtmlVerif
