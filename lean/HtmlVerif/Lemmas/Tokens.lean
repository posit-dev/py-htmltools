/-
Lemmas about whitespace splitting (`splitAll`, `tokens`, `strip`), generic in the whitespace predicate.
-/
import HtmlVerif.Spec.AttrMerge
namespace HtmlVerif

theorem splitAll_ne_nil (sp : Char → Bool) (s : Str) : splitAll sp s ≠ [] := by
  fun_induction splitAll sp s <;> simp

theorem splitAll_append_sep (sp : Char → Bool) (a t : Str) (c : Char) (hc : sp c = true) :
    splitAll sp (a ++ c :: t) = splitAll sp a ++ splitAll sp t := by
  fun_induction splitAll sp a <;> simp_all [splitAll, splitAll_ne_nil]

theorem tokens_append_sep {sp : Char → Bool} {a t : Str} {c : Char} (hc : sp c = true) :
    tokens sp (a ++ c :: t) = tokens sp a ++ tokens sp t := by
  simp [tokens, splitAll_append_sep sp a t c hc]

@[simp] theorem tokens_nil (sp : Char → Bool) : tokens sp [] = [] := rfl

theorem splitAll_of_no_space (sp : Char → Bool) (t : Str) (h : ∀ c ∈ t, sp c = false) : splitAll sp t = [t] := by
  induction t with
  | nil => rfl
  | cons c r ih => simp [splitAll, h c, ih fun x hx => h x (List.mem_cons_of_mem c hx)]

theorem splitAll_pieces_no_space (sp : Char → Bool) (s : Str) : ∀ p ∈ splitAll sp s, ∀ c ∈ p, sp c = false := by
  fun_induction splitAll sp s with
  | case1 => simp
  | case2 x r hx ih => exact List.forall_mem_cons.mpr ⟨by simp, ih⟩
  | case3 x r hx heq ih => simpa using hx
  | case4 x r hx h u heq ih =>
    simp only [heq, List.forall_mem_cons] at ih ⊢
    exact ⟨⟨by simpa using hx, ih.1⟩, ih.2⟩

theorem isToken_iff {sp : Char → Bool} {t : Str} :
    isToken sp t = true ↔ t ≠ [] ∧ ∀ c ∈ t, sp c = false := by
  simp [isToken, List.all_eq_true]

theorem tokens_of_token {sp : Char → Bool} {t : Str} (h : isToken sp t = true) : tokens sp t = [t] := by
  obtain ⟨hne, hns⟩ := isToken_iff.mp h
  simp [tokens, splitAll_of_no_space sp t hns, hne]

theorem tokens_are_tokens {sp : Char → Bool} {s t : Str} (ht : t ∈ tokens sp s) : isToken sp t = true := by
  simp only [tokens, List.mem_filter] at ht
  exact isToken_iff.mpr ⟨by simpa using ht.2, splitAll_pieces_no_space sp s t ht.1⟩

theorem filter_ne_of_not_token {sp : Char → Bool} {x : Str} (s : Str) (hx : isToken sp x = false) :
    (tokens sp s).filter (fun v => v != x) = tokens sp s :=
  List.filter_eq_self.mpr fun v hv => by
    have := tokens_are_tokens hv
    simp only [bne_iff_ne, ne_eq]
    rintro rfl
    simp [this] at hx

theorem tokens_joinStr {sp : Char → Bool} (hsp : sp ' ' = true) {ts : List Str}
    (h : ∀ t ∈ ts, isToken sp t = true) : tokens sp (joinStr [' '] ts) = ts := by
  fun_induction joinStr [' '] ts with
  | case1 => rfl
  | case2 x => exact tokens_of_token (h x (by simp))
  | case3 x y r ih =>
    rw [List.append_assoc, List.singleton_append, tokens_append_sep hsp,
      ih fun t ht => h t (by simp [ht]), tokens_of_token (h x (by simp))]
    rfl

theorem dropWhile_of_all_false {α} {p : α → Bool} {l : List α} (h : ∀ c ∈ l, p c = false) : l.dropWhile p = l := by
  cases l with
  | nil => rfl
  | cons c r => simp [h c]

theorem strip_of_token {sp : Char → Bool} {t : Str} (h : isToken sp t = true) : strip sp t = t := by
  have hns := (isToken_iff.mp h).2
  simp [strip, rstrip, dropWhile_of_all_false hns, dropWhile_of_all_false (l := t.reverse) (by simpa using hns)]

end HtmlVerif
