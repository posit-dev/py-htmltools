/-
Character-level lemmas for C01: `spanP` over an explicit stop set, trimming of HTML whitespace.
No trees here.
-/
import HtmlVerif.Spec.Html

namespace HtmlVerif

theorem spanP_append (p : Char → Bool) (a b : Str) (ha : ∀ c ∈ a, p c = true)
    (hb : ∀ c r, b = c :: r → p c = false) : spanP p (a ++ b) = (a, b) := by
  induction a with
  | nil =>
    cases b with
    | nil => rfl
    | cons c r => simp [spanP, hb c r rfl]
  | cons x xs ih =>
    rw [List.forall_mem_cons] at ha
    simp [spanP, ha.1, ih ha.2]

theorem spanP_append_cons (p : Char → Bool) (a : Str) (c : Char) (r : Str) (ha : ∀ x ∈ a, p x = true)
    (hc : p c = false) : spanP p (a ++ c :: r) = (a, c :: r) :=
  spanP_append p a (c :: r) ha (by intro c' r' h; cases h; exact hc)

theorem spanP_all_nil (p : Char → Bool) (a : Str) (ha : ∀ x ∈ a, p x = true) : spanP p a = (a, []) := by
  simpa using spanP_append p a [] ha (by intro c r h; cases h)

theorem wsOnly_append (a b : Str) : wsOnly (a ++ b) = (wsOnly a && wsOnly b) := by simp [wsOnly]

@[simp] theorem wsOnly_nil : wsOnly [] = true := rfl

theorem wsOnly_indentStr (n : Nat) : wsOnly (indentStr n) = true := by
  simp [wsOnly, indentStr, isWs]

theorem lstrip_ws_append (w s : Str) (hw : wsOnly w = true) :
    (w ++ s).dropWhile isWs = s.dropWhile isWs :=
  List.dropWhile_append_of_pos (by simpa [wsOnly] using hw)

theorem lstrip_ws (w : Str) (hw : wsOnly w = true) : w.dropWhile isWs = [] := by
  simpa using lstrip_ws_append w [] hw

theorem trimWs_append_ws (s w : Str) (hw : wsOnly w = true) : trimWs (s ++ w) = trimWs s := by
  unfold trimWs
  rw [List.dropWhile_append]
  split
  · next hs => simp [List.isEmpty_iff.mp hs, lstrip_ws w hw]
  · rw [List.reverse_append, List.dropWhile_append_of_pos (by simpa [wsOnly] using hw)]

theorem trimWs_ws (w : Str) (hw : wsOnly w = true) : trimWs w = [] := by
  simp [trimWs, lstrip_ws w hw]

end HtmlVerif
