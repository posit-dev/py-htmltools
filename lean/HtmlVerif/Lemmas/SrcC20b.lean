/-
Source tie for the rest of htmltools/_jsx.py (harness/pytr_c20b.py), what Props/SrcC20b.lean uses: embeddings of keyword
dicts / allow-lists; the model-level reading of `JSXTagAttrDict._update` / `update` (`propsMergeC20b`, `propsUpdateC20b`)
and its relation to the model's `mkProps` / `foldProps` (Model/Jsx.lean, Lemmas/Jsx.lean); facts about the primitives of
Py/PrimC20b.lean on the embedded shapes; loop lemmas quantified over the loop body; that every child of the component model, a `jsx` string excepted, is a *plain node* (`plainC11`, Py/PrimC11.lean: the items
`_tagchilds_to_tagnodes` keeps as they are);
for `_walk_attrs_and_children`, the embeddings of its input and of the walked tree (`embInNC20b`, `embOutNC20b`), its side
conditions (`walkOkNC20b`), the measure that bounds its fuel (`whNC20b`), what the visitor returns and collects, and its two
loops; the `<script>` object `tagify` returns (`scriptObjC20b`).
The embeddings `embJNode` / `embJVal` / `embJProps` are those of Lemmas/SrcC20.lean.
-/
import HtmlVerif.Lemmas.SrcC20
import HtmlVerif.Lemmas.SrcC15b
import HtmlVerif.Lemmas.SrcC11
import HtmlVerif.Lemmas.Jsx
import HtmlVerif.Py.PrimC20b
import HtmlVerif.Generated.Src

set_option linter.unusedVariables false
set_option linter.unusedSimpArgs false

namespace HtmlVerif.SrcTie
open HtmlVerif HtmlVerif.Py HtmlVerif.Generated.Src HtmlVerif.JsxL

def embKwC20b (ι : Str → Option Int) (kw : List (Str × JVal)) : PVal := .dict (kw.map fun kv => (kv.1, embJVal ι kv.2))

/-- no keyword is called like one of `names` (parameters of the callee: Python binds such a keyword to the parameter, or
    raises "multiple values", instead of handing it to `**kwargs`; the model does not have that binding) -/
def kwFreeC20b (names : List Str) (kw : List (Str × JVal)) : Bool := kw.all fun kv => !names.contains kv.1

/-- the value given for `allowedProps` -/
def embAllowedC20b : Option (List Str) → PVal
  | none => .none
  | some ps => .list (ps.map .str)

/-- `dict.update(cur, **new)` -/
def propsMergeC20b (cur new : JProps) : JProps := new.toList.foldl (fun acc kv => acc.set kv.1 kv.2) cur

/-- `JSXTagAttrDict.update(*args, **kwargs)` -/
def propsUpdateC20b (cur : JProps) (maps : List (List (Str × JVal))) : JProps := maps.foldl foldProps cur

theorem set_set_sameC20b (k : Str) (a b : JVal) : (p : JProps) → (p.set k a).set k b = p.set k b
  | .nil => by simp [JProps.set]
  | .cons k0 v0 t => by
    by_cases h : k0 = k
    · simp [JProps.set, h]
    · simp [JProps.set, h, set_set_sameC20b k a b t]

theorem set_comm_memC20b (k k' : Str) (v v' : JVal) (hne : k ≠ k') : (p : JProps) → k ∈ p.keys →
    (p.set k' v').set k v = (p.set k v).set k' v'
  | .nil, h => by simp [JProps.keys] at h
  | .cons k0 v0 t, h => by
    by_cases h0 : k0 = k
    · subst h0
      have : ¬ k0 = k' := hne
      simp [JProps.set, this]
    · have hk : k ∈ t.keys := by
        simp only [JProps.keys, List.mem_cons] at h
        rcases h with h | h
        · exact absurd h.symm h0
        · exact h
      by_cases h1 : k0 = k'
      · subst h1
        simp [JProps.set, h0]
      · simp [JProps.set, h0, h1, set_comm_memC20b k k' v v' hne t hk]

theorem merge_consC20b (cur : JProps) (k : Str) (v : JVal) (t : JProps) :
    propsMergeC20b cur (.cons k v t) = propsMergeC20b (cur.set k v) t := rfl

theorem merge_set_freshC20b (k : Str) (v : JVal) : (t Q : JProps) → k ∉ t.keys → k ∈ Q.keys →
    (propsMergeC20b Q t).set k v = propsMergeC20b (Q.set k v) t
  | .nil, Q, _, _ => rfl
  | .cons k1 v1 t', Q, hk, hQ => by
    simp only [JProps.keys, List.mem_cons, not_or] at hk
    rw [merge_consC20b, merge_consC20b]
    have hmem : k ∈ (Q.set k1 v1).keys := by
      rw [set_keys]; split
      · exact hQ
      · exact List.mem_append_left _ hQ
    rw [merge_set_freshC20b k v t' (Q.set k1 v1) hk.2 hmem, set_comm_memC20b k k1 v v1 hk.1 Q hQ]

theorem mem_keys_set_selfC20b (k : Str) (v : JVal) (p : JProps) : k ∈ (p.set k v).keys := by
  rw [set_keys]; split
  · assumption
  · simp

theorem merge_setC20b (k : Str) (v : JVal) : (acc cur : JProps) → acc.keys.Nodup →
    propsMergeC20b cur (acc.set k v) = (propsMergeC20b cur acc).set k v
  | .nil, cur, _ => rfl
  | .cons k0 v0 t, cur, hn => by
    simp only [JProps.keys, List.nodup_cons] at hn
    by_cases h0 : k0 = k
    · subst h0
      simp only [JProps.set, if_true, merge_consC20b]
      rw [merge_set_freshC20b k0 v t (cur.set k0 v0) hn.1 (mem_keys_set_selfC20b _ _ _), set_set_sameC20b]
    · simp only [JProps.set, h0, if_false, merge_consC20b]
      exact merge_setC20b k v t (cur.set k0 v0) hn.2

theorem merge_foldPropsC20b (cur : JProps) : (kw : List (Str × JVal)) → (acc : JProps) → acc.keys.Nodup →
    propsMergeC20b cur (foldProps acc kw) = foldProps (propsMergeC20b cur acc) kw
  | [], acc, _ => rfl
  | kv :: t, acc, hn => by
    have : foldProps acc (kv :: t) = foldProps (acc.set (normAttrName kv.1) kv.2) t := rfl
    rw [this, merge_foldPropsC20b cur t _ (set_nodup _ _ _ hn), merge_setC20b _ _ acc cur hn]
    rfl

/-- what `_update` does in two steps — the names of the mapping normalised one after the other into a *fresh* dict
    (`mkProps`), whose items are then set in the receiver — is normalising them one after the other into the receiver: of two
    keywords with the same normalised name the later decides the value, the first the place -/
theorem merge_mkPropsC20b (cur : JProps) (kw : List (Str × JVal)) :
    propsMergeC20b cur (mkProps kw) = foldProps cur kw :=
  merge_foldPropsC20b cur kw .nil (by simp [JProps.keys])

theorem dictSet_embJPropsC20b (ι : Str → Option Int) (k : Str) (v : JVal) : (ps : JProps) →
    Py.dictSet k (embJVal ι v) (embJProps ι ps) = embJProps ι (ps.set k v)
  | .nil => rfl
  | .cons k' v' t => by
    simp only [embJProps, Py.dictSet, JProps.set]
    split
    · simp [embJProps]
    · simp [embJProps, dictSet_embJPropsC20b ι k v t]

theorem dictUpdate_embJPropsC20b (ι : Str → Option Int) : (new cur : JProps) →
    (embJProps ι new).foldl (fun c kv => Py.dictSet kv.1 kv.2 c) (embJProps ι cur) = embJProps ι (propsMergeC20b cur new)
  | .nil, cur => rfl
  | .cons k v t, cur => by
    simp only [embJProps, List.foldl_cons, dictSet_embJPropsC20b, propsMergeC20b, JProps.toList]
    exact dictUpdate_embJPropsC20b ι t (cur.set k v)

theorem pyKeys_embKwC20b (ι : Str → Option Int) (kw : List (Str × JVal)) :
    pyKeys (embKwC20b ι kw) = .ok (.list (kw.map fun kv => PVal.str kv.1)) := by
  simp [embKwC20b, pyKeys, Function.comp_def]

theorem pyKwRest_embKwC20b (ι : Str → Option Int) (kw : List (Str × JVal)) (bound : List Str)
    (h : kwFreeC20b bound kw = true) : pyKwRestC15b (embKwC20b ι kw) bound [] = .ok (embKwC20b ι kw) := by
  have h1 : (kw.map fun kv => (kv.1, embJVal ι kv.2)).any (fun kv => bound.contains kv.1) = false := by
    rw [List.any_eq_false]
    intro x hx
    obtain ⟨kv, hkv, rfl⟩ := List.mem_map.1 hx
    have := (List.all_eq_true.mp h) kv hkv
    simpa using this
  simp only [embKwC20b, pyKwRestC15b, h1, Bool.false_eq_true, if_false, pure_eq_ok]
  congr 2
  simp

theorem splitOn_ne_nilC20b (c : Char) (s : Str) : splitOn c s ≠ [] := by
  induction s with
  | nil => simp [splitOn]
  | cons x xs ih =>
    rw [splitOn]
    split
    · simp
    · cases h : splitOn c xs <;> simp

theorem getItem_lastC20b (l : List Str) (hne : l ≠ []) :
    pyGetItem (.list (l.map PVal.str)) (.int (-1)) = .ok (.str (l.getLast hne)) := by
  have hlen : 0 < l.length := List.length_pos_iff.mpr hne
  have h1 : ((-1 : Int) + ((l.map PVal.str).length : Int)).toNat = l.length - 1 := by simp; omega
  have h2 : ¬ ((-1 : Int) + ((l.map PVal.str).length : Int) < 0) := by simp; omega
  simp only [pyGetItem, show ((-1 : Int) < 0) from by decide, if_true, h2, if_false, h1]
  rw [List.getLast_eq_getElem]
  have h3 : (l.map PVal.str)[l.length - 1]? = some (PVal.str (l[l.length - 1]'(by omega))) := by
    simp [List.getElem?_eq_getElem (show l.length - 1 < l.length by omega)]
  rw [h3]
  rfl

theorem slice_take1C20b (p : Str) : Py.pySlice (PVal.str p) none (some 1) = Except.ok (PVal.str (p.take 1)) := by
  simp only [Py.pySlice, sliceList, Py.clampIdx, pure_eq_ok]
  congr 2
  cases p <;> simp

/-- `pieces[-1][:1]` is the model's `nameInitial` -/
theorem nameInitial_eqC20b (name : Str) :
    nameInitial name = ((splitOn '.' name).getLast (splitOn_ne_nilC20b '.' name)).take 1 := by
  unfold nameInitial
  rw [List.getLast?_eq_some_getLast (splitOn_ne_nilC20b '.' name)]

theorem pyIn_strsC20b (ps : List Str) (k : Str) : pyIn (.str k) (.list (ps.map PVal.str)) = .ok (.bool (ps.contains k)) := by
  simp only [pyIn, pure_eq_ok]
  congr 2
  induction ps with
  | nil => rfl
  | cons a t ih => simp only [List.map_cons, List.any_cons, ih, List.contains_cons]; rw [Bool.beq_comm]

/-! ### loop lemmas (the body `f` is whatever the translator emitted; `hstep` is about one pass) -/

/-- a loop that folds `g` over the items into the value held (as `E b`) in the first component of its state — the loops of
    `_update` (one pass sets the normalised key in the dict) and of `update` (one pass does `_update(arg)`) -/
theorem fold_loop_kC20b {γ B β τ : Type} (emb : γ → PVal) (E : B → PVal) (g : B → γ → B) (l : List γ) (b0 : B)
    (L : List PVal) (hL : L = l.map emb) (t0 : τ) (f : PVal → PVal × τ → PyM (ForInStep (PVal × τ)))
    (hstep : ∀ c ∈ l, ∀ (b : B) (t : τ), ∃ t', f (emb c) (E b, t) = .ok (.yield (E (g b c), t')))
    (k : PVal × τ → PyM β) (r : PyM β) (hk : ∀ t, k (E (l.foldl g b0), t) = r) :
    (forIn L (E b0, t0) f >>= k) = r := by
  subst hL
  induction l generalizing b0 t0 with
  | nil => exact hk t0
  | cons c t ih =>
    obtain ⟨t', h1⟩ := hstep c (by simp) b0 t0
    simp only [List.map_cons, List.forIn_cons, h1, ok_bind]
    exact ih (g b0 c) t' (fun c' hc' => hstep c' (by simp [hc'])) hk

/-- the loop of the `allowedProps` check in `JSXTag.__init__` -/
theorem allowed_loop_kC20b {α β σ : Type} (ps : List Str) (kw : List (Str × α)) (L : List PVal)
    (hL : L = kw.map fun kv => PVal.str kv.1) (init : σ)
    (f : PVal → σ → PyM (ForInStep σ))
    (hstep : ∀ kv ∈ kw, ∀ s : σ, if ps.contains kv.1 = true then ∃ s', f (.str kv.1) s = .ok (.yield s')
      else f (.str kv.1) s = .error .notImplemented)
    (k : σ → PyM β) (r : PyM β)
    (hk : if (kw.all fun kv => ps.contains kv.1) = true then ∀ s, k s = r else r = .error .notImplemented) :
    (forIn L init f >>= k) = r := by
  subst hL
  induction kw generalizing init with
  | nil => simp only [List.map_nil, List.forIn_nil, pure_eq_ok, ok_bind]; simpa using hk init
  | cons a t ih =>
    have h1 := hstep a (by simp) init
    simp only [List.map_cons, List.forIn_cons]
    by_cases ha : ps.contains a.1 = true
    · simp only [ha, if_true] at h1
      obtain ⟨s', hs'⟩ := h1
      rw [hs', ok_bind]
      refine ih s' (fun kv hkv s => hstep kv (by simp [hkv]) s) ?_
      simp only [List.all_cons, ha, Bool.true_and] at hk
      exact hk
    · simp only [ha, Bool.false_eq_true, if_false] at h1
      rw [h1]
      have : (List.all (a :: t) fun kv => ps.contains kv.1) = false := by
        rw [List.all_cons]; simp only [Bool.and_eq_false_imp]; intro h; exact absurd h ha
      simp only [this, Bool.false_eq_true, if_false] at hk
      rw [hk]; rfl

theorem isInstance_permC20b (v : PVal) {l l' : List String} (h : l.Perm l') : isInstance v l = isInstance v l' := by
  cases v <;> simp only [isInstance] <;> exact h.any_eq

def noJsxKidsC20b : JNodes → Bool
  | .nil => true
  | .cons (.str .jsx _) _ => false
  | .cons _ t => noJsxKidsC20b t

theorem plain_embJNodeC20b (ι : Str → Option Int) (n : JNode) (h : ∀ s, n ≠ .str .jsx s) :
    plainC11 (embJNode ι n) = true ∧ hasJsxArgC20b (embJNode ι n) = false := by
  -- class tests on an object of known class and field names: they compute
  cases n with
  | str k s =>
    cases k with
    | jsx => exact absurd rfl (h s)
    | plain | html => exact ⟨rfl, rfl⟩
  | md m => cases m <;> exact ⟨rfl, rfl⟩
  | _ => exact ⟨rfl, rfl⟩

theorem plain_embJNodesC20b (ι : Str → Option Int) : (ks : JNodes) → noJsxKidsC20b ks = true →
    (∀ v ∈ embJNodes ι ks, plainC11 v = true) ∧ hasJsxArgsC20b (embJNodes ι ks) = false
  | .nil, _ => by simp [embJNodes, hasJsxArgsC20b]
  | .cons n t, h => by
    have hn : ∀ s, n ≠ .str .jsx s := by
      intro s e; subst e; simp [noJsxKidsC20b] at h
    have ht : noJsxKidsC20b t = true := by
      cases n with
      | str k s => cases k <;> first | exact absurd rfl (hn s) | simpa [noJsxKidsC20b] using h
      | _ => simpa [noJsxKidsC20b] using h
    obtain ⟨h1, h2⟩ := plain_embJNodeC20b ι n hn
    obtain ⟨h3, h4⟩ := plain_embJNodesC20b ι t ht
    refine ⟨?_, by simp [embJNodes, hasJsxArgsC20b, h2, h4]⟩
    intro v hv
    simp only [embJNodes, List.mem_cons] at hv
    rcases hv with rfl | hv
    · exact h1
    · exact h3 v hv

theorem ofList_toListC20b : (b : JNodes) → JNodes.ofList b.toList = b
  | .nil => rfl
  | .cons h t => by simp [JNodes.toList, JNodes.ofList, ofList_toListC20b t]

theorem noJsxKids_appendC20b : (a b : JNodes) → noJsxKidsC20b a = true → noJsxKidsC20b b = true →
    noJsxKidsC20b (JNodes.ofList (a.toList ++ b.toList)) = true
  | .nil, b, _, hb => by simpa [JNodes.toList, ofList_toListC20b] using hb
  | .cons n t, b, ha, hb => by
    have ih := noJsxKids_appendC20b t b
    cases n with
    | str k s =>
      cases k with
      | jsx => simp [noJsxKidsC20b] at ha
      | plain | html => simp only [noJsxKidsC20b] at ha; simpa [JNodes.toList, JNodes.ofList, noJsxKidsC20b] using ih ha hb
    | _ => simp only [noJsxKidsC20b] at ha; simpa [JNodes.toList, JNodes.ofList, noJsxKidsC20b] using ih ha hb

theorem embJNodes_ofList_appendC20b (ι : Str → Option Int) (a b : JNodes) :
    embJNodes ι (JNodes.ofList (a.toList ++ b.toList)) = embJNodes ι a ++ embJNodes ι b := by
  rw [embJNodes_toList, embJNodes_toList, embJNodes_toList]
  have : ∀ l : List JNode, (JNodes.ofList l).toList = l := by
    intro l; induction l with
    | nil => rfl
    | cons x r ih => simp [JNodes.ofList, JNodes.toList, ih]
  rw [this, List.map_append]

mutual
  /-- a node as the Python object the walk (`_walk_attrs_and_children`) sees: `embJNode`, except that a tagifiable object
      records what its `tagify()` returns (the convention of `pyTagifyObj`, Py/PrimC10.lean) -/
  def embInNC20b (ι : Str → Option Int) : JNode → PVal
    | .comp name props kids =>
      .obj "JSXTag" [("name", .str name), ("attrs", .dict (embInPC20b ι props)),
                     ("children", .obj "TagList" [("data", .list (embInKC20b ι kids))])]
    | .tag name attrs kids =>
      .obj "Tag" [("name", .str name), ("attrs", embAttrs attrs),
                  ("children", .obj "TagList" [("data", .list (embInKC20b ι kids))]), ("add_ws", .bool true)]
    | .str .plain s => .str s
    | .str .jsx s => mkJsx s
    | .str .html s => .html s
    | .md (.mnode n) => .obj "MetadataNode" [("id", .int n)]
    | .md (.dep d) => .obj "HTMLDependency" [("name", .str d.name)]
    | .tobj e => .obj "TagifiableObj" [("tagify", embInNC20b ι e)]
    | .tobjL es => .obj "TagifiableObj" [("tagify", .obj "TagList" [("data", .list (embInKC20b ι es))])]
  def embInKC20b (ι : Str → Option Int) : JNodes → List PVal
    | .nil => []
    | .cons h t => embInNC20b ι h :: embInKC20b ι t
  def embInVC20b (ι : Str → Option Int) : JVal → PVal
    | .null => .none
    | .bool b => .bool b
    | .num t => (match ι t with
      | some n => .int n
      | none => .float t)
    | .list tup vs => if tup then .tuple (embInVsC20b ι vs) else .list (embInVsC20b ι vs)
    | .dict fs => .dict (embInPC20b ι fs)
    | .node n => embInNC20b ι n
  def embInVsC20b (ι : Str → Option Int) : JVals → List PVal
    | .nil => []
    | .cons h t => embInVC20b ι h :: embInVsC20b ι t
  def embInPC20b (ι : Str → Option Int) : JProps → List (Str × PVal)
    | .nil => []
    | .cons k v t => (k, embInVC20b ι v) :: embInPC20b ι t
end

mutual
  /-- a node of the *walked* tree (`(x.walk d).node`) as the object the walk returns: a component / tag with walked props and
      children; `.tobj e` there stands for an object the walk left un-expanded (`tagify()` of a tagifiable object returned
      another one), `.tobjL es` for the TagList a `tagify()` returned -/
  def embOutNC20b (ι : Str → Option Int) : JNode → PVal
    | .comp name props kids =>
      .obj "JSXTag" [("name", .str name), ("attrs", .dict (embOutPC20b ι props)),
                     ("children", .obj "TagList" [("data", .list (embOutKC20b ι kids))])]
    | .tag name attrs kids =>
      .obj "Tag" [("name", .str name), ("attrs", embAttrs attrs),
                  ("children", .obj "TagList" [("data", .list (embOutKC20b ι kids))]), ("add_ws", .bool true)]
    | .tobjL es => .obj "TagList" [("data", .list (embInKC20b ι es))]
    | n => embInNC20b ι n
  def embOutKC20b (ι : Str → Option Int) : JNodes → List PVal
    | .nil => []
    | .cons h t => embOutNC20b ι h :: embOutKC20b ι t
  def embOutVC20b (ι : Str → Option Int) : JVal → PVal
    | .node n => embOutNC20b ι n
    | v => embInVC20b ι v
  def embOutPC20b (ι : Str → Option Int) : JProps → List (Str × PVal)
    | .nil => []
    | .cons k v t => (k, embOutVC20b ι v) :: embOutPC20b ι t
end

def embMetaC20b (ι : Str → Option Int) (m : JMeta) : PVal := embInNC20b ι (.md m)

/-- no key that `copy.copy` / `JSXTagAttrDict.__setitem__` would rename -/
def cleanKeysC20b (ks : List Str) : Bool := ks.all fun k => !k.contains '_'

mutual
  /-- side conditions of the tie for the walk, through the whole tree (expansions included): the props of a component have
      each name once (a Python dict has) and no name contains `_` (stored names never do: `normAttrName_no_underscoreC20b`; a
      name with `_`, put there behind the dict's back, would be renamed by `copy.copy` / the assignment of the walk); the
      attribute names of an html Tag likewise; a dict that is itself a prop value has no key with `_` (the universe does not
      tell a dict from a JSXTagAttrDict, which `copy.copy` would rename); no tagifiable object whose `tagify()` returns a tagifiable
      object whose `tagify()` returns a TagList (the model's `.tobjL` then stands for two different objects) -/
  def walkOkNC20b : JNode → Bool
    | .comp _ props kids => decide props.keys.Nodup && cleanKeysC20b props.keys && walkOkPC20b props && walkOkKC20b kids
    | .tag _ attrs kids => cleanKeysC20b (attrs.map (·.1)) && walkOkKC20b kids
    | .tobj (.tobjL _) => false
    | .tobj e => walkOkNC20b e
    | _ => true
  def walkOkKC20b : JNodes → Bool
    | .nil => true
    | .cons h t => walkOkNC20b h && walkOkKC20b t
  def walkOkVC20b : JVal → Bool
    | .node n => walkOkNC20b n
    | .dict fs => cleanKeysC20b fs.keys
    | _ => true
  def walkOkPC20b : JProps → Bool
    | .nil => true
    | .cons _ v t => walkOkVC20b v && walkOkPC20b t
end

mutual
  /-- calls of the walk nest at most this deep below a call on the node (the expansion of a tagifiable object is walked by
      the same call) -/
  def whNC20b : JNode → Nat
    | .comp _ props kids => max (whPC20b props) (whKC20b kids) + 1
    | .tag _ _ kids => whKC20b kids + 1
    | .tobj e => whNC20b e
    | _ => 1
  def whKC20b : JNodes → Nat
    | .nil => 0
    | .cons h t => max (whNC20b h) (whKC20b t)
  def whVC20b : JVal → Nat
    | .node n => whNC20b n
    | _ => 1
  def whPC20b : JProps → Nat
    | .nil => 0
    | .cons _ v t => max (whVC20b v) (whPC20b t)
end

theorem whN_posC20b : (x : JNode) → 1 ≤ whNC20b x
  | .tobj e => by simp only [whNC20b]; exact whN_posC20b e
  | .comp _ _ _ | .tag _ _ _ | .str _ _ | .md _ | .tobjL _ => by simp [whNC20b]

theorem whV_posC20b (v : JVal) : 1 ≤ whVC20b v := by
  cases v <;> simp [whVC20b, whN_posC20b]

/-- what the visitor (`tagify_tagifiable_and_get_metadata`) returns for a value -/
def visOutC20b (ι : Str → Option Int) : JVal → PVal
  | .node (.tobj e) => embInNC20b ι e
  | .node (.tobjL es) => .obj "TagList" [("data", .list (embInKC20b ι es))]
  | v => embInVC20b ι v

/-- what the visitor appends to `metadata_nodes` when it returns the node `n` -/
def nodeMetasC20b (ι : Str → Option Int) : JNode → List PVal
  | .md m => [embMetaC20b ι m]
  | _ => []

/-- what it appends for a value -/
def visMetasC20b (ι : Str → Option Int) : JVal → List PVal
  | .node (.tobj e) => nodeMetasC20b ι e
  | .node n => nodeMetasC20b ι n
  | _ => []

/-- `copy.copy` leaves the node as it is: no attribute name that the copy would normalise again -/
def copyOkNC20b : JNode → Bool
  | .comp _ ps _ => cleanKeysC20b ps.keys
  | .tag _ a _ => cleanKeysC20b (a.map (·.1))
  | _ => true

/-- the conditions of `walkOkVC20b` that one call of the visitor needs -/
def visOkC20b : JVal → Bool
  | .node (.tobj e) => copyOkNC20b e
  | .node n => copyOkNC20b n
  | .dict fs => cleanKeysC20b fs.keys
  | _ => true

theorem embInP_keysC20b (ι : Str → Option Int) : (ps : JProps) → (embInPC20b ι ps).map (·.1) = ps.keys
  | .nil => rfl
  | .cons k v t => by simp [embInPC20b, JProps.keys, embInP_keysC20b ι t]

theorem clean_anyC20b (kvs : List (Str × PVal)) (h : cleanKeysC20b (kvs.map (·.1)) = true) :
    kvs.any (fun kv => kv.1.contains '_') = false := by
  rw [List.any_eq_false]
  intro kv hkv
  have := (List.all_eq_true.mp h) kv.1 (List.mem_map.2 ⟨kv, hkv, rfl⟩)
  simpa using this

theorem embAttrs_cleanC20b (a : Attrs) (h : cleanKeysC20b (a.map (·.1)) = true) :
    (a.map fun kv => (kv.1, embVal kv.2)).all (fun kv => !kv.1.contains '_' && isStoredAttrC20b kv.2) = true := by
  rw [List.all_eq_true]
  intro x hx
  obtain ⟨kv, hkv, rfl⟩ := List.mem_map.1 hx
  have := (List.all_eq_true.mp h) kv.1 (List.mem_map.2 ⟨kv, hkv, rfl⟩)
  cases hv : kv.2 <;> simp_all [embVal, isStoredAttrC20b]

theorem embInNC20b_tobj (ι : Str → Option Int) (e : JNode) :
    embInNC20b ι (.tobj e) = .obj "TagifiableObj" [("tagify", embInNC20b ι e)] := by
  cases e <;> rfl

theorem normAttrName_cleanC20b (k : Str) (h : k.contains '_' = false) : normAttrName k = k := by
  have hm : '_' ∉ k := by simpa using h
  unfold normAttrName
  have hl : k.getLast? ≠ some '_' := by
    intro e
    exact hm (List.mem_of_getLast? e)
  simp only [hl, if_false]
  show List.map _ k = k
  rw [List.map_congr_left (g := id)]
  · simp
  · intro c hc
    have : c ≠ '_' := fun e => hm (e ▸ hc)
    simp [this]

theorem dictSet_midC20b (k : Str) (o v : PVal) : (pre rest : List (Str × PVal)) → k ∉ pre.map (·.1) →
    Py.dictSet k v (pre ++ (k, o) :: rest) = pre ++ (k, v) :: rest
  | [], rest, _ => by simp [Py.dictSet]
  | (k', v') :: t, rest, h => by
    simp only [List.map_cons, List.mem_cons, not_or] at h
    have : ¬ k' = k := fun e => h.1 e.symm
    simp [Py.dictSet, this, dictSet_midC20b k o v t rest h.2]

theorem setItemU_midC20b (pre rest : List PVal) (c v : PVal) :
    pySetItemU (.obj "TagList" [("data", .list (pre ++ c :: rest))]) (.int pre.length) v
      = .ok (.obj "TagList" [("data", .list (pre ++ v :: rest))]) := by
  simp [pySetItemU, userListData?, fieldGet?, pySetItem_mid, fieldSet]

theorem pyEnumerate_taglistC20b (xs : List PVal) :
    pyEnumerate (.obj "TagList" [("data", .list xs)]) = .ok (.list (pyEnum 0 xs)) :=
  pyEnumerate_of_iter _ xs (by simp [pyIter])

theorem pyNotJsx_taglistC20b (fs : List (String × PVal)) : pyNotJsxC20b (.obj "TagList" fs) = .ok (.obj "TagList" fs) := by
  simp [pyNotJsxC20b]

/-- the child loop of the walk (`for i, child in enumerate(x.children)`), for any object `mk data` given as a function of its
    children data -/
theorem kids_walk_loopC20b {β τ : Type} (mk : List PVal → PVal) (inE outE : JNode → PVal) (mt : JNode → List PVal)
    (ks : List JNode) (pre : List PVal) (mds : List PVal) (t0 : τ)
    (f : PVal → PVal × PVal × τ → PyM (ForInStep (PVal × PVal × τ)))
    (hstep : ∀ (pre' : List PVal) (c : JNode) (rest : List JNode) (mds' : List PVal) (t : τ), c ∈ ks →
      ∃ t', f (.tuple [.int pre'.length, inE c]) (mk (pre' ++ inE c :: rest.map inE), .list mds', t)
        = .ok (.yield (mk (pre' ++ outE c :: rest.map inE), .list (mds' ++ mt c), t')))
    (k : PVal × PVal × τ → PyM β) (r : PyM β)
    (hk : ∀ t, k (mk (pre ++ ks.map outE), .list (mds ++ ks.flatMap mt), t) = r) :
    (forIn (pyEnum pre.length (ks.map inE)) (mk (pre ++ ks.map inE), PVal.list mds, t0) f >>= k) = r := by
  induction ks generalizing pre mds t0 with
  | nil => simpa [pyEnum] using hk t0
  | cons c rest ih =>
    obtain ⟨t', ht'⟩ := hstep pre c rest mds t0 (by simp)
    simp only [List.map_cons, pyEnum, List.forIn_cons, ht', ok_bind]
    have := ih (pre ++ [outE c]) (mds ++ mt c) t' (fun p c' r' m t hc => hstep p c' r' m t (by simp [hc]))
      (fun t => by simpa using hk t)
    simpa using this

/-- the attribute loop of the walk on a JSXTag, likewise: the dict `pre ++ items` of an object `mk dict` -/
theorem props_walk_loopC20b {β τ : Type} (mk : List (Str × PVal) → PVal) (inE outE : JVal → PVal) (mt : JVal → List PVal)
    (ps : List (Str × JVal)) (pre : List (Str × PVal)) (mds : List PVal) (t0 : τ)
    (hnd : (pre.map (·.1) ++ ps.map (·.1)).Nodup)
    (f : PVal → PVal × PVal × τ → PyM (ForInStep (PVal × PVal × τ)))
    (hstep : ∀ (pre' : List (Str × PVal)) (kv : Str × JVal) (rest : List (Str × JVal)) (mds' : List PVal) (t : τ), kv ∈ ps →
      kv.1 ∉ pre'.map (·.1) →
      ∃ t', f (.tuple [.str kv.1, inE kv.2])
          (mk (pre' ++ (kv.1, inE kv.2) :: rest.map fun x => (x.1, inE x.2)), .list mds', t)
        = .ok (.yield (mk (pre' ++ (kv.1, outE kv.2) :: rest.map fun x => (x.1, inE x.2)), .list (mds' ++ mt kv.2), t')))
    (k : PVal × PVal × τ → PyM β) (r : PyM β)
    (hk : ∀ t, k (mk (pre ++ ps.map fun x => (x.1, outE x.2)), .list (mds ++ ps.flatMap fun x => mt x.2), t) = r) :
    (forIn (ps.map fun kv => PVal.tuple [.str kv.1, inE kv.2]) (mk (pre ++ ps.map fun x => (x.1, inE x.2)), PVal.list mds, t0) f
      >>= k) = r := by
  induction ps generalizing pre mds t0 with
  | nil => simpa using hk t0
  | cons kv rest ih =>
    have hfresh : kv.1 ∉ pre.map (·.1) := by
      intro hm
      have := List.nodup_append.mp hnd
      exact this.2.2 _ hm _ (by simp) rfl
    obtain ⟨t', ht'⟩ := hstep pre kv rest mds t0 (by simp) hfresh
    simp only [List.map_cons, List.forIn_cons, ht', ok_bind]
    have hnd' : ((pre ++ [(kv.1, outE kv.2)]).map (·.1) ++ rest.map (·.1)).Nodup := by
      simpa [List.append_assoc] using hnd
    have := ih (pre ++ [(kv.1, outE kv.2)]) (mds ++ mt kv.2) t' hnd' (fun p c' r' m t hc hf => hstep p c' r' m t (by simp [hc]) hf)
      (fun t => by simpa using hk t)
    simpa using this

/-- what the walk answers for a value, at the model level -/
def walkResC20b (ι : Str → Option Int) (v : JVal) (mds : List PVal) : PyM PVal :=
  .ok (.tuple [embOutVC20b ι (v.walkVal .demanded).node, .list (mds ++ (v.walkVal .demanded).metas.map (embMetaC20b ι))])

/-- what the walk answers when the visitor has returned the node `n` (it is not applied to `n` again) -/
def walkExpResC20b (ι : Str → Option Int) (n : JNode) (mds : List PVal) : PyM PVal :=
  .ok (.tuple [embOutNC20b ι (n.walkExp .demanded).node, .list (mds ++ (n.walkExp .demanded).metas.map (embMetaC20b ι))])

theorem walkOkN_tobjC20b (e : JNode) (h : walkOkNC20b (.tobj e) = true) : walkOkNC20b e = true := by
  cases e <;> first | exact h | simp [walkOkNC20b] at h

theorem walkRes_nodeC20b (ι : Str → Option Int) (n : JNode) (hn : ∀ e, n ≠ .tobj e) (mds : List PVal) :
    walkResC20b ι (.node n) mds = walkExpResC20b ι n mds := by
  cases n <;> first | exact absurd rfl (hn _) | simp [walkResC20b, walkExpResC20b, JVal.walkVal, JNode.walk, JNode.walkExp, embOutVC20b]

theorem embInK_toListC20b (ι : Str → Option Int) : (ks : JNodes) → embInKC20b ι ks = ks.toList.map (embInNC20b ι)
  | .nil => rfl
  | .cons h t => by simp [embInKC20b, JNodes.toList, embInK_toListC20b ι t]

theorem embInP_toListC20b (ι : Str → Option Int) : (ps : JProps) →
    embInPC20b ι ps = ps.toList.map fun kv => (kv.1, embInVC20b ι kv.2)
  | .nil => rfl
  | .cons k v t => by simp [embInPC20b, JProps.toList, embInP_toListC20b ι t]

theorem walkKids_outC20b (ι : Str → Option Int) : (ks : JNodes) →
    embOutKC20b ι (ks.walkKids .demanded).node = ks.toList.map (fun c => embOutNC20b ι (c.walk .demanded).node)
      ∧ (ks.walkKids .demanded).metas = ks.toList.flatMap (fun c => (c.walk .demanded).metas)
  | .nil => by simp [JNodes.walkKids, embOutKC20b, JNodes.toList]
  | .cons h t => by
    have := walkKids_outC20b ι t
    simp [JNodes.walkKids, embOutKC20b, JNodes.toList, this.1, this.2]

theorem walkProps_outC20b (ι : Str → Option Int) : (ps : JProps) →
    embOutPC20b ι (ps.walkProps .demanded).node = ps.toList.map (fun kv => (kv.1, embOutVC20b ι (kv.2.walkVal .demanded).node))
      ∧ (ps.walkProps .demanded).metas = ps.toList.flatMap (fun kv => (kv.2.walkVal .demanded).metas)
  | .nil => by simp [JProps.walkProps, embOutPC20b, JProps.toList]
  | .cons k v t => by
    have := walkProps_outC20b ι t
    simp [JProps.walkProps, embOutPC20b, JProps.toList, this.1, this.2]

theorem whK_memC20b (ks : JNodes) (c : JNode) (h : c ∈ ks.toList) : whNC20b c ≤ whKC20b ks :=
  forall_mem_JNodes (P := (whNC20b · ≤ whKC20b ks)) (Q := (whKC20b · ≤ whKC20b ks))
    (fun x t h => by simp only [whKC20b] at h; omega) ks (Nat.le_refl _) c h

theorem whP_memC20b (ps : JProps) (kv : Str × JVal) (h : kv ∈ ps.toList) : whVC20b kv.2 ≤ whPC20b ps :=
  forall_mem_JProps (P := (whVC20b ·.2 ≤ whPC20b ps)) (Q := (whPC20b · ≤ whPC20b ps))
    (fun k v t h => by simp only [whPC20b] at h ⊢; omega) ps (Nat.le_refl _) kv h

theorem walkOkK_memC20b (ks : JNodes) (h : walkOkKC20b ks = true) : ∀ c ∈ ks.toList, walkOkNC20b c = true :=
  forall_mem_JNodes (Q := (walkOkKC20b · = true)) (fun x t h => by simpa [walkOkKC20b] using h) ks h

theorem walkOkP_memC20b (ps : JProps) (h : walkOkPC20b ps = true) : ∀ kv ∈ ps.toList, walkOkVC20b kv.2 = true :=
  forall_mem_JProps (Q := (walkOkPC20b · = true)) (fun k v t h => by simpa [walkOkPC20b] using h) ps h

theorem visOk_of_walkOkC20b (v : JVal) (h : walkOkVC20b v = true) : visOkC20b v = true := by
  cases v with
  | node x =>
    cases x with
    | comp n ps ks => simp only [walkOkVC20b, walkOkNC20b, Bool.and_eq_true] at h; exact h.1.1.2
    | tag n a ks => simp only [walkOkVC20b, walkOkNC20b, Bool.and_eq_true] at h; exact h.1
    | tobj e =>
      cases e with
      | comp n ps ks => simp only [walkOkVC20b, walkOkNC20b, Bool.and_eq_true] at h; exact h.1.1.2
      | tag n a ks => simp only [walkOkVC20b, walkOkNC20b, Bool.and_eq_true] at h; exact h.1
      | _ => rfl
    | _ => rfl
  | dict fs => exact h
  | _ => rfl

mutual
  /-- no tagifiable object anywhere in the tree (in a walked tree: none was left un-expanded) -/
  def noTobjNC20b : JNode → Bool
    | .comp _ props kids => noTobjPC20b props && noTobjKC20b kids
    | .tag _ _ kids => noTobjKC20b kids
    | .tobj _ => false
    | .tobjL _ => false
    | _ => true
  def noTobjKC20b : JNodes → Bool
    | .nil => true
    | .cons h t => noTobjNC20b h && noTobjKC20b t
  def noTobjVC20b : JVal → Bool
    | .list _ vs => noTobjVsC20b vs
    | .dict fs => noTobjPC20b fs
    | .node n => noTobjNC20b n
    | _ => true
  def noTobjVsC20b : JVals → Bool
    | .nil => true
    | .cons h t => noTobjVC20b h && noTobjVsC20b t
  def noTobjPC20b : JProps → Bool
    | .nil => true
    | .cons _ v t => noTobjVC20b v && noTobjPC20b t
end

mutual
  theorem embIn_eq_embJNC20b (ι : Str → Option Int) : (n : JNode) → noTobjNC20b n = true → embInNC20b ι n = embJNode ι n
    | .comp nm ps ks, h => by
      simp only [noTobjNC20b, Bool.and_eq_true] at h
      simp only [embInNC20b, embJNode, embIn_eq_embJPC20b ι ps h.1, embIn_eq_embJKC20b ι ks h.2]
    | .tag nm a ks, h => by
      simp only [noTobjNC20b] at h
      simp only [embInNC20b, embJNode, embIn_eq_embJKC20b ι ks h]
    | .str k s, _ => by cases k <;> rfl
    | .md m, _ => by cases m <;> rfl
    | .tobj _, h | .tobjL _, h => by simp [noTobjNC20b] at h
  theorem embIn_eq_embJKC20b (ι : Str → Option Int) : (ks : JNodes) → noTobjKC20b ks = true → embInKC20b ι ks = embJNodes ι ks
    | .nil, _ => rfl
    | .cons x t, h => by
      simp only [noTobjKC20b, Bool.and_eq_true] at h
      simp only [embInKC20b, embJNodes, embIn_eq_embJNC20b ι x h.1, embIn_eq_embJKC20b ι t h.2]
  theorem embIn_eq_embJVC20b (ι : Str → Option Int) : (v : JVal) → noTobjVC20b v = true → embInVC20b ι v = embJVal ι v
    | .null, _ | .bool _, _ | .num _, _ => rfl
    | .list tup vs, h => by
      simp only [noTobjVC20b] at h
      simp only [embInVC20b, embJVal, embIn_eq_embJVsC20b ι vs h]
    | .dict fs, h => by
      simp only [noTobjVC20b] at h
      simp only [embInVC20b, embJVal, embIn_eq_embJPC20b ι fs h]
    | .node n, h => by
      simp only [noTobjVC20b] at h
      simp only [embInVC20b, embJVal, embIn_eq_embJNC20b ι n h]
  theorem embIn_eq_embJVsC20b (ι : Str → Option Int) : (vs : JVals) → noTobjVsC20b vs = true → embInVsC20b ι vs = embJVals ι vs
    | .nil, _ => rfl
    | .cons x t, h => by
      simp only [noTobjVsC20b, Bool.and_eq_true] at h
      simp only [embInVsC20b, embJVals, embIn_eq_embJVC20b ι x h.1, embIn_eq_embJVsC20b ι t h.2]
  theorem embIn_eq_embJPC20b (ι : Str → Option Int) : (ps : JProps) → noTobjPC20b ps = true → embInPC20b ι ps = embJProps ι ps
    | .nil, _ => rfl
    | .cons k v t, h => by
      simp only [noTobjPC20b, Bool.and_eq_true] at h
      simp only [embInPC20b, embJProps, embIn_eq_embJVC20b ι v h.1, embIn_eq_embJPC20b ι t h.2]
end

mutual
  theorem embOut_eq_embJNC20b (ι : Str → Option Int) : (n : JNode) → noTobjNC20b n = true → embOutNC20b ι n = embJNode ι n
    | .comp nm ps ks, h => by
      simp only [noTobjNC20b, Bool.and_eq_true] at h
      simp only [embOutNC20b, embJNode, embOut_eq_embJPC20b ι ps h.1, embOut_eq_embJKC20b ι ks h.2]
    | .tag nm a ks, h => by
      simp only [noTobjNC20b] at h
      simp only [embOutNC20b, embJNode, embOut_eq_embJKC20b ι ks h]
    | .str _ _, h | .md _, h => by simp only [embOutNC20b]; exact embIn_eq_embJNC20b ι _ h
    | .tobj _, h | .tobjL _, h => by simp [noTobjNC20b] at h
  theorem embOut_eq_embJKC20b (ι : Str → Option Int) : (ks : JNodes) → noTobjKC20b ks = true → embOutKC20b ι ks = embJNodes ι ks
    | .nil, _ => rfl
    | .cons x t, h => by
      simp only [noTobjKC20b, Bool.and_eq_true] at h
      simp only [embOutKC20b, embJNodes, embOut_eq_embJNC20b ι x h.1, embOut_eq_embJKC20b ι t h.2]
  theorem embOut_eq_embJPC20b (ι : Str → Option Int) : (ps : JProps) → noTobjPC20b ps = true → embOutPC20b ι ps = embJProps ι ps
    | .nil, _ => rfl
    | .cons k v t, h => by
      simp only [noTobjPC20b, Bool.and_eq_true] at h
      have hv : embOutVC20b ι v = embJVal ι v := by
        cases v with
        | node n => simp only [noTobjVC20b] at h; simp only [embOutVC20b, embJVal, embOut_eq_embJNC20b ι n h.1]
        | null | bool _ | num _ => rfl
        | list _ _ | dict _ => simp only [embOutVC20b]; exact embIn_eq_embJVC20b ι _ h.1
      simp only [embOutPC20b, embJProps, hv, embOut_eq_embJPC20b ι t h.2]
end

/-- the `<script>` Tag `tagify` returns, as `Tag.__init__` leaves it: `js` the JavaScript, `r` / `rd` the two library
    dependencies, `metas` the collected metadata nodes -/
def scriptObjC20b (js : Str) (r rd : PVal) (metas : List PVal) : PVal :=
  .obj "Tag" [("name", .str (chars% "script")), ("add_ws", .bool true),
    ("attrs", .dict [(chars% "type", .str (chars% "text/javascript")), (chars% "data-needs-render", .str [])]),
    ("children", .obj "TagList" [("data", .list (.html ('\n' :: js ++ ['\n']) :: r :: rd :: metas))]),
    ("prev_displayhook", .none)]

theorem char10C20b : Char.ofNat 10 = '\n' := rfl
theorem char39C20b : Char.ofNat 39 = '\'' := rfl
theorem char34C20b : Char.ofNat 34 = '"' := rfl

end HtmlVerif.SrcTie
