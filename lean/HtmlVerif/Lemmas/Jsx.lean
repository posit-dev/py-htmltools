/-
Helper lemmas for C20 (walk, collection, mirror, string literals, props dict).
-/
import HtmlVerif.Spec.Jsx

namespace HtmlVerif.JsxL
open HtmlVerif

@[simp] theorem demanded_jsxCopy : Discipline.demanded.jsxCopy = true := rfl
@[simp] theorem demanded_expCopy : Discipline.demanded.expCopy = true := rfl
@[simp] theorem demanded_renderCopy : Discipline.demanded.renderCopy = true := rfl
@[simp] theorem pinned_jsxCopy : Discipline.pinned.jsxCopy = false := rfl
@[simp] theorem pinned_expCopy : Discipline.pinned.expCopy = false := rfl
@[simp] theorem pinned_renderCopy : Discipline.pinned.renderCopy = false := rfl

/-! ### the walk under the demanded discipline leaves every visited object as it was -/

mutual
  theorem walk_orig (x : JNode) : (x.walk .demanded).orig = x := by
    cases x with
    | comp n ps ks => simp [JNode.walk, walkProps_orig ps, walkKids_orig ks]
    | tag n a ks => simp [JNode.walk, walkKids_orig ks]
    | tobj e => simp [JNode.walk, walkExp_orig e]
    | _ => simp [JNode.walk]
  theorem walkExp_orig (x : JNode) : (x.walkExp .demanded).orig = x := by
    cases x with
    | comp n ps ks => simp [JNode.walkExp, walkProps_orig ps, walkKids_orig ks]
    | tag n a ks => simp [JNode.walkExp, walkKids_orig ks]
    | _ => simp [JNode.walkExp]
  theorem walkKids_orig (ks : JNodes) : (ks.walkKids .demanded).orig = ks := by
    cases ks with
    | nil => simp [JNodes.walkKids]
    | cons h t => simp [JNodes.walkKids, walk_orig h, walkKids_orig t]
  theorem walkVal_orig (v : JVal) : (v.walkVal .demanded).orig = v := by
    cases v with
    | node n => simp [JVal.walkVal, walk_orig n]
    | _ => simp [JVal.walkVal]
  theorem walkProps_orig (ps : JProps) : (ps.walkProps .demanded).orig = ps := by
    cases ps with
    | nil => simp [JProps.walkProps]
    | cons k v t => simp [JProps.walkProps, walkVal_orig v, walkProps_orig t]
end

/-! ### the walked copy and the collected metadata do not depend on the discipline -/

mutual
  theorem walk_node_indep (d d' : Discipline) (x : JNode) : (x.walk d).node = (x.walk d').node := by
    cases x with
    | comp n ps ks => simp [JNode.walk, walkProps_node_indep d d' ps, walkKids_node_indep d d' ks]
    | tag n a ks => simp [JNode.walk, walkKids_node_indep d d' ks]
    | tobj e => simp [JNode.walk, walkExp_node_indep d d' e]
    | _ => simp [JNode.walk]
  theorem walkExp_node_indep (d d' : Discipline) (x : JNode) : (x.walkExp d).node = (x.walkExp d').node := by
    cases x with
    | comp n ps ks => simp [JNode.walkExp, walkProps_node_indep d d' ps, walkKids_node_indep d d' ks]
    | tag n a ks => simp [JNode.walkExp, walkKids_node_indep d d' ks]
    | _ => simp [JNode.walkExp]
  theorem walkKids_node_indep (d d' : Discipline) (ks : JNodes) : (ks.walkKids d).node = (ks.walkKids d').node := by
    cases ks with
    | nil => simp [JNodes.walkKids]
    | cons h t => simp [JNodes.walkKids, walk_node_indep d d' h, walkKids_node_indep d d' t]
  theorem walkVal_node_indep (d d' : Discipline) (v : JVal) : (v.walkVal d).node = (v.walkVal d').node := by
    cases v with
    | node n => simp [JVal.walkVal, walk_node_indep d d' n]
    | _ => simp [JVal.walkVal]
  theorem walkProps_node_indep (d d' : Discipline) (ps : JProps) : (ps.walkProps d).node = (ps.walkProps d').node := by
    cases ps with
    | nil => simp [JProps.walkProps]
    | cons k v t => simp [JProps.walkProps, walkVal_node_indep d d' v, walkProps_node_indep d d' t]
end

mutual
  theorem walk_metas (d : Discipline) (x : JNode) : (x.walk d).metas = x.metasIn := by
    cases x with
    | comp n ps ks => simp [JNode.walk, JNode.metasIn, walkProps_metas d ps, walkKids_metas d ks]
    | tag n a ks => simp [JNode.walk, JNode.metasIn, walkKids_metas d ks]
    | tobj e => simp [JNode.walk, JNode.metasIn, walkExp_metas d e]
    | _ => simp [JNode.walk, JNode.metasIn]
  theorem walkExp_metas (d : Discipline) (x : JNode) : (x.walkExp d).metas = x.metasInExp := by
    cases x with
    | comp n ps ks => simp [JNode.walkExp, JNode.metasInExp, walkProps_metas d ps, walkKids_metas d ks]
    | tag n a ks => simp [JNode.walkExp, JNode.metasInExp, walkKids_metas d ks]
    | _ => simp [JNode.walkExp, JNode.metasInExp]
  theorem walkKids_metas (d : Discipline) (ks : JNodes) : (ks.walkKids d).metas = ks.metasInKids := by
    cases ks with
    | nil => simp [JNodes.walkKids, JNodes.metasInKids]
    | cons h t => simp [JNodes.walkKids, JNodes.metasInKids, walk_metas d h, walkKids_metas d t]
  theorem walkVal_metas (d : Discipline) (v : JVal) : (v.walkVal d).metas = v.metasInVal := by
    cases v with
    | node n => simp [JVal.walkVal, JVal.metasInVal, walk_metas d n]
    | _ => simp [JVal.walkVal, JVal.metasInVal]
  theorem walkProps_metas (d : Discipline) (ps : JProps) : (ps.walkProps d).metas = ps.metasInProps := by
    cases ps with
    | nil => simp [JProps.walkProps, JProps.metasInProps]
    | cons k v t => simp [JProps.walkProps, JProps.metasInProps, walkVal_metas d v, walkProps_metas d t]
end

/-! ### `_render_react_js` is the layout of the mirrored expression -/

theorem printFields_styleFields (kvs : List (Str × Str)) :
    (styleFields kvs).printFields = kvs.map fun kv => jsField kv.1 (jsQuote kv.2) := by
  induction kvs with
  | nil => simp [styleFields, JsFields.printFields]
  | cons kv r ih => obtain ⟨k, v⟩ := kv; simp [styleFields, JsFields.printFields, Js.print, indentStr, ih]

theorem styleOfString_eq (s : Str) :
    styleOfString s = (parseStyle s).map fun kvs => (Js.obj (styleFields kvs)).print 0 ['\n'] := by
  unfold styleOfString
  cases parseStyle s <;> simp [Except.map, Js.print, printFields_styleFields]

theorem attrVal_mirror (k : Str) (v : AttrVal) :
    attrValJs k v = (attrValMirror k v).map fun j => j.print 0 ['\n'] := by
  unfold attrValJs attrValMirror
  split
  · cases v with
    | plain s => simp only [styleOfString_eq]; cases parseStyle s <;> simp [Except.map]
    | html s => simp [Except.map]
  · simp [Except.map, Js.print, indentStr]

theorem attrs_mirror (a : Attrs) : attrsJs a = (attrsMirror a).map fun fs => fs.printFields := by
  induction a with
  | nil => simp [attrsJs, attrsMirror, Except.map, JsFields.printFields]
  | cons kv r ih =>
    obtain ⟨k, v⟩ := kv
    simp only [attrsJs, attrsMirror, attrVal_mirror, ih]
    cases attrValMirror k v <;> simp [Except.map]
    cases attrsMirror r <;> simp [JsFields.printFields]

theorem attrsMirror_isEmpty {a : Attrs} {fs : JsFields} (h : attrsMirror a = .ok fs) : fs.isEmpty = a.isEmpty := by
  cases a with
  | nil => simp [attrsMirror] at h; subst h; rfl
  | cons kv r =>
    obtain ⟨k, v⟩ := kv
    simp only [attrsMirror] at h
    cases hv : attrValMirror k v <;> simp [hv] at h
    cases hr : attrsMirror r <;> simp [hr] at h
    subst h; rfl

theorem elem_mirror (i : Nat) (eol nm : Str) (noAttrs noKids : Bool)
    (mf : Except Err JsFields) (mk : Except Err Jss)
    (hnil : noAttrs = true → mf = .ok .nil)
    (hempty : ∀ fs, mf = .ok fs → fs.isEmpty = noAttrs) :
    elemJs i eol nm noAttrs noKids (mf.map fun fs => fs.printFields) (mk.map fun ks => ks.printKids (i + 1) eol)
      = (createMirror nm noKids mf mk).map fun j => j.print i eol := by
  cases mf with
  | error e =>
    cases noAttrs with
    | true => simp at hnil
    | false => simp [elemJs, createMirror, Except.map]
  | ok fs =>
    have he := hempty fs rfl
    cases noKids with
    | true => cases noAttrs <;> simp [elemJs, createMirror, Except.map, Js.print, he]
    | false =>
      cases mk with
      | error e => simp [elemJs, createMirror, Except.map]
      | ok ks => simp [elemJs, createMirror, Except.map, Js.print]

theorem jsQuote_ne_nil (s : Str) : jsQuote s ≠ [] := by simp [jsQuote]

theorem create_print_ne_nil (nm : Str) (fs : JsFields) (nk : Bool) (ks : Jss) (i : Nat) (eol : Str) :
    (Js.create nm fs nk ks).print i eol ≠ [] := by
  -- every layout of a call ends with `)`
  simp only [Js.print]
  split <;> (try split) <;> simp

theorem createMirror_print_ne_nil {nm : Str} {nk : Bool} {mf : Except Err JsFields} {mk : Except Err Jss} {j : Js}
    (h : createMirror nm nk mf mk = .ok j) (i : Nat) (eol : Str) : j.print i eol ≠ [] := by
  unfold createMirror at h
  cases mf with
  | error e => simp at h
  | ok fs =>
    cases nk with
    | true => simp at h; subst h; exact create_print_ne_nil _ _ _ _ _ _
    | false =>
      cases mk with
      | error e => simp at h
      | ok ks => simp at h; subst h; exact create_print_ne_nil _ _ _ _ _ _

theorem mirrorFields_isEmpty {top : Bool} {ps : JProps} {fs : JsFields} (h : ps.mirrorFields top = .ok fs) :
    fs.isEmpty = ps.isEmpty := by
  cases ps with
  | nil => simp [JProps.mirrorFields] at h; subst h; rfl
  | cons k v t =>
    simp only [JProps.mirrorFields] at h
    split at h
    · simp at h
    · split at h
      · simp at h
      · simp at h; subst h; rfl

theorem mirror_print_ne_nil {x : JNode} {j : Js} (hx : ∀ m, x ≠ .md m) (h : x.mirror = .ok j) (i : Nat) (eol : Str) :
    j.print i eol ≠ [] := by
  cases x with
  | md m => exact absurd rfl (hx m)
  | str k s => cases k <;> simp [JNode.mirror] at h <;> subst h <;> simp [Js.print, jsQuote]
  | tobj _ | tobjL _ => simp [JNode.mirror] at h
  | _ => simp only [JNode.mirror] at h; exact createMirror_print_ne_nil h i eol

theorem mirrorKids_cons (x : JNode) (t : JNodes) (hx : ∀ m, x ≠ .md m) :
    (JNodes.cons x t).mirrorKids =
      match x.mirror with
      | .error e => .error e
      | .ok j => match t.mirrorKids with
        | .error e => .error e
        | .ok js => .ok (.cons j js) := by
  cases x <;> first | (exact absurd rfl (hx _)) | (simp only [JNodes.mirrorKids]; rfl)

mutual
  theorem mirror_node (x : JNode) (i : Nat) (eol : Str) :
      x.renderJs i eol = x.mirror.map fun j => j.print i eol := by
    cases x with
    | md m => simp [JNode.renderJs, JNode.mirror, Except.map, Js.print]
    | str k s => cases k <;> simp [JNode.renderJs, JNode.mirror, Except.map, Js.print]
    | comp n ps ks =>
      simp only [JNode.renderJs, JNode.mirror]
      rw [mirror_fields true ps, mirror_kids ks (i + 1) eol]
      exact elem_mirror i eol n ps.isEmpty ks.isEmpty _ _
        (by intro h; cases ps <;> simp_all [JProps.isEmpty, JProps.mirrorFields])
        (fun fs h => mirrorFields_isEmpty h)
    | tag n a ks =>
      simp only [JNode.renderJs, JNode.mirror]
      rw [attrs_mirror a, mirror_kids ks (i + 1) eol]
      exact elem_mirror i eol _ a.isEmpty ks.isEmpty _ _
        (by intro h; cases a <;> simp_all [attrsMirror])
        (fun fs h => attrsMirror_isEmpty h)
    | tobj _ | tobjL _ => simp [JNode.renderJs, JNode.mirror, Except.map]
  theorem mirror_kids (ks : JNodes) (i : Nat) (eol : Str) :
      ks.kidsJs i eol = ks.mirrorKids.map fun js => js.printKids i eol := by
    cases ks with
    | nil => simp [JNodes.kidsJs, JNodes.mirrorKids, Except.map, Jss.printKids]
    | cons h t =>
      by_cases hmd : ∃ m, h = .md m
      · obtain ⟨m, rfl⟩ := hmd
        simp only [JNodes.kidsJs, JNode.renderJs, JNodes.mirrorKids]
        rw [mirror_kids t i eol]
        cases t.mirrorKids <;> simp [Except.map]
      · have hx : ∀ m, h ≠ .md m := fun m hm => hmd ⟨m, hm⟩
        rw [mirrorKids_cons h t hx]
        simp only [JNodes.kidsJs]
        rw [mirror_node h i eol, mirror_kids t i eol]
        cases hm : h.mirror with
        | error e => simp [Except.map]
        | ok j =>
          have hne := mirror_print_ne_nil hx hm i eol
          cases t.mirrorKids <;> simp [Except.map, Jss.printKids, hne]
  theorem mirror_val (v : JVal) : v.serialize = v.mirrorVal.map fun j => j.print 0 ['\n'] := by
    cases v with
    | null => simp [JVal.serialize, JVal.mirrorVal, Except.map, Js.print]
    | bool b => cases b <;> simp [JVal.serialize, JVal.mirrorVal, Except.map, Js.print]
    | num t => simp [JVal.serialize, JVal.mirrorVal, Except.map, Js.print]
    | list tup vs =>
      simp only [JVal.serialize, JVal.mirrorVal]
      rw [mirror_vals vs]
      cases vs.mirrorVals <;> simp [Except.map, Js.print]
    | dict fs =>
      simp only [JVal.serialize, JVal.mirrorVal]
      rw [mirror_fields false fs]
      cases fs.mirrorFields false <;> simp [Except.map, Js.print]
    | node n =>
      cases n with
      | str k s => cases k <;> simp [JVal.serialize, JVal.mirrorVal, Except.map, Js.print, indentStr]
      | comp _ _ _ | tag _ _ _ => simp only [JVal.serialize, JVal.mirrorVal]; exact mirror_node _ 0 _
      | md _ | tobj _ | tobjL _ => simp [JVal.serialize, JVal.mirrorVal, Except.map]
  theorem mirror_vals (vs : JVals) : vs.serializeAll = vs.mirrorVals.map fun js => js.printItems := by
    cases vs with
    | nil => simp [JVals.serializeAll, JVals.mirrorVals, Except.map, Jss.printItems]
    | cons h t =>
      simp only [JVals.serializeAll, JVals.mirrorVals]
      rw [mirror_val h, mirror_vals t]
      cases h.mirrorVal <;> simp [Except.map]
      cases t.mirrorVals <;> simp [Jss.printItems]
  theorem mirror_style (v : JVal) : v.serializeStyle = v.mirrorStyle.map fun j => j.print 0 ['\n'] := by
    cases v with
    | null => simp [JVal.serializeStyle, JVal.mirrorStyle, Except.map, Js.print, JsFields.printFields, jsObj, joinStr]
    | dict fs =>
      simp only [JVal.serializeStyle, JVal.mirrorStyle]
      rw [mirror_fields false fs]
      cases fs.mirrorFields false <;> simp [Except.map, Js.print]
    | node n =>
      cases n with
      | str k s =>
        cases k <;> simp only [JVal.serializeStyle, JVal.mirrorStyle, styleOfString_eq] <;>
          first | (cases parseStyle s <;> simp [Except.map]) | simp [Except.map]
      | _ => simp [JVal.serializeStyle, JVal.mirrorStyle, Except.map]
    | _ => simp [JVal.serializeStyle, JVal.mirrorStyle, Except.map]
  theorem mirror_fields (top : Bool) (ps : JProps) :
      ps.fieldsJs top = (ps.mirrorFields top).map fun fs => fs.printFields := by
    cases ps with
    | nil => simp [JProps.fieldsJs, JProps.mirrorFields, Except.map, JsFields.printFields]
    | cons k v t =>
      simp only [JProps.fieldsJs, JProps.mirrorFields]
      rw [mirror_fields top t]
      by_cases hs : (top && decide (k = chars% "style")) = true
      · rw [if_pos hs, if_pos hs, mirror_style v]
        cases v.mirrorStyle <;> simp [Except.map]
        cases t.mirrorFields top <;> simp [JsFields.printFields]
      · rw [if_neg hs, if_neg hs, mirror_val v]
        cases v.mirrorVal <;> simp [Except.map]
        cases t.mirrorFields top <;> simp [JsFields.printFields]
end

theorem mirrorFields_keys {top : Bool} : {ps : JProps} → {fs : JsFields} → ps.mirrorFields top = .ok fs →
    fs.keys = ps.keys
  | .nil, fs, h => by simp [JProps.mirrorFields] at h; subst h; rfl
  | .cons k v t, fs, h => by
    simp only [JProps.mirrorFields] at h
    split at h
    · simp at h
    · split at h
      · simp at h
      · rename_i js hjs
        simp at h; subst h
        simp [JsFields.keys, JProps.keys, mirrorFields_keys hjs]

theorem jsEscChar_quote : jsEscChar '"' = some ['"'] := by decide

theorem jsBody_quoted (s : Str) (h : plainJsText s = true) :
    jsBody false (replaceChar '"' ['\\', '"'] s ++ ['"']) = some s := by
  induction s with
  | nil => simp [replaceChar, jsBody]
  | cons c r ih =>
    simp only [plainJsText, List.all_cons, Bool.and_eq_true, bne_iff_ne, ne_eq] at h
    obtain ⟨⟨⟨h1, h2⟩, h3⟩, hr⟩ := h
    have ihr := ih (by simpa [plainJsText] using hr)
    simp only [replaceChar, List.flatMap_cons] at ihr ⊢
    by_cases hq : c = '"'
    · subst hq
      simp [jsBody, jsEscChar_quote, ihr]
    · simp [hq, jsBody, h1, h2, h3, ihr]

theorem set_keys (k : Str) (v : JVal) : (ps : JProps) →
    (ps.set k v).keys = if k ∈ ps.keys then ps.keys else ps.keys ++ [k]
  | .nil => by simp [JProps.set, JProps.keys]
  | .cons k' v' t => by
    have ih := set_keys k v t
    by_cases h : k' = k
    · simp [JProps.set, JProps.keys, h]
    · have h' : ¬ k = k' := fun e => h e.symm
      simp only [JProps.set, h, if_false, JProps.keys, ih, List.mem_cons, h', false_or]
      split <;> simp

theorem set_nodup (k : Str) (v : JVal) (ps : JProps) (h : ps.keys.Nodup) : (ps.set k v).keys.Nodup := by
  rw [set_keys]
  split
  · exact h
  · rename_i hk
    exact List.nodup_append.mpr ⟨h, by simp, by
      intro a ha b hb
      simp at hb; subst hb
      exact fun e => hk (e ▸ ha)⟩

theorem set_lookup (k : Str) (v : JVal) (k' : Str) : (ps : JProps) →
    (ps.set k v).lookup k' = if k' = k then some v else ps.lookup k'
  | .nil => by
    by_cases h : k' = k
    · simp [JProps.set, JProps.lookup, h]
    · have h' : ¬ k = k' := fun e => h e.symm
      simp [JProps.set, JProps.lookup, h, h']
  | .cons k2 v2 t => by
    have ih := set_lookup k v k' t
    by_cases h2 : k2 = k
    · subst h2
      by_cases h : k' = k2
      · simp [JProps.set, JProps.lookup, h]
      · have h' : ¬ k2 = k' := fun e => h e.symm
        simp [JProps.set, JProps.lookup, h, h']
    · simp only [JProps.set, h2, if_false, JProps.lookup, ih]
      by_cases h : k2 = k'
      · subst h; simp [h2]
      · simp [h]

/-- the loop of `_update` from any accumulated dict -/
def foldProps (acc : JProps) (kw : List (Str × JVal)) : JProps :=
  kw.foldl (fun acc kv => acc.set (normAttrName kv.1) kv.2) acc

theorem foldProps_nodup (kw : List (Str × JVal)) (acc : JProps) (h : acc.keys.Nodup) :
    (foldProps acc kw).keys.Nodup := by
  induction kw generalizing acc with
  | nil => simpa [foldProps] using h
  | cons kv r ih => exact ih _ (set_nodup _ _ _ h)

theorem foldProps_mem (kw : List (Str × JVal)) (acc : JProps) (k : Str) :
    k ∈ (foldProps acc kw).keys ↔ k ∈ acc.keys ∨ ∃ kv ∈ kw, normAttrName kv.1 = k := by
  induction kw generalizing acc with
  | nil => simp [foldProps]
  | cons kv r ih =>
    have := ih (acc.set (normAttrName kv.1) kv.2)
    simp only [foldProps, List.foldl_cons] at this ⊢
    rw [this, set_keys]
    by_cases hm : normAttrName kv.1 ∈ acc.keys
    · simp only [hm, if_true, List.mem_cons, exists_eq_or_imp]
      constructor
      · rintro (h | h)
        · exact .inl h
        · exact .inr (.inr h)
      · rintro (h | h | h)
        · exact .inl h
        · exact .inl (h ▸ hm)
        · exact .inr h
    · simp only [hm, if_false, List.mem_append, List.mem_cons, List.not_mem_nil, or_false, exists_eq_or_imp]
      constructor
      · rintro ((h | h) | h)
        · exact .inl h
        · exact .inr (.inl h.symm)
        · exact .inr (.inr h)
      · rintro (h | h | h)
        · exact .inl (.inl h)
        · exact .inl (.inr h.symm)
        · exact .inr h

theorem foldProps_lookup (kw : List (Str × JVal)) (acc : JProps) (k : Str) :
    (foldProps acc kw).lookup k =
      match kw.reverse.find? (fun kv => normAttrName kv.1 = k) with
      | some kv => some kv.2
      | none => acc.lookup k := by
  induction kw generalizing acc with
  | nil => simp [foldProps]
  | cons kv r ih =>
    have := ih (acc.set (normAttrName kv.1) kv.2)
    simp only [foldProps, List.foldl_cons] at this ⊢
    rw [this, List.reverse_cons, List.find?_append]
    cases hf : r.reverse.find? (fun kv => normAttrName kv.1 = k) with
    | some x => simp
    | none =>
      by_cases hk : normAttrName kv.1 = k
      · simp [set_lookup _ _ _ _, hk]
      · have hk' : ¬ k = normAttrName kv.1 := fun e => hk e.symm
        simp [set_lookup _ _ _ _, hk, hk']

/-! ### `metasIn` lists exactly the attached metadata nodes -/

mutual
  theorem attached_of_mem (x : JNode) (m : JMeta) (h : m ∈ x.metasIn) : Attached x m := by
    cases x with
    | comp n ps ks =>
      simp only [JNode.metasIn, List.mem_append] at h
      rcases h with h | h
      · exact .compProp (attachedProps_of_mem ps m h)
      · exact .compChild (attachedKids_of_mem ks m h)
    | tag n a ks => exact .tagChild (attachedKids_of_mem ks m (by simpa [JNode.metasIn] using h))
    | md m' => simp [JNode.metasIn] at h; subst h; exact .here _
    | tobj e => exact .expansion (attachedExp_of_mem e m (by simpa [JNode.metasIn] using h))
    | str _ _ | tobjL _ => simp [JNode.metasIn] at h
  theorem attachedExp_of_mem (x : JNode) (m : JMeta) (h : m ∈ x.metasInExp) : AttachedExp x m := by
    cases x with
    | comp n ps ks =>
      simp only [JNode.metasInExp, List.mem_append] at h
      rcases h with h | h
      · exact .compProp (attachedProps_of_mem ps m h)
      · exact .compChild (attachedKids_of_mem ks m h)
    | tag n a ks => exact .tagChild (attachedKids_of_mem ks m (by simpa [JNode.metasInExp] using h))
    | md m' => simp [JNode.metasInExp] at h; subst h; exact .here _
    | str _ _ | tobj _ | tobjL _ => simp [JNode.metasInExp] at h
  theorem attachedKids_of_mem (ks : JNodes) (m : JMeta) (h : m ∈ ks.metasInKids) : AttachedKids ks m := by
    cases ks with
    | nil => simp [JNodes.metasInKids] at h
    | cons x t =>
      simp only [JNodes.metasInKids, List.mem_append] at h
      rcases h with h | h
      · exact .head (attached_of_mem x m h)
      · exact .tail (attachedKids_of_mem t m h)
  theorem attachedProps_of_mem (ps : JProps) (m : JMeta) (h : m ∈ ps.metasInProps) : AttachedProps ps m := by
    cases ps with
    | nil => simp [JProps.metasInProps] at h
    | cons k v t =>
      simp only [JProps.metasInProps, List.mem_append] at h
      rcases h with h | h
      · cases v with
        | node n => exact .head (attached_of_mem n m (by simpa [JVal.metasInVal] using h))
        | _ => simp [JVal.metasInVal] at h
      · exact .tail (attachedProps_of_mem t m h)
end

-- by recursion on the derivation (`m` fixed); the four statements below are these
mutual
  theorem mem_attached {m : JMeta} : {x : JNode} → Attached x m → m ∈ x.metasIn
    | _, .here _ => by simp [JNode.metasIn]
    | _, .compChild hk => by simp only [JNode.metasIn, List.mem_append]; exact .inr (mem_attachedKids hk)
    | _, .compProp hp => by simp only [JNode.metasIn, List.mem_append]; exact .inl (mem_attachedProps hp)
    | _, .tagChild hk => by simpa [JNode.metasIn] using mem_attachedKids hk
    | _, .expansion he => by simpa [JNode.metasIn] using mem_attachedExp he
  theorem mem_attachedExp {m : JMeta} : {x : JNode} → AttachedExp x m → m ∈ x.metasInExp
    | _, .here _ => by simp [JNode.metasInExp]
    | _, .compChild hk => by simp only [JNode.metasInExp, List.mem_append]; exact .inr (mem_attachedKids hk)
    | _, .compProp hp => by simp only [JNode.metasInExp, List.mem_append]; exact .inl (mem_attachedProps hp)
    | _, .tagChild hk => by simpa [JNode.metasInExp] using mem_attachedKids hk
  theorem mem_attachedKids {m : JMeta} : {ks : JNodes} → AttachedKids ks m → m ∈ ks.metasInKids
    | _, .head hh => by simp only [JNodes.metasInKids, List.mem_append]; exact .inl (mem_attached hh)
    | _, .tail ht => by simp only [JNodes.metasInKids, List.mem_append]; exact .inr (mem_attachedKids ht)
  theorem mem_attachedProps {m : JMeta} : {ps : JProps} → AttachedProps ps m → m ∈ ps.metasInProps
    | _, .head hh => by
      simp only [JProps.metasInProps, List.mem_append]
      exact .inl (by simpa [JVal.metasInVal] using mem_attached hh)
    | _, .tail ht => by simp only [JProps.metasInProps, List.mem_append]; exact .inr (mem_attachedProps ht)
end

theorem mem_of_attached (x : JNode) (m : JMeta) (h : Attached x m) : m ∈ x.metasIn := mem_attached h
theorem mem_of_attachedExp (x : JNode) (m : JMeta) (h : AttachedExp x m) : m ∈ x.metasInExp := mem_attachedExp h
theorem mem_of_attachedKids (ks : JNodes) (m : JMeta) (h : AttachedKids ks m) : m ∈ ks.metasInKids := mem_attachedKids h
theorem mem_of_attachedProps (ps : JProps) (m : JMeta) (h : AttachedProps ps m) : m ∈ ps.metasInProps :=
  mem_attachedProps h

theorem visible_metas (ms : List JMeta) : (Nodes.ofList (ms.map JMeta.toNode)).visible = [] := by
  induction ms with
  | nil => simp [Nodes.ofList, Nodes.visible]
  | cons m r ih => cases m <;> simp [Nodes.ofList, Nodes.visible, JMeta.toNode, Node.isMeta, ih]

end HtmlVerif.JsxL
