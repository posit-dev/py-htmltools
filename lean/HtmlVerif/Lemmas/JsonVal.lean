/-
Value level of C13: the printer/parser pair on the dependency-record fragment, for any indent and any
string-body encoder the scanner inverts.
-/
import HtmlVerif.Lemmas.JsonStr

namespace HtmlVerif

def AllWs (s : Str) : Prop := ∀ c ∈ s, jsonIsWs c = true

theorem skipWs_allWs (pre X : Str) (h : AllWs pre) : skipWs (pre ++ X) = skipWs X := by
  induction pre with
  | nil => rfl
  | cons c cs ih =>
    have hc : jsonIsWs c = true := h c (by simp)
    have : AllWs cs := fun d hd => h d (by simp [hd])
    simp [skipWs, hc, ih this]

theorem skipWs_cons (c : Char) (X : Str) (h : jsonIsWs c = false) : skipWs (c :: X) = c :: X := by
  simp [skipWs, h]

theorem mem_nlInd {ind : Option Nat} {lvl : Nat} {c : Char} (h : c ∈ nlInd ind lvl) : c = '\n' ∨ c = ' ' := by
  cases ind with
  | none => simp [nlInd] at h
  | some n =>
    simp only [nlInd, List.mem_cons, List.mem_replicate] at h
    exact h.imp_right (·.2)

theorem mem_lead {ind : Option Nat} {lvl : Nat} {first : Bool} {c : Char}
    (h : c ∈ if first then nlInd ind lvl else itemSep ind lvl) : c = ',' ∨ c = '\n' ∨ c = ' ' := by
  cases first
  · cases ind with
    | none => simp [itemSep] at h; exact h.imp_right .inr
    | some n => exact (List.mem_cons.mp h).imp_right mem_nlInd
  · exact .inr (mem_nlInd h)

theorem nlInd_allWs (ind : Option Nat) (lvl : Nat) : AllWs (nlInd ind lvl) :=
  fun c hc => by rcases mem_nlInd hc with rfl | rfl <;> decide

theorem allWs_space : AllWs [' '] := by
  intro c hc; simp at hc; subst hc; decide

theorem skipWs_pre {pre : Str} {c : Char} (X : Str) (h : AllWs pre) (hc : jsonIsWs c = false) :
    skipWs (pre ++ c :: X) = c :: X := by
  rw [skipWs_allWs pre _ h, skipWs_cons c X hc]

theorem itemSep_eq (ind : Option Nat) (lvl : Nat) : ∃ w, AllWs w ∧ itemSep ind lvl = ',' :: w := by
  cases ind with
  | none => exact ⟨_, allWs_space, rfl⟩
  | some n => exact ⟨_, nlInd_allWs (some n) lvl, rfl⟩

def ValHead (c : Char) : Prop := c = 'n' ∨ c = 't' ∨ c = 'f' ∨ c = '"' ∨ c = '[' ∨ c = '{'

theorem ValHead.notWs {c : Char} (h : ValHead c) : jsonIsWs c = false := by
  rcases h with rfl | rfl | rfl | rfl | rfl | rfl <;> decide

theorem ValHead.ne_rbracket {c : Char} (h : ValHead c) : c ≠ ']' := by
  rcases h with rfl | rfl | rfl | rfl | rfl | rfl <;> decide

theorem ValHead.ne_rbrace {c : Char} (h : ValHead c) : c ≠ '}' := by
  rcases h with rfl | rfl | rfl | rfl | rfl | rfl <;> decide

theorem printVal_head (enc : Str → Str) (ind : Option Nat) (lvl : Nat) (v : Json) :
    ∃ c r, printVal enc ind lvl v = c :: r ∧ ValHead c := by
  rcases v with _ | (_ | _) | _ | _ | _ <;> exact ⟨_, _, rfl, by simp [ValHead]⟩

theorem parseVal_ws (f : Nat) (pre X : Str) (h : AllWs pre) : parseVal f (pre ++ X) = parseVal f X := by
  cases f with
  | zero => simp [parseVal]
  | succ f => rw [parseVal, parseVal, skipWs_allWs pre X h]

theorem parseVal_str (f : Nat) (r x r' : Str) (h : parseStrBody r.length r = some (x, r')) :
    parseVal (f + 1) ('"' :: r) = some (.str x, r') := by
  rw [parseVal]; simp [skipWs, jsonIsWs, h]

theorem parseVal_arr_nil (f : Nat) (r : Str) : parseVal (f + 1) ('[' :: ']' :: r) = some (.arr .nil, r) := rfl

theorem parseVal_obj_nil (f : Nat) (r : Str) : parseVal (f + 1) ('{' :: '}' :: r) = some (.obj .nil, r) := rfl

theorem parseVal_arr (f : Nat) (r tail : Str) (c : Char) (xs : JList) (r'' : Str)
    (hs : skipWs r = c :: tail) (hc : c ≠ ']') (he : parseElems f r = some (xs, r'')) :
    parseVal (f + 1) ('[' :: r) = some (.arr xs, r'') := by
  rw [parseVal]; simp [skipWs, jsonIsWs, hs, hc, he]

theorem parseVal_obj (f : Nat) (r tail : Str) (c : Char) (ms : JMems) (r'' : Str)
    (hs : skipWs r = c :: tail) (hc : c ≠ '}') (he : parseMems f r = some (ms, r'')) :
    parseVal (f + 1) ('{' :: r) = some (.obj ms, r'') := by
  rw [parseVal]; simp [skipWs, jsonIsWs, hs, hc, he]

theorem parseElems_last (f : Nat) (s r r' : Str) (v : Json) (hv : parseVal f s = some (v, r))
    (hs : skipWs r = ']' :: r') : parseElems (f + 1) s = some (.cons v .nil, r') := by
  rw [parseElems]; simp [hv, hs]

theorem parseElems_more (f : Nat) (s r r' r'' : Str) (v : Json) (xs : JList) (hv : parseVal f s = some (v, r))
    (hs : skipWs r = ',' :: r') (he : parseElems f r' = some (xs, r'')) :
    parseElems (f + 1) s = some (.cons v xs, r'') := by
  rw [parseElems]; simp [hv, hs, he]

theorem parseMems_last (f : Nat) (s r r1 r2 r3 r4 k : Str) (v : Json) (h0 : skipWs s = '"' :: r)
    (hk : parseStrBody r.length r = some (k, r1)) (hc : skipWs r1 = ':' :: r2)
    (hv : parseVal f r2 = some (v, r3)) (he : skipWs r3 = '}' :: r4) :
    parseMems (f + 1) s = some (.cons k v .nil, r4) := by
  rw [parseMems]; simp [h0, hk, hc, hv, he]

theorem parseMems_more (f : Nat) (s r r1 r2 r3 r4 r5 k : Str) (v : Json) (ms : JMems) (h0 : skipWs s = '"' :: r)
    (hk : parseStrBody r.length r = some (k, r1)) (hc : skipWs r1 = ':' :: r2)
    (hv : parseVal f r2 = some (v, r3)) (he : skipWs r3 = ',' :: r4) (hm : parseMems f r4 = some (ms, r5)) :
    parseMems (f + 1) s = some (.cons k v ms, r5) := by
  rw [parseMems]; simp [h0, hk, hc, hv, he, hm]

theorem printVal_arr (enc : Str → Str) (ind : Option Nat) (lvl : Nat) (xs : JList) :
    printVal enc ind lvl (.arr xs) = '[' :: (printElems enc ind lvl true xs ++ [']']) := rfl

theorem printVal_obj (enc : Str → Str) (ind : Option Nat) (lvl : Nat) (ms : JMems) :
    printVal enc ind lvl (.obj ms) = '{' :: (printMems enc ind lvl true ms ++ ['}']) := rfl

theorem printVal_arr_append (enc : Str → Str) (ind : Option Nat) (lvl : Nat) (xs : JList) (X : Str) :
    printVal enc ind lvl (.arr xs) ++ X = '[' :: (printElems enc ind lvl true xs ++ ']' :: X) :=
  congrArg ('[' :: ·) (List.append_assoc ..)

theorem printVal_obj_append (enc : Str → Str) (ind : Option Nat) (lvl : Nat) (ms : JMems) (X : Str) :
    printVal enc ind lvl (.obj ms) ++ X = '{' :: (printMems enc ind lvl true ms ++ '}' :: X) :=
  congrArg ('{' :: ·) (List.append_assoc ..)

theorem printElems_nil (enc : Str → Str) (ind : Option Nat) (lvl : Nat) (first : Bool) :
    printElems enc ind lvl first .nil = if first then [] else nlInd ind lvl := rfl

theorem printMems_nil (enc : Str → Str) (ind : Option Nat) (lvl : Nat) (first : Bool) :
    printMems enc ind lvl first .nil = if first then [] else nlInd ind lvl := rfl

theorem printElems_cons_append (enc : Str → Str) (ind : Option Nat) (lvl : Nat) (first : Bool) (h : Json)
    (t : JList) (X : Str) :
    printElems enc ind lvl first (.cons h t) ++ X
      = (if first then nlInd ind (lvl + 1) else itemSep ind (lvl + 1))
          ++ (printVal enc ind (lvl + 1) h ++ (printElems enc ind lvl false t ++ X)) :=
  (List.append_assoc ..).trans (List.append_assoc ..)

theorem printMems_cons_append (enc : Str → Str) (ind : Option Nat) (lvl : Nat) (first : Bool) (k : Str) (v : Json)
    (t : JMems) (X : Str) :
    printMems enc ind lvl first (.cons k v t) ++ X
      = (if first then nlInd ind (lvl + 1) else itemSep ind (lvl + 1))
          ++ (strLit enc k ++ ([':', ' '] ++ (printVal enc ind (lvl + 1) v ++ (printMems enc ind lvl false t ++ X)))) :=
  (List.append_assoc ..).trans ((List.append_assoc ..).trans (List.append_assoc ..))

theorem strLit_append (enc : Str → Str) (k X : Str) : strLit enc k ++ X = '"' :: (enc k ++ '"' :: X) := by
  simp [strLit]

/-! ### sizes (fuel) -/

mutual
  def Json.size : Json → Nat
    | .arr xs => 1 + xs.size
    | .obj ms => 1 + ms.size
    | _ => 1
  def JList.size : JList → Nat
    | .nil => 0
    | .cons h t => 1 + h.size + t.size
  def JMems.size : JMems → Nat
    | .nil => 0
    | .cons _ v t => 1 + v.size + t.size
end

/-- every item but the first brings at least its comma -/
theorem lead_length (ind : Option Nat) (lvl : Nat) (first : Bool) :
    1 ≤ (if first then nlInd ind lvl else itemSep ind lvl).length + (if first then 1 else 0) := by
  cases first
  · cases ind <;> simp [itemSep]
  · simp

mutual
  theorem size_le_printVal (enc : Str → Str) (ind : Option Nat) :
      ∀ (v : Json) (lvl : Nat), v.size ≤ (printVal enc ind lvl v).length
    | .null, _ => (by decide : 1 ≤ 4)
    | .bool true, _ => (by decide : 1 ≤ 4)
    | .bool false, _ => (by decide : 1 ≤ 5)
    | .str s, _ => Nat.le_add_left ..
    | .arr xs, lvl => by
      rw [printVal_arr, List.length_cons, List.length_append]
      show 1 + xs.size ≤ _
      rw [Nat.add_comm 1]
      exact Nat.succ_le_succ (size_le_printElems enc ind xs lvl true)
    | .obj ms, lvl => by
      rw [printVal_obj, List.length_cons, List.length_append]
      show 1 + ms.size ≤ _
      rw [Nat.add_comm 1]
      exact Nat.succ_le_succ (size_le_printMems enc ind ms lvl true)
  theorem size_le_printElems (enc : Str → Str) (ind : Option Nat) :
      ∀ (xs : JList) (lvl : Nat) (first : Bool),
        xs.size ≤ (printElems enc ind lvl first xs).length + (if first then 1 else 0)
    | .nil, _, _ => Nat.zero_le _
    | .cons h t, lvl, first => by
      have h1 := size_le_printVal enc ind h (lvl + 1)
      have h2 := size_le_printElems enc ind t lvl false
      have h3 := lead_length ind (lvl + 1) first
      simp only [JList.size, printElems, List.length_append, Bool.false_eq_true, if_false] at h2 ⊢
      omega
  theorem size_le_printMems (enc : Str → Str) (ind : Option Nat) :
      ∀ (ms : JMems) (lvl : Nat) (first : Bool),
        ms.size ≤ (printMems enc ind lvl first ms).length + (if first then 1 else 0)
    | .nil, _, _ => Nat.zero_le _
    | .cons k v t, lvl, first => by
      have h1 := size_le_printVal enc ind v (lvl + 1)
      have h2 := size_le_printMems enc ind t lvl false
      have h3 := lead_length ind (lvl + 1) first
      simp only [JMems.size, printMems, List.length_append, List.length_cons, Bool.false_eq_true, if_false] at h2 ⊢
      omega
end

theorem parseStrBody_strLit (enc : Str → Str) (henc : BodyOK enc) (k Y : Str) :
    parseStrBody (enc k ++ '"' :: Y).length (enc k ++ '"' :: Y) = some (k, Y) :=
  henc k Y _ (by simp)

/-- fuel for a list of size `1 + a + b`: one unit for the step, the rest covers the head and the tail -/
theorem fuel_cons {a b : Nat} : ∀ {f : Nat}, 1 + a + b ≤ f → ∃ g, f = g + 1 ∧ a ≤ g ∧ b ≤ g
  | 0, h => by omega
  | g + 1, h => ⟨g, rfl, by omega⟩

theorem fuel_succ {a f : Nat} (h : 1 + a ≤ f + 1) : a ≤ f := by omega

mutual
  theorem parseVal_print (enc : Str → Str) (henc : BodyOK enc) (ind : Option Nat) :
      ∀ (v : Json) (lvl f : Nat) (rest : Str), v.size ≤ f →
        parseVal f (printVal enc ind lvl v ++ rest) = some (v, rest)
    | v, _, 0, _, hf => by cases v <;> simp [Json.size] at hf
    | .null, _, _ + 1, _, _ => rfl
    | .bool true, _, _ + 1, _, _ => rfl
    | .bool false, _, _ + 1, _, _ => rfl
    | .str s, _, f + 1, rest, _ => by
      show parseVal (f + 1) ('"' :: (enc s ++ ['"'] ++ rest)) = _
      rw [List.append_assoc]
      exact parseVal_str f _ s rest (parseStrBody_strLit enc henc s rest)
    | .arr .nil, _, f + 1, rest, _ => parseVal_arr_nil f rest
    | .arr (.cons h t), lvl, f + 1, rest, hf => by
      obtain ⟨f, rfl, hh, ht⟩ := fuel_cons (fuel_succ hf)
      obtain ⟨c, tl, hc, hvh⟩ := printVal_head enc ind (lvl + 1) h
      have he := parseElems_print enc henc ind t lvl f rest (nlInd ind (lvl + 1) ++ c :: tl) h ht fun s => by
        rw [List.append_assoc, parseVal_ws _ _ _ (nlInd_allWs ind (lvl + 1)), ← hc]
        exact parseVal_print enc henc ind h (lvl + 1) f s hh
      rw [List.append_assoc] at he
      rw [printVal_arr_append, printElems_cons_append, if_pos rfl, hc]
      exact parseVal_arr (f + 1) _ _ c _ _ (skipWs_pre _ (nlInd_allWs ind (lvl + 1)) hvh.notWs) hvh.ne_rbracket he
    | .obj .nil, _, f + 1, rest, _ => parseVal_obj_nil f rest
    | .obj (.cons k v t), lvl, f + 1, rest, hf => by
      obtain ⟨f, rfl, hv, ht⟩ := fuel_cons (fuel_succ hf)
      have he := parseMems_print enc henc ind t lvl f rest (nlInd ind (lvl + 1)) k v
        (nlInd_allWs ind (lvl + 1)) ht (fun s => parseVal_print enc henc ind v (lvl + 1) f s hv)
      rw [printVal_obj_append, printMems_cons_append, if_pos rfl, strLit_append]
      exact parseVal_obj (f + 1) _ _ '"' _ _ (skipWs_pre _ (nlInd_allWs ind (lvl + 1)) (by decide)) (by decide) he
  /-- the rest of a non-empty array after its first element `v` (whose text is `H`) -/
  theorem parseElems_print (enc : Str → Str) (henc : BodyOK enc) (ind : Option Nat) :
      ∀ (t : JList) (lvl f : Nat) (rest H : Str) (v : Json), t.size ≤ f →
        (∀ s, parseVal f (H ++ s) = some (v, s)) →
        parseElems (f + 1) (H ++ (printElems enc ind lvl false t ++ ']' :: rest)) = some (.cons v t, rest)
    | .nil, lvl, f, rest, H, v, _, hv =>
      parseElems_last f _ _ rest v (hv _) (skipWs_pre _ (nlInd_allWs ind lvl) (by decide))
    | .cons h' t', lvl, f, rest, H, v, hf, hv => by
      obtain ⟨f, rfl, hh, ht⟩ := fuel_cons hf
      obtain ⟨w, hw, e⟩ := itemSep_eq ind (lvl + 1)
      have he := parseElems_print enc henc ind t' lvl f rest (w ++ printVal enc ind (lvl + 1) h') h' ht fun s => by
        rw [List.append_assoc, parseVal_ws _ _ _ hw]
        exact parseVal_print enc henc ind h' (lvl + 1) f s hh
      rw [List.append_assoc] at he
      rw [printElems_cons_append, if_neg Bool.false_ne_true, e]
      exact parseElems_more (f + 1) _ _ _ rest v _ (hv _) (skipWs_cons _ _ (by decide)) he
  /-- a non-empty object from its first member `k: v` on (preceded by whitespace `pre`) -/
  theorem parseMems_print (enc : Str → Str) (henc : BodyOK enc) (ind : Option Nat) :
      ∀ (t : JMems) (lvl f : Nat) (rest pre k : Str) (v : Json), AllWs pre → t.size ≤ f →
        (∀ s, parseVal f (printVal enc ind (lvl + 1) v ++ s) = some (v, s)) →
        parseMems (f + 1) (pre ++ '"' :: (enc k ++ '"' :: ':' :: ' ' :: (printVal enc ind (lvl + 1) v
          ++ (printMems enc ind lvl false t ++ '}' :: rest)))) = some (.cons k v t, rest)
    | .nil, lvl, f, rest, pre, k, v, hpre, _, hv =>
      parseMems_last f _ _ _ _ _ _ k v (skipWs_pre _ hpre (by decide)) (parseStrBody_strLit enc henc k _)
        (skipWs_cons _ _ (by decide)) ((parseVal_ws f [' '] _ allWs_space).trans (hv _))
        (skipWs_pre _ (nlInd_allWs ind lvl) (by decide))
    | .cons k' v' t', lvl, f, rest, pre, k, v, hpre, hf, hv => by
      obtain ⟨f, rfl, hv', ht⟩ := fuel_cons hf
      obtain ⟨w, hw, e⟩ := itemSep_eq ind (lvl + 1)
      have hm := parseMems_print enc henc ind t' lvl f rest w k' v' hw ht
        (fun s => parseVal_print enc henc ind v' (lvl + 1) f s hv')
      rw [printMems_cons_append, if_neg Bool.false_ne_true, e, strLit_append]
      exact parseMems_more (f + 1) _ _ _ _ _ _ _ k v _ (skipWs_pre _ hpre (by decide))
        (parseStrBody_strLit enc henc k _) (skipWs_cons _ _ (by decide))
        ((parseVal_ws (f + 1) [' '] _ allWs_space).trans (hv _)) (skipWs_cons _ _ (by decide)) hm
end

/-- `json.loads(json.dumps(v, indent=ind)) == v`, generic in the string-body encoder -/
theorem jsonParse_printVal (enc : Str → Str) (henc : BodyOK enc) (ind : Option Nat) (v : Json) :
    jsonParse (printVal enc ind 0 v) = some v := by
  have h := parseVal_print enc henc ind v 0 ((printVal enc ind 0 v).length + 1) []
    (Nat.le_succ_of_le (size_le_printVal enc ind v 0))
  simp only [List.append_nil] at h
  simp [jsonParse, h, skipWs]

end HtmlVerif
