/-
`Node.beq` / `Nodes.beq` are reflexive (used to show the executable statement of C10 accepts the model's own output).
-/
import HtmlVerif.Model.Tree

namespace HtmlVerif

mutual
  theorem Node.beq_refl (n : Node) : n.beq n = true := by
    unfold Node.beq
    cases n with
    | tag nm w a k => simp [Nodes.beq_refl k]
    | dep d h k => simp [Nodes.beq_refl k]
    | tobjL r c => simp [Nodes.beq_refl c]
    | tobj1 r c => simp [Node.beq_refl c]
    | _ => simp
  theorem Nodes.beq_refl (ks : Nodes) : ks.beq ks = true := by
    unfold Nodes.beq
    cases ks with
    | nil => rfl
    | cons h t => simp [Node.beq_refl h, Nodes.beq_refl t]
end

end HtmlVerif
