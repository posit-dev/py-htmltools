/-
The renderer as a list of pieces (Spec/Pieces.lean): `render_eq_pieces` (realising the pieces gives the rendered string) and
`pieces_tag` (one equation for a tag on all three exits), with the projections that read leaves and opening tags off the pieces.
-/
import HtmlVerif.Spec.Pieces
import HtmlVerif.Lemmas.Render

namespace HtmlVerif

@[simp] theorem realize_opn (cfg : Cfg) (n : Str) (w : Bool) (a : Attrs) (sc : Bool) :
    (Piece.opn n w a sc).realize cfg = openTag cfg n a ++ (if sc then ['/', '>'] else ['>']) := rfl
@[simp] theorem realize_cls (cfg : Cfg) (n : Str) (w : Bool) : (Piece.cls n w).realize cfg = closeTag n := rfl
@[simp] theorem realize_ws (cfg : Cfg) (s : Str) : (Piece.ws s).realize cfg = s := rfl
@[simp] theorem realize_txt (cfg : Cfg) (s : Str) : (Piece.txt s).realize cfg = escText cfg s := rfl
@[simp] theorem realize_raw (cfg : Cfg) (s : Str) : (Piece.raw s).realize cfg = s := rfl

@[simp] theorem realizeAll_nil (cfg : Cfg) : realizeAll cfg [] = [] := rfl

@[simp] theorem realizeAll_append (cfg : Cfg) (a b : List Piece) :
    realizeAll cfg (a ++ b) = realizeAll cfg a ++ realizeAll cfg b := by
  simp [realizeAll]

@[simp] theorem realizeAll_cons (cfg : Cfg) (p : Piece) (ps : List Piece) :
    realizeAll cfg (p :: ps) = p.realize cfg ++ realizeAll cfg ps := by
  simp [realizeAll]

@[simp] theorem realizeAll_wsP (cfg : Cfg) (s : Str) : realizeAll cfg (wsP s) = s := by
  unfold wsP; split <;> simp_all

@[simp] theorem realize_textP (cfg : Cfg) (esc : Bool) (s : Str) :
    (textP esc s).realize cfg = if esc then escText cfg s else s := by
  unfold textP; split <;> simp_all

/-! ### one step of the child loop, by kind of child (as for `renderKids`) -/

def Node.leafPiece (esc : Bool) : Node → Piece
  | .text s => textP esc s
  | .html s => .raw s
  | .robj s => .raw s
  | .tobjL rh _ => .raw (rh.getD [])
  | .tobj1 rh _ => .raw (rh.getD [])
  | _ => .raw []

section step
variable (cfg : Cfg) {h : Node} (t : Nodes) (i : Nat) (e : Str) (first prevWs esc : Bool)

theorem piecesKids_meta (hm : h.isMeta = true) :
    (Nodes.cons h t).piecesKids cfg i e first prevWs esc = t.piecesKids cfg i e first prevWs esc := by
  cases h <;> first | rfl | cases hm

theorem piecesKids_tag (n : Str) (w : Bool) (a : Attrs) (k : Nodes) :
    (Nodes.cons (.tag n w a k) t).piecesKids cfg i e first prevWs esc
      = (if !first && (prevWs || w) then wsP e else [])
        ++ (if prevWs || w then (Node.tag n w a k).pieces cfg i e else (Node.tag n w a k).pieces cfg 0 [])
        ++ t.piecesKids cfg i e false w esc := rfl

theorem piecesKids_leaf (hm : h.isMeta = false) (ht : h.isTag = false) :
    (Nodes.cons h t).piecesKids cfg i e first prevWs esc
      = (if !first && prevWs then wsP e else []) ++ (if prevWs then wsP (indentStr i) else [])
        ++ [h.leafPiece esc] ++ t.piecesKids cfg i e false false esc := by
  cases h with
  | mnode _ | dep _ _ _ => cases hm
  | tag _ _ _ _ => cases ht
  | _ => rfl

theorem realize_leafPiece (hm : h.isMeta = false) (ht : h.isTag = false) :
    (h.leafPiece esc).realize cfg = h.flatIn cfg esc := by
  cases h with
  | mnode _ | dep _ _ _ => cases hm
  | tag _ _ _ _ => cases ht
  | text s => exact realize_textP ..
  | _ => rfl

end step

/-- what one child contributes to the loop's pieces, layout whitespace aside -/
def Node.piecesIn (cfg : Cfg) (esc : Bool) (h : Node) (i : Nat) (e : Str) : List Piece :=
  match h with
  | .tag .. => h.pieces cfg i e
  | .mnode _ => []
  | .dep .. => []
  | _ => [h.leafPiece esc]

/-! ### a tag: both early exits write what the child loop would -/

theorem piecesKids_of_visible_nil (cfg : Cfg) {ks : Nodes} (hv : ks.visible = []) (i : Nat) (e : Str)
    (first prevWs esc : Bool) : ks.piecesKids cfg i e first prevWs esc = [] :=
  Nodes.skipMeta_nil (F := fun ks => ks.piecesKids cfg i e first prevWs esc)
    (fun _ t hm => piecesKids_meta cfg t i e first prevWs esc hm) hv

theorem piecesKids_of_visible_leaf (cfg : Cfg) {ks : Nodes} {x : Node} (hv : ks.visible = [x])
    (ht : x.isTag = false) (i : Nat) (e : Str) (esc : Bool) :
    ks.piecesKids cfg i e true false esc = [x.leafPiece esc] := by
  obtain ⟨rest, h1, hm, h3⟩ := Nodes.skipMeta_cons (F := fun ks => ks.piecesKids cfg i e true false esc)
    (fun _ t hm => piecesKids_meta cfg t i e true false esc hm) hv
  simp [h3, piecesKids_leaf cfg rest i e true false esc hm ht, piecesKids_of_visible_nil cfg h1]

/-- the pieces of a tag, on every path: leading indentation, opening tag, the child loop, closing tag.
    The loop lays its children out on lines of their own (`ws && !kids.oneLine`) only in a whitespace-enabled
    tag that takes neither early exit; on an early exit it writes just what the exit writes. -/
theorem pieces_tag (cfg : Cfg) (name : Str) (ws : Bool) (attrs : Attrs) (kids : Nodes) (i : Nat) (e : Str) :
    (Node.tag name ws attrs kids).pieces cfg i e
      = wsP (indentStr i) ++ [.opn name ws attrs (kids.visible.isEmpty && cfg.void.contains name)]
        ++ (if ws && !kids.oneLine then wsP e else [])
        ++ kids.piecesKids cfg (i + 1) e true (ws && !kids.oneLine) (!cfg.noesc.contains name)
        ++ (if ws && !kids.oneLine then wsP (e ++ indentStr i) else [])
        ++ (if kids.visible.isEmpty && cfg.void.contains name then [] else [.cls name ws]) := by
  simp only [Node.pieces, Nodes.oneLine]
  by_cases h0 : kids.visible.isEmpty = true
  · by_cases hvd : name ∈ cfg.void <;> simp [h0, hvd, piecesKids_of_visible_nil cfg (List.isEmpty_iff.mp h0)]
  · simp only [h0]
    cases h1 : inlineChild? kids.visible with
    | none => simp
    | some c =>
      rcases inlineChild?_some h1 with ⟨hc, hvv⟩ | ⟨hc, hvv⟩ <;>
        simp [hc, piecesKids_of_visible_leaf cfg hvv rfl, Node.leafPiece, textP]

section filterMap
variable {β : Type} (φ : Piece → Option β) (hφ : ∀ s, φ (.ws s) = none)
include hφ

theorem filterMap_wsP (s : Str) : (wsP s).filterMap φ = [] := by
  unfold wsP; split <;> simp [hφ]

theorem filterMap_if_wsP (c : Prop) [Decidable c] (s : Str) : (if c then wsP s else []).filterMap φ = [] := by
  split <;> simp [filterMap_wsP φ hφ]

theorem filterMap_pieces_tag (cfg : Cfg) (name : Str) (ws : Bool) (attrs : Attrs) (kids : Nodes) (i : Nat) (e : Str) :
    ∃ sc w, ((Node.tag name ws attrs kids).pieces cfg i e).filterMap φ
      = [Piece.opn name ws attrs sc].filterMap φ
        ++ (kids.piecesKids cfg (i + 1) e true w (!cfg.noesc.contains name)).filterMap φ
        ++ (if sc then [] else [Piece.cls name ws]).filterMap φ :=
  ⟨kids.visible.isEmpty && cfg.void.contains name, ws && !kids.oneLine, by
    simp only [pieces_tag, List.filterMap_append, filterMap_wsP φ hφ, filterMap_if_wsP φ hφ, List.nil_append,
      List.append_nil]⟩

/-- a projection of the pieces that ignores layout whitespace sees, at each step of the loop, the child's own
    pieces (at some indent) and then the rest of the loop (in some state) -/
theorem filterMap_piecesKids_cons (cfg : Cfg) (h : Node) (t : Nodes) (i : Nat) (e : Str) (first prevWs esc : Bool) :
    ∃ i' e' f' w', ((Nodes.cons h t).piecesKids cfg i e first prevWs esc).filterMap φ
      = (h.piecesIn cfg esc i' e').filterMap φ ++ (t.piecesKids cfg i e f' w' esc).filterMap φ := by
  cases h with
  | tag n w a k =>
    refine ⟨if prevWs || w then i else 0, if prevWs || w then e else [], false, w, ?_⟩
    simp only [piecesKids_tag, List.filterMap_append, filterMap_if_wsP φ hφ, List.nil_append, Node.piecesIn]
    split <;> rfl
  | mnode _ => exact ⟨0, [], first, prevWs, rfl⟩
  | dep _ _ _ => exact ⟨0, [], first, prevWs, rfl⟩
  | _ =>
    refine ⟨0, [], false, false, ?_⟩
    simp only [Nodes.piecesKids, List.filterMap_append, filterMap_if_wsP φ hφ, List.nil_append, Node.piecesIn, Node.leafPiece]

end filterMap

@[simp] theorem realizeAll_if_wsP (cfg : Cfg) (c : Prop) [Decidable c] (s : Str) :
    realizeAll cfg (if c then wsP s else []) = if c then s else [] := by
  split <;> simp

mutual
  theorem render_eq_pieces (cfg : Cfg) (n : Node) (i : Nat) (e : Str) :
      realizeAll cfg (n.pieces cfg i e) = n.render cfg i e := by
    cases n with
    | tag name ws attrs kids =>
      have hk := renderKids_eq_pieces cfg kids
      simp only [Node.pieces, Node.render]
      by_cases h0 : kids.visible.isEmpty = true
      · by_cases hv : name ∈ cfg.void <;> simp [h0, hv]
      · simp only [h0]
        cases h1 : inlineChild? kids.visible with
        | some c =>
          by_cases hn : name ∈ cfg.noesc <;> cases hc : c.2 <;> simp [inlineText, hn, hc]
        | none => simp [hk]
    | _ => rfl
  theorem renderKids_eq_pieces (cfg : Cfg) (ks : Nodes) (i : Nat) (e : Str) (first prevWs esc : Bool) :
      realizeAll cfg (ks.piecesKids cfg i e first prevWs esc) = ks.renderKids cfg i e first prevWs esc := by
    cases ks with
    | nil => rfl
    | cons h t =>
      have ht := renderKids_eq_pieces cfg t i e
      cases hm : h.isMeta with
      | true => rw [piecesKids_meta cfg t i e first prevWs esc hm, renderKids_meta cfg t i e first prevWs esc hm, ht]
      | false =>
        cases hT : h.isTag with
        | false =>
          rw [piecesKids_leaf cfg t i e first prevWs esc hm hT, renderKids_leaf cfg t i e first prevWs esc hm hT]
          simp [ht, realize_leafPiece cfg esc hm hT]
        | true =>
          have hh := render_eq_pieces cfg h
          cases h with
          | tag n w a k => simp [piecesKids_tag, renderKids_tag, apply_ite (realizeAll cfg), ht, hh]
          | _ => cases hT
end

/-- `Tag.get_html_string` on every path, as `pieces_tag` says it of the pieces -/
theorem render_tag (cfg : Cfg) (name : Str) (ws : Bool) (attrs : Attrs) (kids : Nodes) (i : Nat) (e : Str) :
    (Node.tag name ws attrs kids).render cfg i e
      = indentStr i ++ openTag cfg name attrs
        ++ (if kids.visible.isEmpty && cfg.void.contains name then ['/', '>'] else ['>'])
        ++ (if ws && !kids.oneLine then e else [])
        ++ kids.renderKids cfg (i + 1) e true (ws && !kids.oneLine) (!cfg.noesc.contains name)
        ++ (if ws && !kids.oneLine then e ++ indentStr i else [])
        ++ (if kids.visible.isEmpty && cfg.void.contains name then [] else closeTag name) := by
  rw [← render_eq_pieces, pieces_tag]
  simp [renderKids_eq_pieces, apply_ite (realizeAll cfg)]

end HtmlVerif
