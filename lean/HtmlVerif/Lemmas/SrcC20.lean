/-
Source tie for C20 (htmltools/_jsx.py): embedding of the component-tree model (Model/Jsx.lean: `JNode`, `JVal`, …)
into Python values, the measure that bounds the fuel, the side conditions under which the model speaks about a value,
facts about the primitives of Py/PrimC20.lean on the embedded shapes, and the loop lemmas (quantified over the loop
body) used by Props/SrcC20.lean.
-/
import HtmlVerif.Lemmas.SrcTie
import HtmlVerif.Lemmas.SrcRender
import HtmlVerif.Lemmas.PyComp
import HtmlVerif.Model.Jsx
import HtmlVerif.Py.PrimC20
import HtmlVerif.Generated.Src

namespace HtmlVerif.SrcTie
open HtmlVerif HtmlVerif.Py HtmlVerif.Generated.Src

/-- html-Tag attributes as prop values (`str` / `HTML` strings) -/
def attrsAsProps : Attrs → JProps
  | [] => .nil
  | (k, .plain s) :: r => .cons k (.node (.str .plain s)) (attrsAsProps r)
  | (k, .html s) :: r => .cons k (.node (.str .html s)) (attrsAsProps r)

mutual
  /-- a node of the component tree as the Python object `_render_react_js` / `_serialize_attr` see.  `ι t = some n` says
      that the number whose text is `t` is the Python `int` `n` (otherwise it is a `float`).  Only what the three functions
      read is recorded (for a Tag `add_ws` is there because the harness needs it to build the object). -/
  def embJNode (ι : Str → Option Int) : JNode → PVal
    | .comp name props kids =>
      .obj "JSXTag" [("name", .str name), ("attrs", .dict (embJProps ι props)),
                     ("children", .obj "TagList" [("data", .list (embJNodes ι kids))])]
    | .tag name attrs kids =>
      .obj "Tag" [("name", .str name), ("attrs", embAttrs attrs),
                  ("children", .obj "TagList" [("data", .list (embJNodes ι kids))]), ("add_ws", .bool true)]
    | .str .plain s => .str s
    | .str .jsx s => mkJsx s
    | .str .html s => .html s
    | .md (.mnode n) => .obj "MetadataNode" [("id", .int n)]
    | .md (.dep d) => .obj "HTMLDependency" [("name", .str d.name)]
    | .tobj _ => .obj "TagifiableObj" [("tagify", .none)]
    | .tobjL _ => .obj "TagifiableObj" [("tagify", .none)]
  def embJNodes (ι : Str → Option Int) : JNodes → List PVal
    | .nil => []
    | .cons h t => embJNode ι h :: embJNodes ι t
  def embJVal (ι : Str → Option Int) : JVal → PVal
    | .null => .none
    | .bool b => .bool b
    | .num t => (match ι t with
      | some n => .int n
      | none => .float t)
    | .list tup vs => if tup then .tuple (embJVals ι vs) else .list (embJVals ι vs)
    | .dict fs => .dict (embJProps ι fs)
    | .node n => embJNode ι n
  def embJVals (ι : Str → Option Int) : JVals → List PVal
    | .nil => []
    | .cons h t => embJVal ι h :: embJVals ι t
  def embJProps (ι : Str → Option Int) : JProps → List (Str × PVal)
    | .nil => []
    | .cons k v t => (k, embJVal ι v) :: embJProps ι t
end

def IntTexts (ι : Str → Option Int) : Prop := ∀ t n, ι t = some n → (toString n).toList = t

theorem embAttrs_asProps (ι) (a : Attrs) : embAttrs a = .dict (embJProps ι (attrsAsProps a)) := by
  have : ∀ a : Attrs, (a.map fun kv => (kv.1, embVal kv.2)) = embJProps ι (attrsAsProps a) := by
    intro a
    induction a with
    | nil => rfl
    | cons x t ih =>
      obtain ⟨k, v⟩ := x
      cases v <;> simp [attrsAsProps, embJProps, embJVal, embJNode, ih]
  simp [embAttrs, this]

theorem embJNodes_toList (ι) : (ks : JNodes) → embJNodes ι ks = ks.toList.map (embJNode ι)
  | .nil => rfl
  | .cons h t => by simp [embJNodes, JNodes.toList, embJNodes_toList ι t]

theorem embJVals_toList (ι) : (vs : JVals) → embJVals ι vs = vs.toList.map (embJVal ι)
  | .nil => rfl
  | .cons h t => by simp [embJVals, JVals.toList, embJVals_toList ι t]

theorem keys_toListC20b : (fs : JProps) → fs.keys = fs.toList.map (·.1)
  | .nil => rfl
  | .cons k v t => by simp [JProps.keys, JProps.toList, keys_toListC20b t]

theorem embJProps_toList (ι) : (fs : JProps) → embJProps ι fs = fs.toList.map fun kv => (kv.1, embJVal ι kv.2)
  | .nil => rfl
  | .cons k v t => by simp [embJProps, JProps.toList, embJProps_toList ι t]

mutual
  /-- the measure that bounds the fuel: calls of the three functions nest at most this deep below a call on the node -/
  def hN : JNode → Nat
    | .comp _ props kids => max (hP props) (hK kids) + 1
    | .tag _ attrs kids => max (if attrs.isEmpty then 0 else 4) (hK kids) + 1
    | _ => 1
  def hK : JNodes → Nat
    | .nil => 0
    | .cons h t => max (hN h) (hK t)
  def hV : JVal → Nat
    | .list _ vs => hVs vs + 1
    | .dict fs => hD fs + 1
    | .node n => hN n + 1
    | _ => 1
  def hVs : JVals → Nat
    | .nil => 0
    | .cons h t => max (hV h) (hVs t)
  /-- the fields of a dict value -/
  def hD : JProps → Nat
    | .nil => 0
    | .cons _ v t => max (hV v) (hD t)
  /-- the props of a component: one may go through `_serialize_style_attr`, which parses a string into a dict of strings
      first — two more levels -/
  def hP : JProps → Nat
    | .nil => 0
    | .cons _ v t => max (hV v + 2) (hP t)
end

/-- what passes from a list of nodes `x :: t` to `x` (as `P`) and to `t` holds (as `P`) of every member -/
theorem forall_mem_JNodes {P : JNode → Prop} {Q : JNodes → Prop} (hQ : ∀ x t, Q (.cons x t) → P x ∧ Q t) :
    (ks : JNodes) → Q ks → ∀ c ∈ ks.toList, P c
  | .nil, _, c, h => by simp [JNodes.toList] at h
  | .cons x t, hq, c, h => by
    simp only [JNodes.toList, List.mem_cons] at h
    rcases h with rfl | h
    · exact (hQ _ _ hq).1
    · exact forall_mem_JNodes hQ t (hQ _ _ hq).2 c h

theorem forall_mem_JVals {P : JVal → Prop} {Q : JVals → Prop} (hQ : ∀ x t, Q (.cons x t) → P x ∧ Q t) :
    (vs : JVals) → Q vs → ∀ c ∈ vs.toList, P c
  | .nil, _, c, h => by simp [JVals.toList] at h
  | .cons x t, hq, c, h => by
    simp only [JVals.toList, List.mem_cons] at h
    rcases h with rfl | h
    · exact (hQ _ _ hq).1
    · exact forall_mem_JVals hQ t (hQ _ _ hq).2 c h

theorem forall_mem_JProps {P : Str × JVal → Prop} {Q : JProps → Prop} (hQ : ∀ k v t, Q (.cons k v t) → P (k, v) ∧ Q t) :
    (fs : JProps) → Q fs → ∀ kv ∈ fs.toList, P kv
  | .nil, _, c, h => by simp [JProps.toList] at h
  | .cons k v t, hq, c, h => by
    simp only [JProps.toList, List.mem_cons] at h
    rcases h with rfl | h
    · exact (hQ _ _ _ hq).1
    · exact forall_mem_JProps hQ t (hQ _ _ _ hq).2 c h

theorem hK_mem (ks : JNodes) (c : JNode) (h : c ∈ ks.toList) : hN c ≤ hK ks :=
  forall_mem_JNodes (P := (hN · ≤ hK ks)) (Q := (hK · ≤ hK ks)) (fun x t h => by simp only [hK] at h; omega) ks
    (Nat.le_refl _) c h

theorem hVs_mem (vs : JVals) (c : JVal) (h : c ∈ vs.toList) : hV c ≤ hVs vs :=
  forall_mem_JVals (P := (hV · ≤ hVs vs)) (Q := (hVs · ≤ hVs vs)) (fun x t h => by simp only [hVs] at h; omega) vs
    (Nat.le_refl _) c h

theorem hD_mem (fs : JProps) (kv : Str × JVal) (h : kv ∈ fs.toList) : hV kv.2 ≤ hD fs :=
  forall_mem_JProps (P := (hV ·.2 ≤ hD fs)) (Q := (hD · ≤ hD fs)) (fun k v t h => by simp only [hD] at h ⊢; omega) fs
    (Nat.le_refl _) kv h

theorem hP_mem (fs : JProps) (kv : Str × JVal) (h : kv ∈ fs.toList) : hV kv.2 + 2 ≤ hP fs :=
  forall_mem_JProps (P := (hV ·.2 + 2 ≤ hP fs)) (Q := (hP · ≤ hP fs)) (fun k v t h => by simp only [hP] at h ⊢; omega) fs
    (Nat.le_refl _) kv h

mutual
  /-- side conditions of the tie, through the whole tree: a dict value has each key once (a Python dict has; the model's
      `JProps` is a list), and no metadata node / un-expanded tagifiable object sits where `_serialize_attr` writes
      `str(x)` of it — the model does not describe that text (`JVal.serialize` answers `.error .exception` there). -/
  def tiedN : JNode → Bool
    | .comp _ props kids => tiedP true props && tiedK kids
    | .tag _ _ kids => tiedK kids
    | _ => true
  def tiedK : JNodes → Bool
    | .nil => true
    | .cons h t => tiedN h && tiedK t
  /-- as an argument of `_serialize_attr` -/
  def tiedV : JVal → Bool
    | .list _ vs => tiedVs vs
    | .dict fs => decide fs.keys.Nodup && tiedP false fs
    | .node (.md _) => false
    | .node (.tobj _) => false
    | .node (.tobjL _) => false
    | .node n => tiedN n
    | _ => true
  def tiedVs : JVals → Bool
    | .nil => true
    | .cons h t => tiedV h && tiedVs t
  /-- `top`: the props of a component (the `style` prop goes through `_serialize_style_attr`, which raises TypeError for
      everything that is not None / a str / a dict) -/
  def tiedP (top : Bool) : JProps → Bool
    | .nil => true
    | .cons k v t =>
      (if top && k = chars% "style" then tiedS v else tiedV v) && tiedP top t
  /-- as an argument of `_serialize_style_attr` -/
  def tiedS : JVal → Bool
    | .dict fs => decide fs.keys.Nodup && tiedP false fs
    | _ => true
end

theorem tiedVs_mem (vs : JVals) (h : tiedVs vs = true) : ∀ c ∈ vs.toList, tiedV c = true :=
  forall_mem_JVals (Q := (tiedVs · = true)) (fun x t h => by simpa [tiedVs] using h) vs h

theorem tiedK_mem (ks : JNodes) (h : tiedK ks = true) : ∀ c ∈ ks.toList, tiedN c = true :=
  forall_mem_JNodes (Q := (tiedK · = true)) (fun x t h => by simpa [tiedK] using h) ks h

def fieldVal (top : Bool) (kv : Str × JVal) : Except Err Str :=
  if top && kv.1 = chars% "style" then kv.2.serializeStyle else kv.2.serialize

theorem tiedP_mem (top : Bool) (fs : JProps) (h : tiedP top fs = true) : ∀ kv ∈ fs.toList,
    if top && kv.1 = chars% "style" then tiedS kv.2 = true else tiedV kv.2 = true :=
  forall_mem_JProps (Q := (tiedP top · = true)) (fun k v t h => by
    rw [tiedP, Bool.and_eq_true] at h
    refine ⟨?_, h.2⟩
    have h1 := h.1
    split at h1 <;> simp_all) fs h

theorem pyIterJ_list (xs : List PVal) : pyIterJ (.list xs) = .ok xs :=
  Eq.trans rfl rfl
theorem pyIterJ_tuple (xs : List PVal) : pyIterJ (.tuple xs) = .ok xs :=
  Eq.trans rfl rfl
theorem pyIterJ_dict (kvs : List (Str × PVal)) : pyIterJ (.dict kvs) = .ok (kvs.map fun kv => .str kv.1) :=
  Eq.trans rfl rfl
theorem pyIterJ_taglist (l : List PVal) : pyIterJ (.obj "TagList" [("data", .list l)]) = .ok l := by
  simp [pyIterJ, asStr, jsxText?, pyIter]
theorem pyAddJ_str (G : Globals) (a b : Str) : pyAddJ (pyAdd G) (.str a) (.str b) = .ok (.str (a ++ b)) :=
  Eq.trans rfl rfl
theorem pyAddJ_int (G : Globals) (a b : Int) : pyAddJ (pyAdd G) (.int a) (.int b) = .ok (.int (a + b)) :=
  Eq.trans rfl rfl
theorem pyStrJ_str (s : Str) : pyStrJ (.str s) = .ok (.str s) :=
  Eq.trans rfl rfl
theorem pyStrJ_html (s : Str) : pyStrJ (.html s) = .ok (.str s) :=
  Eq.trans rfl rfl
theorem pyStrJ_jsx (s : Str) : pyStrJ (mkJsx s) = .ok (.str s) := by simp [pyStrJ, asStr, jsxText?, mkJsx, fieldGet?]
theorem pyStrJ_int (n : Int) : pyStrJ (.int n) = .ok (.str (toString n).toList) :=
  Eq.trans rfl rfl
theorem asStr_str (s : Str) : asStr (.str s) = .str s :=
  Eq.trans rfl rfl
theorem asStr_jsx (s : Str) : asStr (mkJsx s) = .str s := by simp [asStr, jsxText?, mkJsx, fieldGet?]
theorem pyEqJ_str (a b : Str) : pyEqJ (.str a) (.str b) = .ok (.bool (a == b)) :=
  Eq.trans rfl rfl
theorem pyEqJ_int (a b : Int) : pyEqJ (.int a) (.int b) = .ok (.bool (a == b)) :=
  Eq.trans rfl rfl

theorem getAttr_attrs (c : String) (a d ch : PVal) (rest : List (String × PVal)) :
    pyGetAttr (.obj c (("name", a) :: ("attrs", d) :: ("children", ch) :: rest)) "attrs" = .ok d := by
  simp [pyGetAttr, fieldGet?]
theorem getAttr_children (c : String) (a d ch : PVal) (rest : List (String × PVal)) :
    pyGetAttr (.obj c (("name", a) :: ("attrs", d) :: ("children", ch) :: rest)) "children" = .ok ch := by
  simp [pyGetAttr, fieldGet?]
theorem setAttr_children (c : String) (a d ch v : PVal) (rest : List (String × PVal)) :
    pySetAttr (.obj c (("name", a) :: ("attrs", d) :: ("children", ch) :: rest)) "children" v
      = .ok (.obj c (("name", a) :: ("attrs", d) :: ("children", v) :: rest)) := by
  simp [pySetAttr, fieldSet]

def classesJ (v : PVal) : List String :=
  match jsxText? v with
  | some _ => ["jsx", "str", "object"]
  | Option.none =>
    match v with
    | .obj cls fs => cls :: "object" :: classBases cls
        ++ (if fs.any (fun f => f.1 == "_repr_html_") then ["ReprHtml"] else [])
        ++ (if fs.any (fun f => f.1 == "tagify") then ["Tagifiable"] else [])
    | v => builtinClasses v

/-- with the class list of a shape (below) every `isinstance` test on it is a computation on two short lists of names,
    whatever the order of the tuple in the source -/
theorem isInstanceJ_classes (v : PVal) (cs : List String) :
    isInstanceJ v cs = cs.any fun c => (classesJ v).contains c := by
  unfold isInstanceJ classesJ
  cases jsxText? v with
  | some s => simp only [List.contains_cons, List.contains_nil, Bool.or_false, Bool.or_assoc]
  | none =>
    cases v with
    | obj cls fs =>
      simp only [isInstance]
      congr 1; funext c
      cases fs.any (fun f => f.1 == "_repr_html_") <;> cases fs.any (fun f => f.1 == "tagify") <;>
        simp only [List.cons_append, List.contains_cons, List.contains_append, List.contains_nil, Bool.or_false,
          Bool.and_true, Bool.and_false, Bool.or_assoc, if_true, if_false, Bool.false_eq_true]
    | _ => rfl

theorem classesJ_JSXTag (a d c : PVal) :
    classesJ (.obj "JSXTag" [("name", a), ("attrs", d), ("children", c)]) = ["JSXTag", "object", "Tagifiable", "ReprHtml"] := by
  simp [classesJ, jsxText?, classBases]
theorem classesJ_Tag (a d c w : PVal) :
    classesJ (.obj "Tag" [("name", a), ("attrs", d), ("children", c), ("add_ws", w)])
      = ["Tag", "object", "Tagifiable", "ReprHtml"] := by
  simp [classesJ, jsxText?, classBases]
theorem classesJ_jsx (s : Str) : classesJ (mkJsx s) = ["jsx", "str", "object"] := by
  simp [classesJ, jsxText?, mkJsx, fieldGet?]
theorem classesJ_MetadataNode (n : PVal) : classesJ (.obj "MetadataNode" [("id", n)]) = ["MetadataNode", "object"] := by
  simp [classesJ, jsxText?, classBases]
theorem classesJ_HTMLDependency (n : PVal) :
    classesJ (.obj "HTMLDependency" [("name", n)]) = ["HTMLDependency", "object", "MetadataNode"] := by
  simp [classesJ, jsxText?, classBases]
theorem classesJ_TagifiableObj (t : PVal) :
    classesJ (.obj "TagifiableObj" [("tagify", t)]) = ["TagifiableObj", "object", "Tagifiable"] := by
  simp [classesJ, jsxText?, classBases]
theorem classesJ_TagList (l : PVal) :
    classesJ (.obj "TagList" [("data", l)]) = ["TagList", "object", "UserList", "Tagifiable", "ReprHtml"] := by
  simp [classesJ, jsxText?, classBases]
theorem classesJ_builtin (v : PVal) (h : ∀ c fs, v ≠ .obj c fs) : classesJ v = builtinClasses v := by
  cases v <;> first | rfl | exact absurd rfl (h _ _)

theorem int_len_eq0 {α} (l : List α) : ((l.length : Int) == 0) = l.isEmpty := by
  cases l with
  | nil => rfl
  | cons a t =>
    have : ((t.length : Int) + 1 == 0) = false := by
      have : ¬ ((t.length : Int) + 1 = 0) := by omega
      simpa using this
    simpa using this

theorem len0_dict (kvs : List (Str × PVal)) :
    (do let n ← pyLenJ (.dict kvs); pyEqJ n (.int 0) : PyM PVal) = .ok (.bool kvs.isEmpty) := by
  have : pyLenJ (.dict kvs) = .ok (.int kvs.length) := Eq.trans rfl rfl
  rw [this, ok_bind, pyEqJ_int, int_len_eq0]

theorem pyLenJ_taglist (l : List PVal) : pyLenJ (.obj "TagList" [("data", .list l)]) = .ok (.int l.length) := by
  simp [pyLenJ, asStr, jsxText?, isInstance, classBases, fieldGet?]

/-- `len(x.children) == 0` for a TagList (a `UserList`) -/
theorem len0_taglist (l : List PVal) :
    (do let n ← pyLenJ (.obj "TagList" [("data", .list l)]); pyEqJ n (.int 0) : PyM PVal) = .ok (.bool l.isEmpty) := by
  rw [pyLenJ_taglist, ok_bind, pyEqJ_int, int_len_eq0]

theorem embJProps_isEmpty (ι) (ps : JProps) : (embJProps ι ps).isEmpty = ps.isEmpty := by
  cases ps <;> rfl

theorem embJNodes_isEmpty (ι) (ks : JNodes) : (embJNodes ι ks).isEmpty = ks.isEmpty := by
  cases ks <;> rfl

theorem pyItems_props (ι) (ps : JProps) :
    pyItems (.dict (embJProps ι ps)) = .ok (.list (ps.toList.map fun kv => PVal.tuple [.str kv.1, embJVal ι kv.2])) := by
  simp [pyItems, embJProps_toList, Function.comp_def]

theorem pyConcat_cons (s t : Str) (r : List PVal) (h : pyConcat r = .ok (.str t)) :
    pyConcat (.str s :: r) = .ok (.str (s ++ t)) := by
  simp [pyConcat, h]

theorem pyConcat1 (a : Str) : pyConcat [.str a] = .ok (.str a) := by simp [pyConcat]

theorem pyConcat3 (a b c : Str) : pyConcat [.str a, .str b, .str c] = .ok (.str (a ++ (b ++ c))) :=
  pyConcat_cons _ _ _ (pyConcat_cons _ _ _ (pyConcat1 c))

theorem pyConcat4 (a b c d : Str) : pyConcat [.str a, .str b, .str c, .str d] = .ok (.str (a ++ (b ++ (c ++ d)))) :=
  pyConcat_cons _ _ _ (pyConcat3 b c d)

theorem pyConcat5 (a b c d e : Str) :
    pyConcat [.str a, .str b, .str c, .str d, .str e] = .ok (.str (a ++ (b ++ (c ++ (d ++ e))))) :=
  pyConcat_cons _ _ _ (pyConcat4 b c d e)

theorem pyAnd_bools (a b : Bool) : pyAnd (Except.ok (.bool a)) (Except.ok (.bool b)) = .ok (.bool (a && b)) := by
  cases a <;> rfl

theorem strsOfJ_strs (l : List Str) : strsOfJ (l.map PVal.str) = .ok l := by
  induction l with
  | nil => rfl
  | cons a t ih => simp [strsOfJ, asStr, jsxText?, ih]

theorem strsOfJ_str_cons (s : Str) (r : List PVal) : strsOfJ (.str s :: r) = (strsOfJ r >>= fun l => pure (s :: l)) :=
  Eq.trans rfl rfl

theorem pyJoinJ_strs (sep : Str) (l : List Str) :
    pyJoinJ (.str sep) (.list (l.map PVal.str)) = .ok (.str (joinStr sep l)) := by
  simp [pyJoinJ, asStr, jsxText?, pyIterJ, pyIter, strsOfJ_strs]

theorem pyLowerJ_True : pyLowerJ (.str ['T', 'r', 'u', 'e']) = .ok (.str ['t', 'r', 'u', 'e']) := by
  simp [pyLowerJ]
theorem pyLowerJ_False : pyLowerJ (.str ['F', 'a', 'l', 's', 'e']) = .ok (.str ['f', 'a', 'l', 's', 'e']) := by
  simp [pyLowerJ]

theorem inf_chars : "inf".toList = chars% "inf" := by decide
theorem ninf_chars : "-inf".toList = chars% "-inf" := by decide
theorem nan_chars : "nan".toList = chars% "nan" := by decide

theorem int_text_head (n : Int) : ∃ c r, (toString n).toList = c :: r ∧
    (c = '-' ∧ (∃ d r', r = d :: r' ∧ d.isDigit) ∨ c.isDigit) := by
  cases n with
  | ofNat m =>
    have h1 : (toString (Int.ofNat m)).toList = Nat.toDigits 10 m := by
      show (toString m).toList = _
      rw [Nat.toString_eq_repr, Nat.toList_repr]
    rw [h1]
    cases hd : Nat.toDigits 10 m with
    | nil => exact absurd hd Nat.toDigits_ne_nil
    | cons c r =>
      refine ⟨c, r, rfl, Or.inr ?_⟩
      exact Nat.isDigit_of_mem_toDigits (by decide) (by decide) (hd ▸ List.mem_cons_self)
  | negSucc m =>
    have h1 : (toString (Int.negSucc m)).toList = '-' :: Nat.toDigits 10 (m + 1) := by
      show ("-" ++ toString (m + 1)).toList = _
      rw [String.toList_append, Nat.toString_eq_repr, Nat.toList_repr]; rfl
    rw [h1]
    cases hd : Nat.toDigits 10 (m + 1) with
    | nil => exact absurd hd Nat.toDigits_ne_nil
    | cons c r =>
      refine ⟨'-', c :: r, rfl, Or.inl ⟨rfl, c, r, rfl, ?_⟩⟩
      exact Nat.isDigit_of_mem_toDigits (by decide) (by decide) (hd ▸ List.mem_cons_self)

/-- the decimal text of an int starts with a digit, or with `-` and a digit, so it is none of `inf`, `-inf`, `nan` -/
theorem numJs_int (n : Int) : numJs (toString n).toList = (toString n).toList := by
  obtain ⟨c, r, h, hc⟩ := int_text_head n
  rw [h]
  unfold numJs
  rcases hc with ⟨rfl, d, r', rfl, hd⟩ | hc
  · have : d ≠ 'i' := by intro e; subst e; revert hd; decide
    simp [this]
  · have h1 : c ≠ 'i' := by intro e; subst e; revert hc; decide
    have h2 : c ≠ '-' := by intro e; subst e; revert hc; decide
    have h3 : c ≠ 'n' := by intro e; subst e; revert hc; decide
    simp [h1, h2, h3]

theorem dictGet_embJProps (ι : Str → Option Int) : (fs : JProps) → fs.keys.Nodup → ∀ kv ∈ fs.toList,
    Py.dictGet? kv.1 (embJProps ι fs) = some (embJVal ι kv.2)
  | .nil, _, kv, h => by simp [JProps.toList] at h
  | .cons k v t, hn, kv, h => by
    simp only [JProps.keys, List.nodup_cons] at hn
    simp only [JProps.toList, List.mem_cons] at h
    simp only [embJProps, Py.dictGet?]
    rcases h with rfl | h
    · simp
    · have hne : k ≠ kv.1 := by
        intro e
        apply hn.1
        rw [e, keys_toListC20b]
        exact List.mem_map.2 ⟨kv, h, rfl⟩
      simp only [hne, if_false]
      exact dictGet_embJProps ι t hn.2 kv h

theorem attrsAsProps_isEmpty (a : Attrs) : (attrsAsProps a).isEmpty = a.isEmpty := by
  cases a with
  | nil => rfl
  | cons x t => obtain ⟨k, v⟩ := x; cases v <;> rfl

theorem attrsAsProps_mem (a : Attrs) (kv : Str × JVal) (h : kv ∈ (attrsAsProps a).toList) :
    a.isEmpty = false ∧ ∃ s, kv.2 = .node (.str .plain s) ∨ kv.2 = .node (.str .html s) := by
  induction a with
  | nil => simp [attrsAsProps, JProps.toList] at h
  | cons x t ih =>
    obtain ⟨k, v⟩ := x
    refine ⟨rfl, ?_⟩
    cases v with
    | plain s | html s =>
      simp only [attrsAsProps, JProps.toList, List.mem_cons] at h
      rcases h with rfl | h
      · exact ⟨s, by simp⟩
      · exact (ih h).2

theorem attrsJs_asProps (a : Attrs) : attrsJs a = (attrsAsProps a).fieldsJs true := by
  induction a with
  | nil => rfl
  | cons x t ih =>
    obtain ⟨k, v⟩ := x
    cases v <;> by_cases hk : k = chars% "style" <;>
      simp [attrsJs, attrValJs, attrsAsProps, JProps.fieldsJs, JVal.serialize, JVal.serializeStyle, hk, ih, AttrVal.str]

/-! ### the model's list functions as `mapM` (what the loops of the translations compute) -/

theorem serializeAll_mapM : (vs : JVals) → vs.serializeAll = vs.toList.mapM JVal.serialize
  | .nil => rfl
  | .cons h t => by
    rw [JVals.serializeAll, JVals.toList, List.mapM_cons, serializeAll_mapM t]
    cases h.serialize with
    | error e => rfl
    | ok s => cases t.toList.mapM JVal.serialize <;> rfl

theorem fieldsJs_mapM (top : Bool) : (fs : JProps) →
    fs.fieldsJs top = fs.toList.mapM fun kv => (fieldVal top kv).map (jsField kv.1)
  | .nil => rfl
  | .cons k v t => by
    rw [JProps.fieldsJs, JProps.toList, List.mapM_cons, fieldsJs_mapM top t]
    show (match fieldVal top (k, v) with | .error e => _ | .ok s => _) = _
    cases fieldVal top (k, v) with
    | error e => rfl
    | ok s => cases List.mapM (fun kv : Str × JVal => (fieldVal top kv).map (jsField kv.1)) t.toList <;> rfl

/-- what one child adds to the string the `for child in x.children` loop builds -/
def kidPiece (eol cs : Str) : Str := if cs = [] then [] else ',' :: eol ++ cs

theorem kidsJs_mapM (i : Nat) (eol : Str) : (ks : JNodes) →
    ks.kidsJs i eol = (ks.toList.mapM fun c : JNode => c.renderJs i eol).map fun l => l.flatMap (kidPiece eol)
  | .nil => rfl
  | .cons h t => by
    rw [JNodes.kidsJs, kidsJs_mapM i eol t]
    simp only [JNodes.toList, List.mapM_cons]
    cases h.renderJs i eol with
    | error e => rfl
    | ok s => cases List.mapM (fun c : JNode => c.renderJs i eol) t.toList <;> rfl

theorem joinStr_snoc (sep : Str) (l : List Str) (x : Str) :
    joinStr sep (l ++ [x]) = joinStr sep l ++ (if l.isEmpty then [] else sep) ++ x := by
  induction l with
  | nil => simp [joinStr]
  | cons a t ih =>
    cases t with
    | nil => simp [joinStr]
    | cons b r =>
      have : joinStr sep ((a :: b :: r) ++ [x]) = a ++ sep ++ joinStr sep ((b :: r) ++ [x]) := rfl
      rw [this, ih]
      simp [joinStr, List.append_assoc]

/-! ### loop lemmas (the body `f` is whatever the translator emitted; `hstep` is about one pass) -/

/-- the `for k, v in x.attrs.items()` loop of `_render_react_js`: state (res, is_first_attr, …); one pass appends the
    field to whatever `res` holds, after a separator unless it is the first -/
theorem attrs_loop {β τ : Type} (ι : Str → Option Int) (fs : JProps) (base : Str)
    (f : PVal → PVal × PVal × τ → PyM (ForInStep (PVal × PVal × τ)))
    (hstep : ∀ kv ∈ fs.toList, ∀ (b : Str) (first : Bool) (t : τ),
      match fieldVal true kv with
      | .ok v => ∃ t', f (.tuple [.str kv.1, embJVal ι kv.2]) (.str b, .bool first, t)
          = .ok (.yield (.str (b ++ (if first then [] else [',', ' ']) ++ jsField kv.1 v), .bool false, t'))
      | .error e => f (.tuple [.str kv.1, embJVal ι kv.2]) (.str b, .bool first, t) = .error (embErr e))
    (t0 : τ) (k : PVal × PVal × τ → PyM β) (r : PyM β)
    (hk : match fs.fieldsJs true with
      | .ok ss => ∀ fl t, k (.str (base ++ joinStr [',', ' '] ss), fl, t) = r
      | .error e => r = .error (embErr e)) :
    (forIn (fs.toList.map fun kv => PVal.tuple [.str kv.1, embJVal ι kv.2]) (.str base, .bool true, t0) f >>= k) = r := by
  rw [fieldsJs_mapM] at hk
  refine mapM_loop_k (fun s b => ∃ t, s = (.str (base ++ joinStr [',', ' '] b), .bool b.isEmpty, t)) _
    (fun kv => (fieldVal true kv).map (jsField kv.1)) embErr _ f ?_ k r _ [] ⟨t0, by simp [joinStr]⟩ ?_
  · rintro kv hkv _ b ⟨t, rfl⟩
    have := hstep kv hkv (base ++ joinStr [',', ' '] b) b.isEmpty t
    cases hf : fieldVal true kv with
    | error e => rw [hf] at this; exact this
    | ok v =>
      rw [hf] at this
      obtain ⟨t', e1⟩ := this
      exact ⟨_, e1, t', by rw [joinStr_snoc]; simp [List.append_assoc]⟩
  · cases hfs : List.mapM (fun kv : Str × JVal => (fieldVal true kv).map (jsField kv.1)) fs.toList with
    | error e => rw [hfs] at hk; exact hk
    | ok ss => rw [hfs] at hk; rintro _ ⟨t, rfl⟩; exact hk _ t

/-- the `for child in x.children` loop of `_render_react_js`: state (res, …) -/
theorem kids_loop {β τ : Type} (ι : Str → Option Int) (ks : JNodes) (i : Nat) (eol : Str) (base : Str)
    (f : PVal → PVal × τ → PyM (ForInStep (PVal × τ)))
    (hstep : ∀ c ∈ ks.toList, ∀ (acc : Str) (t : τ),
      match c.renderJs i eol with
      | .ok cs => ∃ t', f (embJNode ι c) (.str acc, t) = .ok (.yield (.str (acc ++ kidPiece eol cs), t'))
      | .error e => f (embJNode ι c) (.str acc, t) = .error (embErr e))
    (t0 : τ) (k : PVal × τ → PyM β) (r : PyM β)
    (hk : match ks.kidsJs i eol with
      | .ok s => ∀ t, k (.str (base ++ s), t) = r
      | .error e => r = .error (embErr e)) :
    (forIn (ks.toList.map (embJNode ι)) (.str base, t0) f >>= k) = r := by
  rw [kidsJs_mapM] at hk
  refine mapM_loop_k (fun s b => ∃ t, s = (.str (base ++ b.flatMap (kidPiece eol)), t)) _ (fun c => c.renderJs i eol) embErr _ f ?_
    k r _ [] ⟨t0, by simp⟩ ?_
  · rintro c hc _ b ⟨t, rfl⟩
    have := hstep c hc (base ++ b.flatMap (kidPiece eol)) t
    cases hf : c.renderJs i eol with
    | error e => rw [hf] at this; exact this
    | ok cs =>
      rw [hf] at this
      obtain ⟨t', e1⟩ := this
      exact ⟨_, e1, t', by simp [List.append_assoc]⟩
  · cases hfs : List.mapM (fun c : JNode => c.renderJs i eol) ks.toList with
    | error e => rw [hfs] at hk; exact hk
    | ok ss => rw [hfs] at hk; rintro _ ⟨t, rfl⟩; exact hk t

/-! ### `_serialize_style_attr`: the CSS string as a dict -/

theorem splitChar_eq_splitOn (c : Char) (s : Str) : splitChar c s = splitOn c s := by
  induction s with
  | nil => rfl
  | cons x xs ih =>
    rw [splitChar, splitOn, ih]
    split
    · rfl
    · cases splitOn c xs <;> rfl

theorem reSearch_colon (y : Str) : reSearch (.str [':']) (.str y) = .ok (.bool (y.contains ':')) := by
  have h : reSpecial ':' = false := by decide
  simp only [reSearch, List.isEmpty_cons, Bool.false_eq_true, if_false, altChars, h, pure_eq_ok]
  congr 2
  induction y with
  | nil => rfl
  | cons a t ih =>
    rw [List.any_cons, ih, List.contains_cons]
    congr 1
    by_cases h : a = ':'
    · subst h; rfl
    · have h' : ¬ (':' = a) := fun e => h e.symm
      have e1 : (a == ':') = false := by simpa using h
      have e2 : (':' == a) = false := by simpa using h'
      simp [e1, e2]

theorem pySplitSep_str (c : Char) (s : Str) : pySplitSep (.str s) (.str [c]) = .ok (.list ((splitOn c s).map .str)) := by
  simp [pySplitSep, textOf, splitChar_eq_splitOn]

theorem pyTupleJ_list (xs : List PVal) : pyTupleJ (.list xs) = .ok (.tuple xs) :=
  Eq.trans rfl rfl

/-- the comprehension `[tuple(y.split(":")) for y in x.split(";") if re.search(":", y)]` -/
theorem style_loop {β : Type} (pieces : List Str) (f : PVal → List PVal → PyM (ForInStep (List PVal)))
    (hstep : ∀ y ∈ pieces, ∀ acc, f (.str y) acc
      = .ok (.yield (if y.contains ':' then acc ++ [.tuple ((splitOn ':' y).map .str)] else acc)))
    (k : List PVal → PyM β) :
    (forIn (pieces.map PVal.str) ([] : List PVal) f >>= k)
      = k ((pieces.filter (·.contains ':')).map fun y => .tuple ((splitOn ':' y).map .str)) := by
  refine app_loop_k (fun s b => s = b) PVal.str
    (fun y => if y.contains ':' then [PVal.tuple ((splitOn ':' y).map .str)] else []) pieces f ?_ k _ [] [] rfl ?_
  · intro y hy s b hs
    subst hs
    exact ⟨_, hstep y hy s, by split <;> simp⟩
  · intro s hs
    subst hs
    congr 1
    clear hstep
    induction pieces with
    | nil => rfl
    | cons y t ih => by_cases hc : ':' ∈ y <;> simp_all [List.filter_cons]

theorem pairsOf_style (pieces : List Str) :
    pairsOf ((pieces.filter (·.contains ':')).map fun y => PVal.tuple ((splitOn ':' y).map .str))
      = match styleTuples pieces with
        | .ok ts => .ok (ts.map fun kv => (kv.1, PVal.str kv.2))
        | .error e => .error (embErr e) := by
  induction pieces with
  | nil => rfl
  | cons y t ih =>
    rw [styleTuples]
    by_cases hc : y.contains ':' = true
    · simp only [List.filter_cons, hc, if_true, List.map_cons]
      rcases hsp : splitOn ':' y with _ | ⟨a, _ | ⟨b, _ | ⟨c, r⟩⟩⟩
      · simp [pairsOf, embErr]
      · simp [pairsOf, embErr]
      · simp only [List.map_cons, List.map_nil, pairsOf, ok_bind, pure_eq_ok, ih]
        cases styleTuples t <;> simp
      · simp [pairsOf, embErr]
    · simp only [List.filter_cons, hc, Bool.false_eq_true, if_false]
      exact ih

theorem dictSet_map_str (k v : Str) (d : List (Str × Str)) :
    Py.dictSet k (.str v) (d.map fun kv => (kv.1, PVal.str kv.2)) = (odictSet k v d).map fun kv => (kv.1, PVal.str kv.2) := by
  induction d with
  | nil => rfl
  | cons x t ih =>
    obtain ⟨k', v'⟩ := x
    simp only [List.map_cons, Py.dictSet, odictSet]
    split <;> simp_all

theorem foldl_dictSet_str (ts d : List (Str × Str)) :
    (ts.map fun kv => (kv.1, PVal.str kv.2)).foldl (fun d kv => Py.dictSet kv.1 kv.2 d) (d.map fun kv => (kv.1, PVal.str kv.2))
      = (ts.foldl (fun acc kv => odictSet kv.1 kv.2 acc) d).map fun kv => (kv.1, PVal.str kv.2) := by
  induction ts generalizing d with
  | nil => rfl
  | cons x t ih => simp only [List.map_cons, List.foldl_cons, dictSet_map_str, ih]

/-- `dict(pairs)` of the parsed CSS string is the model's `parseStyle` -/
theorem pyDict_style (pieces : List Str) :
    pyDict (.list ((pieces.filter (·.contains ':')).map fun y => PVal.tuple ((splitOn ':' y).map .str)))
      = match styleTuples pieces with
        | .ok ts => .ok (.dict ((ts.foldl (fun acc kv => odictSet kv.1 kv.2 acc) []).map fun kv => (kv.1, PVal.str kv.2)))
        | .error e => .error (embErr e) := by
  simp only [pyDict, pairsOf_style]
  cases styleTuples pieces with
  | error e => rfl
  | ok ts =>
    simp only [ok_bind, pure_eq_ok]
    have := foldl_dictSet_str ts []
    simp only [List.map_nil] at this
    rw [this]

theorem odictSet_keys {β} (k : Str) (v : β) : (d : List (Str × β)) →
    (odictSet k v d).map (·.1) = if k ∈ d.map (·.1) then d.map (·.1) else d.map (·.1) ++ [k]
  | [] => rfl
  | (k', v') :: r => by
    by_cases h : k' = k
    · simp [odictSet, h]
    · have h' : ¬ k = k' := fun e => h e.symm
      simp only [odictSet, h, if_false, List.map_cons, odictSet_keys k v r, List.mem_cons, h', false_or]
      split <;> simp

theorem odictSet_nodup {β} (k : Str) (v : β) (d : List (Str × β)) (h : (d.map (·.1)).Nodup) :
    ((odictSet k v d).map (·.1)).Nodup := by
  rw [odictSet_keys]
  split
  · exact h
  · rename_i hk
    exact List.nodup_append.mpr ⟨h, by simp, fun a ha b hb => by simp at hb; subst hb; exact fun e => hk (e ▸ ha)⟩

theorem parse_nodup (ts : List (Str × Str)) :
    ((ts.foldl (fun acc kv => odictSet kv.1 kv.2 acc) []).map (·.1)).Nodup := by
  have gen : ∀ (ts d : List (Str × Str)), (d.map (·.1)).Nodup →
      ((ts.foldl (fun acc kv => odictSet kv.1 kv.2 acc) d).map (·.1)).Nodup := by
    intro ts
    induction ts with
    | nil => intro d h; exact h
    | cons x t ih => intro d h; exact ih _ (odictSet_nodup x.1 x.2 d h)
  exact gen ts [] (by simp)

/-- a dict of strings (what a CSS string is parsed into) as a prop value -/
def styleDict (d : List (Str × Str)) : JVal := .dict (JProps.ofList (d.map fun kv => (kv.1, JVal.str kv.2)))

theorem styleDict_emb (ι : Str → Option Int) (d : List (Str × Str)) :
    embJVal ι (styleDict d) = .dict (d.map fun kv => (kv.1, PVal.str kv.2)) := by
  simp only [styleDict, embJVal]
  congr 1
  induction d with
  | nil => rfl
  | cons x t ih => simp [JProps.ofList, embJProps, embJVal, embJNode, ih]

theorem styleDict_serialize (d : List (Str × Str)) :
    (styleDict d).serialize = .ok (jsObj (d.map fun kv => jsField kv.1 (jsQuote kv.2))) := by
  have : (JProps.ofList (d.map fun kv => (kv.1, JVal.str kv.2))).fieldsJs false
      = .ok (d.map fun kv => jsField kv.1 (jsQuote kv.2)) := by
    induction d with
    | nil => rfl
    | cons x t ih => simp [JProps.ofList, JProps.fieldsJs, JVal.serialize, ih]
  simp [styleDict, JVal.serialize, this]

theorem styleDict_keys (d : List (Str × Str)) :
    (JProps.ofList (d.map fun kv => (kv.1, JVal.str kv.2))).keys = d.map (·.1) := by
  induction d with
  | nil => rfl
  | cons x t ih => simp [JProps.ofList, JProps.keys, ih]

theorem styleDict_tied (d : List (Str × Str)) (hn : (d.map (·.1)).Nodup) : tiedV (styleDict d) = true := by
  have : tiedP false (JProps.ofList (d.map fun kv => (kv.1, JVal.str kv.2))) = true := by
    induction d with
    | nil => rfl
    | cons x t ih =>
      simp only [List.map_cons, List.nodup_cons] at hn
      simp [JProps.ofList, tiedP, tiedV, tiedN, ih hn.2]
  simp [styleDict, tiedV, styleDict_keys, hn, this]

theorem styleDict_height (d : List (Str × Str)) : hV (styleDict d) ≤ 3 := by
  have : hD (JProps.ofList (d.map fun kv => (kv.1, JVal.str kv.2))) ≤ 2 := by
    induction d with
    | nil => simp [JProps.ofList, hD]
    | cons x t ih => simp only [List.map_cons, JProps.ofList, hD, hV, hN]; omega
  simp only [styleDict, hV]; omega

end HtmlVerif.SrcTie
