/-
Helper lemmas for C10: the constructor's checks against the declarative list of violations.
-/
import HtmlVerif.Spec.Deps

namespace HtmlVerif

theorem checkKeys_spec (d : List (Str × Str)) (req : List Str) :
    checkKeys d req = match (itemViolations req (.dict d)).head? with
      | some e => .error e
      | none => .ok () := by
  induction req with
  | nil => rfl
  | cons a r ih =>
    simp only [itemViolations] at ih ⊢
    by_cases h : hasKey a d = true <;> simp [checkKeys, h, ih]

theorem validateDict_spec (req : List Str) (d : List (Str × Str)) :
    validateDict req (.dict d) = match (itemViolations req (.dict d)).head? with
      | some e => .error e
      | none => .ok d := by
  rw [validateDict, checkKeys_spec]
  cases (itemViolations req (.dict d)).head? <;> rfl

theorem validateDicts_spec (req : List Str) (l : List PyItem) :
    (validateDicts req l = match (l.flatMap (itemViolations req)).head? with
      | some e => .error e
      | none => .ok (l.filterMap PyItem.dict?)) := by
  induction l with
  | nil => rfl
  | cons x r ih =>
    rw [validateDicts, ih, List.flatMap_cons, List.head?_append]
    cases x with
    | other => rfl
    | dict d =>
      rw [validateDict_spec]
      cases (itemViolations req (.dict d)).head? with
      | some e => rfl
      | none => cases (r.flatMap (itemViolations req)).head? <;> rfl

theorem normItems_spec (req : List Str) (x : ItemsArg) :
    (normItems req x = match (itemsViolations req x).head? with
      | some e => .error e
      | none => .ok x.dicts) := by
  cases x with
  | none => rfl
  | scalar => rfl
  | one d => exact validateDicts_spec req [.dict d]
  | many l => exact validateDicts_spec req l

theorem sourceViolations_head? (s : SourceArg) :
    (sourceViolations s).head? = match checkSource s with
      | .error e => some e
      | .ok _ => none := by
  cases s with
  | none => rfl
  | other => rfl
  | dict d =>
    simp only [checkSource, sourceViolations]
    cases hasKey ['h','r','e','f'] d <;> cases hasKey ['s','u','b','d','i','r'] d <;> rfl

theorem depInit_spec (a : DepArg) :
    match a.violations.head? with
    | some e => depInit a = .error e
    | none => ∃ src, checkSource a.source = .ok src ∧ depInit a = .ok
        { name := a.name, version := a.version, vrank := a.vrank, source := src,
          script := a.script.dicts, stylesheet := a.stylesheet.dicts.map addRel,
          metas := a.metas.dicts, allFiles := a.allFiles } := by
  simp only [depInit, DepArg.violations, List.head?_append, normItems_spec, sourceViolations_head?]
  cases a.verOk with
  | false => rfl
  | true =>
    cases checkSource a.source with
    | error e => rfl
    | ok src =>
      cases (itemsViolations reqScript a.script).head? with
      | some e => rfl
      | none =>
        cases (itemsViolations reqStylesheet a.stylesheet).head? with
        | some e => rfl
        | none =>
          cases (itemsViolations reqMeta a.metas).head? with
          | some e => rfl
          | none => exact ⟨src, rfl, rfl⟩

theorem itemsViolations_nil_iff (req : List Str) (x : ItemsArg) :
    itemsViolations req x = [] ↔ (x.hasNonDict = false ∧ x.lacksKey req = false) := by
  simp only [itemsViolations, ItemsArg.hasNonDict, ItemsArg.lacksKey, List.flatMap_eq_nil_iff,
    List.any_eq_false, ← forall_and]
  refine forall_congr' fun i => imp_congr_right fun _ => ?_
  cases i <;> simp [itemViolations]

theorem lacksKey_of_keyError_mem (req : List Str) (x : ItemsArg)
    (h : Err.keyError ∈ itemsViolations req x) : x.lacksKey req = true := by
  simp only [itemsViolations, List.mem_flatMap] at h
  obtain ⟨i, hi, h⟩ := h
  simp only [ItemsArg.lacksKey, List.any_eq_true]
  refine ⟨i, hi, ?_⟩
  cases i <;> simp_all [itemViolations]

theorem sourceViolations_nil_iff (s : SourceArg) :
    sourceViolations s = [] ↔ ¬ (s = .other ∨ ∃ d, s = .dict d ∧ hasKey ['h','r','e','f'] d = false
      ∧ hasKey ['s','u','b','d','i','r'] d = false) := by
  cases s <;> simp [sourceViolations]

theorem violations_nil_iff (a : DepArg) : a.violations = [] ↔ ¬ a.Malformed := by
  simp only [DepArg.violations, DepArg.Malformed, List.append_eq_nil_iff, itemsViolations_nil_iff,
    sourceViolations_nil_iff, not_or, Bool.not_eq_true]
  have hv : (if a.verOk = true then [] else [Err.valueError]) = [] ↔ ¬ a.verOk = false := by
    cases a.verOk <;> simp
  rw [hv]
  -- the same nine conditions, grouped by argument on the left and by kind on the right
  constructor
  · rintro ⟨⟨⟨⟨v, o, s⟩, n1, k1⟩, n2, k2⟩, n3, k3⟩; exact ⟨v, o, s, n1, n2, n3, k1, k2, k3⟩
  · rintro ⟨v, o, s, n1, n2, n3, k1, k2, k3⟩; exact ⟨⟨⟨⟨v, o, s⟩, n1, k1⟩, n2, k2⟩, n3, k3⟩

end HtmlVerif
