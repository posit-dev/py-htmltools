/-
Helper lemmas for the identity layer (C08): erasure commutes with the copies, the ids a copy allocates form
consecutive ranges, a mutation at an id that does not occur changes nothing.
-/
import HtmlVerif.Model.Ident
import HtmlVerif.Lemmas.Tagify

namespace HtmlVerif.Ident
open HtmlVerif

@[simp] theorem ITrees.nil_append (b : ITrees) : ITrees.nil ++ b = b := rfl
@[simp] theorem ITrees.cons_append (h : ITree) (t b : ITrees) : ITrees.cons h t ++ b = .cons h (t ++ b) := rfl

@[simp] theorem ITrees.eraseAll_append : (a b : ITrees) → (a ++ b).eraseAll = a.eraseAll ++ b.eraseAll
  | .nil, _ => rfl
  | .cons h t, b => congrArg (Nodes.cons h.erase) (ITrees.eraseAll_append t b)

@[simp] theorem ITrees.idsAll_append : (a b : ITrees) → (a ++ b).idsAll = a.idsAll ++ b.idsAll
  | .nil, _ => rfl
  | .cons h t, b => (congrArg (h.ids ++ ·) (ITrees.idsAll_append t b)).trans (List.append_assoc ..).symm

theorem ITrees.idsAll_single (x : ITree) : (ITrees.cons x .nil).idsAll = x.ids := List.append_nil _

/-! ### id ranges: every id in `[a, b)`, no id twice -/

def InR (l : List Nat) (a b : Nat) : Prop := (∀ i ∈ l, a ≤ i ∧ i < b) ∧ l.Nodup

theorem InR.nil (a b : Nat) : InR [] a b := ⟨by simp, List.nodup_nil⟩

theorem InR.single (a : Nat) : InR [a] a (a + 1) := ⟨by simp, by simp⟩

theorem InR.mono {l : List Nat} {a b a' b' : Nat} (h : InR l a b) (ha : a' ≤ a) (hb : b ≤ b') : InR l a' b' :=
  ⟨fun i hi => ⟨Nat.le_trans ha (h.1 i hi).1, Nat.lt_of_lt_of_le (h.1 i hi).2 hb⟩, h.2⟩

theorem InR.append {l l' : List Nat} {a b c : Nat} (h : InR l a b) (h' : InR l' b c) (hab : a ≤ b) (hbc : b ≤ c) :
    InR (l ++ l') a c := by
  refine ⟨fun i hi => ?_, List.nodup_append.mpr ⟨h.2, h'.2, fun x hx y hy hxy => ?_⟩⟩
  · rcases List.mem_append.mp hi with hi | hi
    · exact ⟨(h.1 i hi).1, Nat.lt_of_lt_of_le (h.1 i hi).2 hbc⟩
    · exact ⟨Nat.le_trans hab (h'.1 i hi).1, (h'.1 i hi).2⟩
  · exact Nat.not_le.mpr (h.1 x hx).2 (hxy ▸ (h'.1 y hy).1)

theorem InR.perm {l l' : List Nat} {a b : Nat} (h : InR l a b) (p : l.Perm l') : InR l' a b :=
  ⟨fun i hi => h.1 i (p.mem_iff.mpr hi), p.nodup_iff.mp h.2⟩

theorem InR.cons {l : List Nat} {a c : Nat} (h : InR l (a + 1) c) (hc : a + 1 ≤ c) : InR (a :: l) a c :=
  (InR.single a).append h (Nat.le_succ a) hc

/-- the three objects of a new tag (the tag `n`, its attributes `n + 1`, its child list `n + 3`) before the ids of its
    children -/
theorem InR.tagCell {l : List Nat} {n m : Nat} (h : InR l (n + 4) m) (hm : n + 4 ≤ m) :
    InR (n :: (n + 1) :: (n + 3) :: l) n m := by
  have h3 : InR ((n + 3) :: l) (n + 2) m := (InR.cons h hm).mono (Nat.le_succ _) (Nat.le_refl _)
  exact InR.cons (InR.cons h3 (Nat.le_trans (Nat.le_add_right _ 2) hm)) (Nat.le_trans (Nat.le_add_right _ 3) hm)

theorem InR.fresh {l old : List Nat} {n m : Nat} (h : InR l n m) (ho : ∀ i ∈ old, i < n) :
    (∀ i ∈ l, n ≤ i ∧ i < m) ∧ l.Nodup ∧ ∀ i ∈ l, i ∉ old :=
  ⟨h.1, h.2, fun i hi hm => Nat.not_le.mpr (ho i hm) (h.1 i hi).1⟩

theorem freshItems_kvs (items : List IDict) (n : Nat) : (freshItems items n).map (·.kvs) = items.map (·.kvs) := by
  induction items generalizing n with
  | nil => rfl
  | cons d r ih => exact congrArg (d.kvs :: ·) (ih _)

theorem freshItems_ids (items : List IDict) (n : Nat) :
    InR ((freshItems items n).map (·.id)) n (n + items.length) := by
  induction items generalizing n with
  | nil => exact InR.nil _ _
  | cons d r ih =>
    show InR (n :: _) n (n + (r.length + 1))
    exact InR.cons ((ih (n + 1)).mono (Nat.le_refl _) (Nat.le_of_eq (Nat.add_right_comm n 1 _)))
      (Nat.succ_le_succ (Nat.le_add_right n _))

@[simp] theorem IDictList.fresh_erase (l : IDictList) (n : Nat) : (l.fresh n).1.erase = l.erase := by
  simp [IDictList.fresh, IDictList.erase, freshItems_kvs]

theorem IDictList.fresh_snd (l : IDictList) (n : Nat) : (l.fresh n).2 = n + 1 + l.items.length := rfl

theorem IDictList.fresh_ids (l : IDictList) (n : Nat) : InR (l.fresh n).1.ids n (l.fresh n).2 :=
  InR.cons (freshItems_ids l.items (n + 1)) (Nat.le_add_right _ _)

theorem IDictList.fresh_le (l : IDictList) (n : Nat) : n ≤ (l.fresh n).2 :=
  Nat.le_trans (Nat.le_succ n) (Nat.le_add_right _ _)

@[simp] theorem IDep.fresh_erase (d : IDep) (n : Nat) : (d.fresh n).1.erase = d.erase := by
  simp [IDep.fresh, IDep.erase]

theorem IDep.fresh_le (d : IDep) (n : Nat) : n + 1 ≤ (d.fresh n).2 :=
  Nat.le_trans (Nat.le_trans (IDictList.fresh_le _ (n + 1)) (IDictList.fresh_le _ _)) (IDictList.fresh_le _ _)

theorem IDep.fresh_ids (d : IDep) (n : Nat) : InR (d.fresh n).1.ids n (d.fresh n).2 := by
  have base := ((IDictList.fresh_ids d.script (n + 1)).append (IDictList.fresh_ids d.stylesheet _)
    (IDictList.fresh_le _ _) (IDictList.fresh_le _ _)).append (IDictList.fresh_ids d.metas _)
    (Nat.le_trans (IDictList.fresh_le _ _) (IDictList.fresh_le _ _)) (IDictList.fresh_le _ _)
  by_cases hn : DepSource.isNone d.source = true <;> simp only [IDep.fresh, IDep.ids, hn, ↓reduceIte]
  · exact base.mono (Nat.le_succ n) (Nat.le_refl _)
  · exact InR.cons base (IDep.fresh_le d n)

/-! ### erasure commutes with the copies -/

mutual
  theorem ITree.icopy_erase (x : ITree) (n : Nat) : (x.icopy n).1.erase = x.erase := by
    cases x with
    | tag i a k nm ws at' kids => simp [ITree.icopy, ITree.erase, ITrees.icopyAll_erase kids]
    | dep i d hh hid hd => simp [ITree.icopy, ITree.erase, ITrees.icopyAll_erase hd]
    | _ => rfl
  theorem ITrees.icopyAll_erase (ks : ITrees) (n : Nat) : (ks.icopyAll n).1.eraseAll = ks.eraseAll := by
    cases ks with
    | nil => rfl
    | cons h t =>
      show Nodes.cons _ _ = Nodes.cons _ _
      rw [ITree.icopy_erase h, ITrees.icopyAll_erase t]
end

mutual
  theorem ITree.itagify_erase (x : ITree) (n : Nat) : (x.itagify n).1.eraseAll = x.erase.expand := by
    cases x with
    | tag i a k nm ws at' kids =>
      exact congrArg (fun ks => Nodes.cons (Node.tag nm ws at' ks) .nil) (ITrees.itagifyAll_erase kids _)
    | tobjL rh c => exact ITrees.itagifyAll_erase c n
    | tobj1 rh c => exact ITree.itagify_erase c n
    | dep i d hh hid hd =>
      -- a dependency child is replaced by its copy
      exact congrArg (Nodes.cons · .nil) (ITree.icopy_erase (.dep i d hh hid hd) n)
    | _ => rfl
  theorem ITrees.itagifyAll_erase (ks : ITrees) (n : Nat) : (ks.itagifyAll n).1.eraseAll = ks.eraseAll.expandAll := by
    cases ks with
    | nil => rfl
    | cons h t =>
      show (_ ++ _ : ITrees).eraseAll = _ ++ _
      rw [ITrees.eraseAll_append, ITree.itagify_erase h, ITrees.itagifyAll_erase t]
end

/-! ### what a copy allocates -/

mutual
  theorem ITree.icopy_le (x : ITree) (n : Nat) : n ≤ (x.icopy n).2 := by
    cases x with
    | tag i a k nm ws at' kids => exact Nat.le_trans (Nat.le_add_right n 4) (ITrees.icopyAll_le kids _)
    | dep i d hh hid hd =>
      exact Nat.le_trans (Nat.le_trans (Nat.le_add_right n 2) (IDep.fresh_le d (n + 1)))
        (Nat.le_trans (Nat.le_succ _) (ITrees.icopyAll_le hd _))
    | mnode i k => exact Nat.le_succ n
    | _ => exact Nat.le_refl n
  theorem ITrees.icopyAll_le (ks : ITrees) (n : Nat) : n ≤ (ks.icopyAll n).2 := by
    cases ks with
    | nil => exact Nat.le_refl n
    | cons h t => exact Nat.le_trans (ITree.icopy_le h n) (ITrees.icopyAll_le t _)
end

mutual
  theorem ITree.icopy_ids (x : ITree) (n : Nat) (g : x.noTobj = true) : InR (x.icopy n).1.ids n (x.icopy n).2 := by
    cases x with
    | tag i a k nm ws at' kids =>
      exact (ITrees.icopyAll_ids kids (n + 4) g).tagCell (ITrees.icopyAll_le kids (n + 4))
    | dep i d hh hid hd =>
      have h1 : n + 1 ≤ (d.fresh (n + 1)).2 := Nat.le_of_succ_le (IDep.fresh_le d (n + 1))
      have hl := ITrees.icopyAll_le hd ((d.fresh (n + 1)).2 + 1)
      have hhid : InR (if hh then [(d.fresh (n + 1)).2] else []) (d.fresh (n + 1)).2 ((d.fresh (n + 1)).2 + 1) := by
        split
        · exact InR.single _
        · exact InR.nil _ _
      have := ((IDep.fresh_ids d (n + 1)).append hhid h1 (Nat.le_succ _)).append
        (ITrees.icopyAll_ids hd _ g) (Nat.le_succ_of_le h1) hl
      exact (InR.cons this (Nat.le_trans (Nat.le_succ_of_le h1) hl) :)
    | mnode i k => exact InR.single n
    | tobjL rh c => cases g
    | tobj1 rh c => cases g
    | _ => exact InR.nil n n
  theorem ITrees.icopyAll_ids (ks : ITrees) (n : Nat) (g : ks.noTobjAll = true) :
      InR (ks.icopyAll n).1.idsAll n (ks.icopyAll n).2 := by
    cases ks with
    | nil => exact InR.nil n n
    | cons h t =>
      have g := Bool.and_eq_true_iff.mp g
      exact (ITree.icopy_ids h n g.1).append (ITrees.icopyAll_ids t _ g.2) (ITree.icopy_le h n) (ITrees.icopyAll_le t _)
end

mutual
  theorem ITree.itagify_le (x : ITree) (n : Nat) : n ≤ (x.itagify n).2 := by
    cases x with
    | tag i a k nm ws at' kids => exact Nat.le_trans (Nat.le_add_right n 4) (ITrees.itagifyAll_le kids _)
    | tobjL rh c => exact ITrees.itagifyAll_le c n
    | tobj1 rh c => exact ITree.itagify_le c n
    | dep i d hh hid hd => exact ITree.icopy_le (.dep i d hh hid hd) n
    | mnode i k => exact Nat.le_succ n
    | _ => exact Nat.le_refl n
  theorem ITrees.itagifyAll_le (ks : ITrees) (n : Nat) : n ≤ (ks.itagifyAll n).2 := by
    cases ks with
    | nil => exact Nat.le_refl n
    | cons h t => exact Nat.le_trans (ITrees.itagifyAll_le t n) (ITree.itagify_le h _)
end

mutual
  theorem ITree.itagify_ids (x : ITree) (n : Nat) (g : x.headsPlain = true) :
      InR (x.itagify n).1.idsAll n (x.itagify n).2 := by
    cases x with
    | tag i a k nm ws at' kids =>
      exact ITrees.idsAll_single _ ▸
        (ITrees.itagifyAll_ids kids (n + 4) g).tagCell (ITrees.itagifyAll_le kids (n + 4))
    | tobjL rh c => exact ITrees.itagifyAll_ids c n g
    | tobj1 rh c => exact ITree.itagify_ids c n g
    | dep i d hh hid hd =>
      -- a dependency child is replaced by its copy
      exact ITrees.idsAll_single _ ▸ ITree.icopy_ids (.dep i d hh hid hd) n g
    | mnode i k => exact InR.single n
    | _ => exact InR.nil n n
  theorem ITrees.itagifyAll_ids (ks : ITrees) (n : Nat) (g : ks.headsPlainAll = true) :
      InR (ks.itagifyAll n).1.idsAll n (ks.itagifyAll n).2 := by
    cases ks with
    | nil => exact InR.nil n n
    | cons h t =>
      have g := Bool.and_eq_true_iff.mp g
      -- the objects of the tail are created first
      exact ITrees.idsAll_append _ _ ▸ ((ITrees.itagifyAll_ids t n g.2).append (ITree.itagify_ids h _ g.1)
        (ITrees.itagifyAll_le t n) (ITree.itagify_le h _)).perm List.perm_append_comm
end

/-! ### a mutation at an id that does not occur changes nothing -/

theorem IDictList.mutate_of_not_mem (l : IDictList) (i : Nat) (f : Mut) (h : i ∉ l.ids) : l.mutate i f = l := by
  simp only [IDictList.ids, List.mem_cons, List.mem_map, not_or, not_exists, not_and, eq_comm (a := i)] at h
  have hitems : l.items.map (IDict.mutate i f) = l.items :=
    (List.map_congr_left fun d hd => if_neg (h.2 d hd)).trans (List.map_id' _)
  simp [IDictList.mutate, hitems, h.1]

theorem IDep.mutate_of_not_mem (d : IDep) (i : Nat) (f : Mut) (h : i ∉ d.ids) : d.mutate i f = d := by
  simp only [IDep.ids, List.mem_append, not_or] at h
  obtain ⟨⟨⟨hs, h1⟩, h2⟩, h3⟩ := h
  have hsrc : ¬ (d.sourceId = i ∧ DepSource.isNone d.source = false) := by
    rintro ⟨e, hn⟩; apply hs; simp [hn, e]
  simp [IDep.mutate, hsrc, IDictList.mutate_of_not_mem _ i f h1, IDictList.mutate_of_not_mem _ i f h2,
    IDictList.mutate_of_not_mem _ i f h3]

mutual
  theorem ITree.mutateAt_of_not_mem (x : ITree) (i : Nat) (f : Mut) (h : i ∉ x.ids) : x.mutateAt i f = x := by
    cases x with
    | tag id aid kid nm ws a kids =>
      simp only [ITree.ids, List.mem_cons, not_or, eq_comm (a := i)] at h
      show ITree.tag id aid kid (if id = i then _ else nm) (if id = i then _ else ws) (if aid = i then _ else a)
        (if kid = i then _ else _) = _
      rw [if_neg h.1, if_neg h.1, if_neg h.2.1, if_neg h.2.2.1, ITrees.mutateAll_of_not_mem kids i f h.2.2.2]
    | mnode id k =>
      simp only [ITree.ids, List.mem_singleton, eq_comm (a := i)] at h
      show ITree.mnode id (if id = i then _ else k) = _
      rw [if_neg h]
    | dep id d hh hid hd =>
      simp only [ITree.ids, List.mem_cons, List.mem_append, not_or, eq_comm (a := i)] at h
      obtain ⟨⟨⟨h1, h2⟩, h3⟩, h4⟩ := h
      have e3 : ¬ (hid = i ∧ hh = true) := by
        rintro ⟨e, hh'⟩; apply h3; simp [hh', e]
      show ITree.dep id (if id = i then _ else _) hh hid (if hid = i ∧ hh = true then _ else _) = _
      rw [if_neg h1, if_neg e3, IDep.mutate_of_not_mem d i f h2, ITrees.mutateAll_of_not_mem hd i f h4]
    | tobjL rh c => exact congrArg (ITree.tobjL rh) (ITrees.mutateAll_of_not_mem c i f h)
    | tobj1 rh c => exact congrArg (ITree.tobj1 rh) (ITree.mutateAt_of_not_mem c i f h)
    | _ => rfl
  theorem ITrees.mutateAll_of_not_mem (ks : ITrees) (i : Nat) (f : Mut) (h : i ∉ ks.idsAll) : ks.mutateAll i f = ks := by
    cases ks with
    | nil => rfl
    | cons a t =>
      simp only [ITrees.idsAll, List.mem_append, not_or] at h
      show ITrees.cons _ _ = _
      rw [ITree.mutateAt_of_not_mem a i f h.1, ITrees.mutateAll_of_not_mem t i f h.2]
end

end HtmlVerif.Ident
