/-
The translated `_flatten_recurse` (htmltools/_util.py) and `_tagchilds_to_tagnodes` (htmltools/_core.py) at the level of
Python values, with no embedding: what one level of the recursion and the conversion loop do, given only what the class tests
say about the items.  The ties of the areas that reach these functions supply those tests for their embedded values.
-/
import HtmlVerif.Generated.Src
import HtmlVerif.Lemmas.PyComp
import HtmlVerif.Lemmas.PyClass

set_option linter.unusedSimpArgs false   -- the simp sets cover equivalent spellings of the source, not only the current one
set_option linter.unusedVariables false

namespace HtmlVerif.SrcTie
open HtmlVerif HtmlVerif.Py HtmlVerif.Generated.Src

/-- the translated functions `_tagchilds_to_tagnodes` reaches are available -/
structure NormCallees : Prop where
  tagchilds : tagchilds_to_tagnodes_available = true
  flatten : util_flatten_available = true
  recurse : util_flatten_recurse_available = true
  isnode : is_tag_node_available = true

/-- `isinstance(v, (list, tuple, TagList))`: what `_flatten_recurse` descends into -/
def isNestPy (v : PVal) : Bool := isInstance v ["list"] || isInstance v ["tuple"] || isInstance v ["TagList"]

theorem isNone_of_nest {v : PVal} (h : isNestPy v = true) : isNone v = false := by
  cases v <;> first | rfl | exact absurd h (by simp [isNestPy, isInstance, builtinClasses])

/-- one level of `_flatten_recurse(x, result)`, given (`hnest`) what the nested call does at this fuel for the lists /
    tuples / TagLists among the items -/
theorem flatten_recurse_items (h : util_flatten_recurse_available = true) (G : Globals) (fuel : Nat) {γ : Type}
    (e : γ → PVal) (g : γ → List PVal) (l : List γ) (X : PVal) (acc : List PVal) (hX : pyIter X = .ok (l.map e))
    (hnest : ∀ c ∈ l, isNestPy (e c) = true → ∀ b,
      util_flatten_recurse G fuel (e c) (.list b) = .ok (.list (b ++ g c)))
    (hleaf : ∀ c ∈ l, isNestPy (e c) = false → g c = if isNone (e c) then [] else [e c]) :
    util_flatten_recurse G (fuel + 1) X (.list acc) = .ok (.list (acc ++ l.flatMap g)) := by
  first
  | exact absurd h (by decide)
  | rw [util_flatten_recurse]
    simp only [pure_eq_ok, truthy_bool, hX, ok_bind]
    refine app_loop_k (fun s b => s.1 = .list b) e g l _ ?step _ _ _ acc rfl ?k
    case k => intro s hs; rw [hs]
    case step =>
      intro c hc s b hs
      obtain ⟨s1, s2⟩ := s
      simp only at hs; subst hs
      cases hn : isNestPy (e c) with
      | true =>
        have hr := hnest c hc hn b
        have h0 := isNone_of_nest hn
        simp only [isNestPy, Bool.or_eq_true] at hn
        rcases hn with (hn | hn) | hn <;>
          simp only [isInstance_cons2, hn, h0, Bool.or_true, Bool.true_or, truthy_bool, Bool.not_true, Bool.not_false,
            Bool.false_eq_true, if_true, if_false, hr, ok_bind, pure_eq_ok] <;> exact ⟨_, rfl, rfl⟩
      | false =>
        rw [hleaf c hc hn]
        simp only [isNestPy, Bool.or_eq_false_iff] at hn
        cases h0 : isNone (e c) <;>
          simp only [isInstance_cons2, hn.1.1, hn.1.2, hn.2, h0, Bool.or_false, truthy_bool, Bool.not_true, Bool.not_false,
            Bool.false_eq_true, if_true, if_false, pyListAppendA, ok_bind, pure_eq_ok] <;>
          exact ⟨_, rfl, by simp⟩

/-- what the loop of `_tagchilds_to_tagnodes` does with one item of the flattened list -/
def convItem (G : Globals) (v : PVal) : PyM PVal :=
  if isInstance v ["int"] || isInstance v ["float"] then pyStr v
  else is_tag_node G v >>= fun t => if truthy t then .ok v else .error .typeError

theorem pySetItem_mid (pre : List PVal) (x y : PVal) (rest : List PVal) :
    pySetItem (.list (pre ++ x :: rest)) (.int (pre.length : Nat)) y = .ok (.list (pre ++ y :: rest)) := by
  have h1 : ¬ ((pre.length : Int) < 0) := by omega
  have h2 : ¬ ((pre.length : Int) < 0 ∨ pre.length ≥ (pre ++ x :: rest).length) := by simp
  simp [pySetItem, h1, h2]

theorem tagchilds_of_flatten (h : tagchilds_to_tagnodes_available = true) (G : Globals) (fuel : Nat) (X : PVal)
    (L : List PVal) (hs : isInstance X ["str"] = false) (hfl : util_flatten G fuel X = .ok (.list L)) :
    tagchilds_to_tagnodes G (fuel + 1) X = (L.mapM (convItem G) >>= fun r => .ok (.list r)) := by
  first
  | exact absurd h (by decide)
  | rw [tagchilds_to_tagnodes]
    simp only [pure_eq_ok, truthy_bool, hs, Bool.false_eq_true, if_false, hfl, ok_bind,
      pyEnumerate_of_iter _ _ (pyIter_list L), pyIter_list]
    refine (enum_map_loop_k (fun s => s.1) (convItem G) _ ?step _ (fun r => .ok (.list r)) ?k [] L _ rfl).trans ?_
    case k => intro s r hs; rw [hs]
    case step =>
      intro pre x rest s hs
      obtain ⟨s1, s2⟩ := s
      simp only at hs; subst hs
      simp only [pyUnpack2_tuple, ok_bind, convItem, isInstance_cons2]
      cases hnum : (isInstance x ["int"] || isInstance x ["float"]) with
      | true =>
        simp only [hnum, Bool.or_comm (isInstance x ["float"]), if_true]
        cases pyStr x with
        | error er => rfl
        | ok y => simp only [ok_bind, pySetItem_mid]; exact ⟨_, rfl, rfl⟩
      | false =>
        simp only [hnum, Bool.or_comm (isInstance x ["float"]), Bool.false_eq_true, if_false]
        cases is_tag_node G x with
        | error er => rfl
        | ok t => cases ht : truthy t <;> simp only [ok_bind, ht, Bool.not_true, Bool.not_false, Bool.false_eq_true, if_false, if_true] <;>
            first | rfl | exact ⟨_, rfl, rfl⟩
    simp only [List.nil_append]

end HtmlVerif.SrcTie
