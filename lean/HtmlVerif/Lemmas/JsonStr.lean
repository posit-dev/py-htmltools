/-
String level of C13: what `json.dumps` writes for a string is read back by the string scanner.
-/
import HtmlVerif.Model.Json

namespace HtmlVerif

theorem hexVal_hexDigit (d : Nat) (h : d < 16) : hexVal? (hexDigit d) = some d :=
  (by decide +kernel : ∀ d : Fin 16, hexVal? (hexDigit d.val) = some d.val) ⟨d, h⟩

theorem hex4?_hex4 (n : Nat) (h : n < 65536) (r : Str) : hex4? (hex4 n ++ r) = some (n, r) := by
  have digit (d : Nat) : hexVal? (hexDigit (d % 16)) = some (d % 16) :=
    hexVal_hexDigit _ (Nat.mod_lt _ (by decide))
  have d3 : n / 4096 % 16 = n / 256 / 16 := by
    rw [Nat.div_div_eq_div_mul]; exact Nat.mod_eq_of_lt (Nat.div_lt_of_lt_mul h)
  have d2 : n / 256 = n / 16 / 16 := (Nat.div_div_eq_div_mul n 16 16).symm
  have e : ((n / 4096 % 16 * 16 + n / 256 % 16) * 16 + n / 16 % 16) * 16 + n % 16 = n := by
    rw [d3, Nat.div_add_mod', d2, Nat.div_add_mod', Nat.div_add_mod']
  show hex4? (_ :: _ :: _ :: _ :: r) = _
  rw [hex4?, digit, digit, digit, digit]
  exact congrArg (fun v => some (v, r)) e

theorem strUnit?_uEsc (n : Nat) (h : n < 65536) (hs : ¬ (0xD800 ≤ n ∧ n < 0xE000)) (tail : Str) :
    strUnit? (uEsc n ++ tail) = some (Char.ofNat n, tail) := by
  have h1 : ¬ (0xD800 ≤ n ∧ n < 0xDC00) := fun a => hs ⟨a.1, Nat.lt_trans a.2 (by decide)⟩
  have h2 : ¬ (0xDC00 ≤ n ∧ n < 0xE000) := fun a => hs ⟨Nat.le_trans (by decide) a.1, a.2⟩
  simp [uEsc, strUnit?, hex4?_hex4 n h, h1, h2]

/-- the surrogate pair written for the scalar value `0x10000 + m` -/
theorem strUnit?_pair (m : Nat) (h : m < 0x100000) (tail : Str) :
    strUnit? (uEsc (0xD800 + m / 0x400) ++ uEsc (0xDC00 + m % 0x400) ++ tail) =
      some (Char.ofNat (0x10000 + m), tail) := by
  have hq : m / 0x400 < 0x400 := Nat.div_lt_of_lt_mul h
  have hr : m % 0x400 < 0x400 := Nat.mod_lt _ (by decide)
  have hh : 0xD800 ≤ 0xD800 + m / 0x400 ∧ 0xD800 + m / 0x400 < 0xDC00 :=
    ⟨Nat.le_add_right _ _, Nat.add_lt_add_left hq _⟩
  have hl : 0xDC00 ≤ 0xDC00 + m % 0x400 ∧ 0xDC00 + m % 0x400 < 0xE000 :=
    ⟨Nat.le_add_right _ _, Nat.add_lt_add_left hr _⟩
  have e : ∀ a b : Str, uEsc (0xD800 + m / 0x400) ++ a ++ b
      = '\\' :: 'u' :: (hex4 (0xD800 + m / 0x400) ++ (a ++ b)) := by simp [uEsc]
  rw [e]
  simp [uEsc, strUnit?, hex4?_hex4 _ (Nat.lt_trans hh.2 (by decide)), hex4?_hex4 _ (Nat.lt_trans hl.2 (by decide)),
    hh, hl, Nat.add_assoc, Nat.div_add_mod']

/-! ### the four shapes of an escape -/

/-- the characters with a two-character escape, each with the letter after the backslash -/
def escTable : List (Char × Char) :=
  [('"', '"'), ('\\', '\\'), ('\n', 'n'), ('\r', 'r'), ('\t', 't'), (Char.ofNat 8, 'b'), (Char.ofNat 12, 'f')]

theorem escTable_facts : ∀ p ∈ escTable, escChar p.1 = ['\\', p.2] ∧ simpleEsc? p.2 = some p.1 ∧ p.2 ≠ 'u'
    ∧ (p.2 ≠ '/' ∧ p.2 ≠ '<' ∧ p.2 ≠ '=') ∧ (0x20 ≤ p.2.toNat ∧ p.2.toNat ≤ 0x7E) ∧ (p.2 = '"' → p.1 = '"') := by
  decide +kernel

theorem uEsc_mem (n : Nat) (x : Char) (h : x ∈ uEsc n) :
    (0x20 ≤ x.toNat ∧ x.toNat ≤ 0x7E) ∧ x ≠ '"' ∧ x ≠ '/' ∧ x ≠ '<' ∧ x ≠ '=' := by
  have digit : ∀ d : Fin 16, (0x20 ≤ (hexDigit d.val).toNat ∧ (hexDigit d.val).toNat ≤ 0x7E) ∧ hexDigit d.val ≠ '"'
      ∧ hexDigit d.val ≠ '/' ∧ hexDigit d.val ≠ '<' ∧ hexDigit d.val ≠ '=' := by decide +kernel
  simp only [uEsc, hex4, List.mem_cons, List.not_mem_nil, or_false] at h
  rcases h with rfl | rfl | rfl | rfl | rfl | rfl
  · decide
  · decide
  all_goals exact digit ⟨_, Nat.mod_lt _ (by decide)⟩

theorem escChar_cases (c : Char) :
    (∃ e, (c, e) ∈ escTable ∧ escChar c = ['\\', e]) ∨
    (escChar c = [c] ∧ c ≠ '"' ∧ c ≠ '\\' ∧ 0x20 ≤ c.toNat ∧ c.toNat ≤ 0x7E) ∨
    (escChar c = uEsc c.toNat ∧ c.toNat < 0x10000) ∨
    (escChar c = uEsc (0xD800 + (c.toNat - 0x10000) / 0x400) ++ uEsc (0xDC00 + (c.toNat - 0x10000) % 0x400)
      ∧ ¬ c.toNat < 0x10000) := by
  by_cases ht : ∃ e, (c, e) ∈ escTable
  · obtain ⟨e, he⟩ := ht
    exact .inl ⟨e, he, (escTable_facts _ he).1⟩
  -- `c` is none of the seven characters `escChar` asks about first
  have hne : ∀ p ∈ escTable, c ≠ p.1 := fun p hp e => ht ⟨p.2, e ▸ hp⟩
  simp only [escTable, List.forall_mem_cons, List.not_mem_nil, false_imp_iff, implies_true, and_true] at hne
  refine .inr ?_
  simp only [escChar, hne, if_false]
  by_cases hp : 0x20 ≤ c.toNat ∧ c.toNat ≤ 0x7E
  · exact .inl ⟨if_pos hp, hne.1, hne.2.1, hp⟩
  by_cases hb : c.toNat < 0x10000
  · exact .inr (.inl ⟨by rw [if_neg hp, if_pos hb], hb⟩)
  · exact .inr (.inr ⟨by rw [if_neg hp, if_neg hb], hb⟩)

theorem escChar_mem (c x : Char) (h : x ∈ escChar c) :
    (0x20 ≤ x.toNat ∧ x.toNat ≤ 0x7E) ∧ (x ≠ '"' ∨ c = '"') ∧
      ((x ≠ '/' ∧ x ≠ '<' ∧ x ≠ '=') ∨ (x = c ∧ escChar c = [c])) := by
  rcases escChar_cases c with ⟨e, he, hs⟩ | ⟨hs, hq, _, hp⟩ | ⟨hs, _⟩ | ⟨hs, _⟩ <;> rw [hs] at h
  · obtain ⟨_, _, _, h3, hp, hq⟩ := escTable_facts _ he
    simp only [List.mem_cons, List.not_mem_nil, or_false] at h
    rcases h with rfl | rfl
    · exact ⟨by decide, .inl (by decide), .inl (by decide)⟩
    · exact ⟨hp, Decidable.not_or_of_imp hq, .inl h3⟩
  · rw [List.mem_singleton.mp h]
    exact ⟨hp, .inl hq, .inr ⟨rfl, hs⟩⟩
  · exact have ⟨hp, hq, hs⟩ := uEsc_mem _ x h; ⟨hp, .inl hq, .inl hs⟩
  · rcases List.mem_append.mp h with h | h <;> exact have ⟨hp, hq, hs⟩ := uEsc_mem _ x h; ⟨hp, .inl hq, .inl hs⟩

theorem strUnit?_esc (c : Char) (tail : Str) : strUnit? (escChar c ++ tail) = some (c, tail) := by
  rcases escChar_cases c with ⟨e, he, h⟩ | ⟨h, _, hb, hlo, _⟩ | ⟨h, hlt⟩ | ⟨h, hge⟩ <;> rw [h]
  · obtain ⟨_, hs, hu, _⟩ := escTable_facts _ he
    simp [strUnit?, hs, hu]
  · have : ¬ c.toNat < 32 := Nat.not_lt.mpr hlo
    simp [strUnit?, hb, this]
  · have hv : c.toNat < 0xD800 ∨ (0xDFFF < c.toNat ∧ c.toNat < 0x110000) := c.valid
    rw [strUnit?_uEsc c.toNat hlt (by omega) tail, Char.ofNat_toNat]
  · have hv : c.toNat < 0xD800 ∨ (0xDFFF < c.toNat ∧ c.toNat < 0x110000) := c.valid
    rw [strUnit?_pair _ (by omega) tail, Nat.add_sub_cancel' (Nat.le_of_not_lt hge), Char.ofNat_toNat]

theorem escChar_head (c : Char) : ∃ x r, escChar c = x :: r ∧ x ≠ '"' := by
  rcases escChar_cases c with ⟨e, _, h⟩ | ⟨h, hq, _⟩ | ⟨h, _⟩ | ⟨h, _⟩ <;> rw [h]
  · exact ⟨_, _, rfl, by decide⟩
  · exact ⟨_, _, rfl, hq⟩
  · exact ⟨_, _, rfl, by decide⟩
  · exact ⟨_, _, rfl, by decide⟩

/-- a string-body encoder that the scanner inverts, whatever follows the closing quote
    (fuel: more than the length of the encoded body) -/
def BodyOK (enc : Str → Str) : Prop :=
  ∀ (s rest : Str) (f : Nat), (enc s).length < f → parseStrBody f (enc s ++ '"' :: rest) = some (s, rest)

theorem parseStrBody_step (f : Nat) (piece tail : Str) (c : Char)
    (hhead : ∃ x r, piece = x :: r ∧ x ≠ '"') (hu : strUnit? (piece ++ tail) = some (c, tail)) :
    parseStrBody (f + 1) (piece ++ tail) = (parseStrBody f tail).map fun p => (c :: p.1, p.2) := by
  obtain ⟨x, r, rfl, hx⟩ := hhead
  simp only [List.cons_append] at hu ⊢
  rw [parseStrBody]
  simp only [hx, if_false, hu]
  cases parseStrBody f tail <;> rfl

theorem escBody_cons (c : Char) (cs : Str) : escBody (c :: cs) = escChar c ++ escBody cs := List.flatMap_cons

theorem escBody_parse : ∀ (s rest : Str) (f : Nat), s.length < f →
    parseStrBody f (escBody s ++ '"' :: rest) = some (s, rest)
  | _, _, 0, hf => absurd hf (Nat.not_lt_zero _)
  | [], _, _ + 1, _ => rfl
  | c :: cs, rest, f + 1, hf => by
    rw [escBody_cons, List.append_assoc, parseStrBody_step f _ _ c (escChar_head c) (strUnit?_esc c _),
      escBody_parse cs rest f (Nat.lt_of_succ_lt_succ hf)]
    rfl

theorem escBody_length (s : Str) : s.length ≤ (escBody s).length := by
  induction s with
  | nil => simp [escBody]
  | cons c cs ih =>
    obtain ⟨x, r, e, _⟩ := escChar_head c
    rw [escBody_cons, e]; simp; omega

theorem escBody_ok : BodyOK escBody := fun s rest f hf =>
  escBody_parse s rest f (Nat.lt_of_le_of_lt (escBody_length s) hf)

/-- `json.loads(json.dumps(s)) == s` for every string over all Unicode scalar values -/
theorem jsonParseStr_jsonStr (s : Str) : jsonParseStr (jsonStr s) = some s := by
  simp [jsonParseStr, jsonStr, escBody_ok s [] ((escBody s).length + 1) (Nat.lt_succ_self _)]

end HtmlVerif
