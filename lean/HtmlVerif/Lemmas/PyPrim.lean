/-
Equations of the exception monad and facts about the primitives of the Python fragment (Py/Prim.lean) on the argument
shapes the tie theorems (Props/Src*.lean) meet; `keysPlain`, the side condition under which `re.search` on a table's keys is
in the fragment.
-/
import HtmlVerif.Py.Prim
import HtmlVerif.Lemmas.Escape

namespace HtmlVerif.Py
open HtmlVerif

/-! ### the exception monad, without unfolding `bind` under binders -/

@[simp] theorem ok_bind {α β} (a : α) (f : α → PyM β) : ((Except.ok a : PyM α) >>= f) = f a := rfl
@[simp] theorem error_bind {α β} (e : PyErr) (f : α → PyM β) : ((Except.error e : PyM α) >>= f) = Except.error e := rfl
@[simp] theorem pure_eq_ok {α} (a : α) : (pure a : PyM α) = Except.ok a := rfl
@[simp] theorem throw_eq_error {α} (e : PyErr) : (throw e : PyM α) = Except.error e := rfl
@[simp] theorem map_ok {α β} (f : α → β) (a : α) : (f <$> (Except.ok a : PyM α)) = Except.ok (f a) := rfl
@[simp] theorem map_error {α β} (f : α → β) (e : PyErr) : (f <$> (Except.error e : PyM α)) = Except.error e := rfl

/-! The same equations with a proof *term* instead of `rfl`.  `simp` uses an equation proved by `rfl` also for definitional
unfolding (`dsimp`), which is slow on the body of a large translated function (several join points, loops); given these it only
rewrites.  Use these on the goal left by unfolding a whole translated function, the `@[simp]` ones elsewhere. -/

theorem ok_bind' {α β} (a : α) (f : α → PyM β) : ((Except.ok a : PyM α) >>= f) = f a := id rfl
theorem error_bind' {α β} (e : PyErr) (f : α → PyM β) : ((Except.error e : PyM α) >>= f) = Except.error e := id rfl
theorem throw_bind' {α β} (e : PyErr) (f : α → PyM β) : ((throw e : PyM α) >>= f) = Except.error e := id rfl
theorem pure_eq_ok' {α} (a : α) : (pure a : PyM α) = Except.ok a := id rfl
theorem truthy_bool' (b : Bool) : truthy (.bool b) = b := id rfl
theorem pyUnpack2_tuple' (a b : PVal) : pyUnpack2 (.tuple [a, b]) = .ok (a, b) := id rfl

@[simp] theorem pyUnpack2_tuple (a b : PVal) : pyUnpack2 (.tuple [a, b]) = .ok (a, b) := rfl
@[simp] theorem pyReplace_str (s v : Str) (k : Char) :
    pyReplace (.str s) (.str [k]) (.str v) = .ok (.str (replaceChar k v s)) := rfl
@[simp] theorem pyItems_dict (kvs : List (Str × PVal)) :
    pyItems (.dict kvs) = .ok (.list (kvs.map fun kv => .tuple [.str kv.1, kv.2])) := rfl
@[simp] theorem pyIter_list (xs : List PVal) : pyIter (.list xs) = .ok xs := rfl
@[simp] theorem pyIter_tuple (xs : List PVal) : pyIter (.tuple xs) = .ok xs := rfl
@[simp] theorem truthy_bool (b : Bool) : truthy (.bool b) = b := rfl
/-- `if xs:` / `if not xs:` on a list (not a simp lemma by default: proofs that want it name it) -/
theorem truthy_list (xs : List PVal) : truthy (.list xs) = !xs.isEmpty := rfl
theorem truthy_tuple (xs : List PVal) : truthy (.tuple xs) = !xs.isEmpty := rfl
theorem truthy_str (s : Str) : truthy (.str s) = !s.isEmpty := rfl
@[simp] theorem pyStr_str (s : Str) : pyStr (.str s) = .ok (.str s) := rfl
@[simp] theorem pyStr_html (s : Str) : pyStr (.html s) = .ok (.str s) := rfl
@[simp] theorem mkHTML_str (s : Str) : mkHTML (.str s) = .ok (.html s) := rfl
@[simp] theorem pyAddBase_str (a b : Str) : pyAddBase (.str a) (.str b) = .ok (.str (a ++ b)) := rfl
@[simp] theorem pyGetAttr_html_data (s : Str) : pyGetAttr (.html s) "data" = .ok (.str s) := rfl

/-- the keys of a table are usable as a `re` alternation of literals -/
def keysPlain (t : List (Char × Str)) : Bool := t.all fun kv => !reSpecial kv.1

theorem strsOf_map_str (l : List Str) : strsOf (l.map PVal.str) = .ok l := by
  induction l with
  | nil => rfl
  | cons a t ih => simp [strsOf, ih]

theorem pyJoin_tbl (sep : Str) (t : List (Char × Str)) :
    pyJoin (.str sep) (embTbl t) = .ok (.str (joinStr sep (t.map fun kv => [kv.1]))) := by
  have : (t.map fun kv : Char × Str => ([kv.1], PVal.str kv.2)).map (fun kv => PVal.str kv.1)
      = (t.map fun kv => [kv.1]).map PVal.str := by simp
  simp only [pyJoin, embTbl, pyIter, this, bind, Except.bind, pure, Except.pure, strsOf_map_str]

theorem altChars_join (t : List (Char × Str)) (h : keysPlain t = true) (hne : t ≠ []) :
    altChars (joinStr ['|'] (t.map fun kv => [kv.1])) = some (t.map (·.1)) := by
  induction t with
  | nil => exact absurd rfl hne
  | cons a r ih =>
    have ha : reSpecial a.1 = false := by simp [keysPlain] at h; exact h.1
    cases r with
    | nil => simp [joinStr, altChars, ha]
    | cons b r' =>
      have hr : keysPlain (b :: r') = true := by simp [keysPlain] at h ⊢; exact h.2
      have := ih hr (by simp)
      simp only [List.map_cons, joinStr] at this ⊢
      simp [altChars, ha, this]

theorem reSearch_tbl (t : List (Char × Str)) (h : keysPlain t = true) (s : Str) :
    reSearch (.str (joinStr ['|'] (t.map fun kv => [kv.1]))) (.str s)
      = .ok (.bool (if t = [] then true else needsEscape t s)) := by
  cases t with
  | nil => simp [reSearch, joinStr, pure, Except.pure]
  | cons a r =>
    have hj : (joinStr ['|'] ((a :: r).map fun kv => [kv.1])).isEmpty = false := by
      cases r <;> simp [joinStr]
    have := altChars_join (a :: r) h (by simp)
    simp only [reSearch, hj, this, pure, Except.pure]
    have e : ∀ (l : List (Char × Str)) (c : Char), (l.map (·.1)).contains c = l.any fun kv => kv.1 == c := by
      intro l c; induction l with
      | nil => rfl
      | cons x xs ih =>
        rw [List.map_cons, List.contains_cons, ih, List.any_cons, Bool.beq_comm]
    have e' : (fun c => ((a :: r).map (·.1)).contains c) = fun c => (a :: r).any fun kv => kv.1 == c :=
      funext (e _)
    rw [e']
    simp [needsEscape]

end HtmlVerif.Py
