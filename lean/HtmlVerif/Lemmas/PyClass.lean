/-
`isinstance` (Py/Prim.lean) without evaluating it: a tuple of classes is tested class by class, and the test for a class
outside the few inheritance relations of the fragment is a comparison with the class name of the value.
-/
import HtmlVerif.Py.Prim

namespace HtmlVerif.SrcTie
open HtmlVerif HtmlVerif.Py

theorem isInstance_cons2 (v : PVal) (c c' : String) (cs : List String) :
    isInstance v (c :: c' :: cs) = (isInstance v [c] || isInstance v (c' :: cs)) := by
  cases v <;> simp [isInstance, List.any_cons]

/-- `isinstance(v, c)` for a class `c` that is neither `object` nor a protocol nor a base class of the library's own classes:
    a test on the class of `v` alone, up to the two subclass relations among built-in types (`bool` < `int`,
    `TagAttrDict` < `dict`).  With it values of known class are told apart by one comparison of class names, and `classBases`
    is never evaluated on a name (which is what makes evaluating `isInstance` itself slow to check). -/
theorem isInstance_class (v : PVal) (c : String)
    (hc : ["object", "UserString", "ReprHtml", "MetadataNode", "Tagifiable", "UserList"].contains c = false) :
    isInstance v [c]
      = (c == pyClassOf v || c == "int" && v matches .bool _ || c == "dict" && pyClassOf v == "TagAttrDict") := by
  simp only [List.contains_cons, List.contains_nil, Bool.or_eq_false_iff, Bool.or_false] at hc
  cases v with
  | obj cls fs =>
    have h : (classBases cls).contains c = (c == "dict" && cls == "TagAttrDict") := by
      unfold classBases
      split
      case h_6 h => rw [beq_eq_false_iff_ne.mpr (fun e => h e)]; simp only [List.contains_nil, Bool.and_false]
      all_goals simp only [List.contains_cons, List.contains_nil, hc, Bool.or_false, Bool.beq_eq_decide_eq, String.reduceEq,
        decide_false, decide_true, Bool.and_false, Bool.and_true]
    simp only [isInstance, pyClassOf, List.any_cons, List.any_nil, h, hc, Bool.or_false, Bool.false_and, Bool.and_false]
  | _ =>
    simp only [isInstance, builtinClasses, pyClassOf, List.any_cons, List.any_nil, List.contains_cons, List.contains_nil, hc,
      Bool.or_false, Bool.and_false, Bool.and_true]
    all_goals simp only [Bool.beq_eq_decide_eq, String.reduceEq, decide_false, Bool.and_false, Bool.or_false]

end HtmlVerif.SrcTie
