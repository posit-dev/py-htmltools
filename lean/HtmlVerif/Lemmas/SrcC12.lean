/-
Helper definitions and lemmas of the source tie for C12 / C11 (Props/SrcC12.lean): the embedding of an `HTMLDependency`
(with the run-time facts it records) and of its item dicts into Python values, the primitives of Py/PrimC12.lean on
those shapes, the model's item loops as one generic `mapE`, and the loop rules for "update every item" loops and for
list comprehensions.  Nothing here mentions a regenerated function.
-/
import HtmlVerif.Py.PrimC12
import HtmlVerif.Lemmas.PyLoop
import HtmlVerif.Lemmas.SrcTie
import HtmlVerif.Lemmas.SrcRender
import HtmlVerif.Model.DepTags
import HtmlVerif.Lemmas.Nodes

set_option linter.unusedSimpArgs false

namespace HtmlVerif.SrcTie
open HtmlVerif HtmlVerif.Py

/-- a `dict[str, str]` (script / stylesheet / meta item) -/
def embKVs (kv : KVs) : PVal := .dict (kv.map fun p => (p.1, PVal.str p.2))

def kSubdir : Str := ['s', 'u', 'b', 'd', 'i', 'r']
def kPackage : Str := ['p', 'a', 'c', 'k', 'a', 'g', 'e']
def kSource : Str := ['s', 'o', 'u', 'r', 'c', 'e']

/-- `source=`: None, `{"href": h}`, `{"subdir": dir}` or `{"subdir": dir, "package": pkg}` -/
def embSource : DepSource → PVal
  | .none => .none
  | .href h => .dict [(dtKHref, .str h)]
  | .subdir none dir _ => .dict [(kSubdir, .str dir)]
  | .subdir (some p) dir _ => .dict [(kSubdir, .str dir), (kPackage, .str p)]

/-- the resolved source directory the model carries (`os.path.realpath(subdir)` for a source without a package) -/
def absOf : DepSource → Str
  | .subdir _ _ abs => abs
  | _ => []

def embOptStr : Option Str → PVal
  | none => .none
  | some s => .str s

/-- `self.head`: None or a TagList -/
def embHead (hasHead : Bool) (head : Nodes) : PVal :=
  if hasHead then .obj "TagList" [("data", .list (embNodes head))] else .none

/-- an `HTMLDependency` instance as the three methods see it: its `__dict__`, and the two run-time facts the methods ask
    the operating system / the import system for, recorded under pseudo-attributes: `__realpath__` is what
    `os.path.realpath(source["subdir"])` answers (the model's `abs` for a source without a package), `__package_dir__`
    is what `package_dir(source["package"])` answers (`pdir`) -/
def embDep (d : DepInfo) (hasHead : Bool) (head : Nodes) (pdir : Str) : PVal :=
  .obj "HTMLDependency"
    [("name", .str d.name),
     ("version", .obj "Version" [("__str__", .str d.version), ("rank", .int d.vrank)]),
     ("source", embSource d.source),
     ("script", .list (d.script.map embKVs)),
     ("stylesheet", .list (d.stylesheet.map embKVs)),
     ("meta", .list (d.metas.map embKVs)),
     ("all_files", .bool d.allFiles),
     ("head", embHead hasHead head),
     ("__realpath__", .str (absOf d.source)),
     ("__package_dir__", .str pdir)]

/-- `SourcePathMapping` -/
def embPathMap (m : PathMap) : PVal := .dict [(kSource, .str m.source), (dtKHref, .str m.href)]

def kName : Str := ['n', 'a', 'm', 'e']
def kVersion : Str := ['v', 'e', 'r', 's', 'i', 'o', 'n']
def kScript : Str := ['s', 'c', 'r', 'i', 'p', 't']
def kStylesheet : Str := ['s', 't', 'y', 'l', 'e', 's', 'h', 'e', 'e', 't']
def kMeta : Str := ['m', 'e', 't', 'a']
def kHead : Str := ['h', 'e', 'a', 'd']

/-- the dict `as_dict()` returns: name and version copied from the object, the four computed fields -/
def embDepDict (d : DepInfo) (dd : DepDict) : PVal :=
  .dict [(kName, .str d.name), (kVersion, .str d.version),
         (kScript, .list (dd.script.map embKVs)), (kStylesheet, .list (dd.stylesheet.map embKVs)),
         (kMeta, .list (dd.metas.map embKVs)), (kHead, embOptStr dd.head)]

/-- the key literals of the generated code, folded into the model's names for them -/
theorem lit_href : (['h', 'r', 'e', 'f'] : Str) = dtKHref := rfl
theorem lit_src : (['s', 'r', 'c'] : Str) = dtKSrc := rfl
theorem lit_rel : (['r', 'e', 'l'] : Str) = dtKRel := rfl
theorem lit_stylesheet : (['s', 't', 'y', 'l', 'e', 's', 'h', 'e', 'e', 't'] : Str) = vStylesheet := rfl

theorem getattr_dep (d : DepInfo) (hh : Bool) (head : Nodes) (pdir : Str) :
    pyGetAttr (embDep d hh head pdir) "name" = .ok (.str d.name)
    ∧ pyGetAttr (embDep d hh head pdir) "version" = .ok (.obj "Version" [("__str__", .str d.version), ("rank", .int d.vrank)])
    ∧ pyGetAttr (embDep d hh head pdir) "source" = .ok (embSource d.source)
    ∧ pyGetAttr (embDep d hh head pdir) "script" = .ok (.list (d.script.map embKVs))
    ∧ pyGetAttr (embDep d hh head pdir) "stylesheet" = .ok (.list (d.stylesheet.map embKVs))
    ∧ pyGetAttr (embDep d hh head pdir) "meta" = .ok (.list (d.metas.map embKVs))
    ∧ pyGetAttr (embDep d hh head pdir) "head" = .ok (embHead hh head) := by
  simp [embDep, pyGetAttr, fieldGet?]

theorem getitem_pathMap (m : PathMap) :
    pyGetItem (embPathMap m) (.str ['s', 'o', 'u', 'r', 'c', 'e']) = .ok (.str m.source)
    ∧ pyGetItem (embPathMap m) (.str dtKHref) = .ok (.str m.href) := ⟨rfl, rfl⟩

theorem getitem_depDict (d : DepInfo) (dd : DepDict) :
    pyGetItem (embDepDict d dd) (.str ['m', 'e', 't', 'a']) = .ok (.list (dd.metas.map embKVs))
    ∧ pyGetItem (embDepDict d dd) (.str ['s', 't', 'y', 'l', 'e', 's', 'h', 'e', 'e', 't']) = .ok (.list (dd.stylesheet.map embKVs))
    ∧ pyGetItem (embDepDict d dd) (.str ['s', 'c', 'r', 'i', 'p', 't']) = .ok (.list (dd.script.map embKVs)) :=
  ⟨rfl, rfl, rfl⟩

theorem pyStr_version (v : Str) (r : Int) :
    pyStr (.obj "Version" [("__str__", .str v), ("rank", .int r)]) = .ok (.str v) := by
  simp [pyStr, List.find?]

theorem osRealpath_dep (d : DepInfo) (hh : Bool) (head : Nodes) (pdir p : Str) :
    osRealpath (embDep d hh head pdir) (.str p) = .ok (.str (absOf d.source)) := by
  simp [osRealpath, embDep, fieldGet?]

theorem pyPackageDir_dep (d : DepInfo) (hh : Bool) (head : Nodes) (pdir p : Str) (hp : p ≠ []) :
    pyPackageDir (embDep d hh head pdir) (.str p) = .ok (.str pdir) := by
  have : p.isEmpty = false := by cases p <;> simp_all
  simp [pyPackageDir, embDep, fieldGet?, this]

@[simp] theorem pyPosixJoin_str (a b : Str) : pyPosixJoin (.str a) (.str b) = .ok (.str (posixJoin a b)) := rfl
@[simp] theorem pyQuote_str (s : Str) : pyQuote (.str s) = .ok (.str (quote s)) := rfl
@[simp] theorem pyDeepcopy_list (l : List PVal) : pyDeepcopy (.list l) = .ok (.list l) := rfl
@[simp] theorem pyListAppendC12_list (l : List PVal) (v : PVal) : pyListAppendC12 (.list l) v = .ok (.list (l ++ [v])) := rfl
@[simp] theorem pyWithItems_list (l xs : List PVal) : pyWithItems (.list l) (.list xs) = .ok (.list xs) := rfl

theorem dictGet_embKVs (k : Str) (s : KVs) :
    Py.dictGet? k (s.map fun p => (p.1, PVal.str p.2)) = (alookup k s).map PVal.str :=
  dictGet_map PVal.str k s

theorem dictSet_embKVs (k v : Str) (s : KVs) :
    Py.dictSet k (.str v) (s.map fun p => (p.1, PVal.str p.2)) = (kvSet k v s).map fun p => (p.1, PVal.str p.2) := by
  induction s with
  | nil => rfl
  | cons x t ih =>
    obtain ⟨k', v'⟩ := x
    simp only [List.map_cons, Py.dictSet, kvSet]
    split <;> simp_all

theorem pyGetItem_embKVs (k : Str) (s : KVs) :
    pyGetItem (embKVs s) (.str k) = match alookup k s with
      | some v => .ok (.str v)
      | none => .error .keyError := by
  simp only [pyGetItem, embKVs, dictGet_embKVs]
  cases alookup k s <;> rfl

theorem pyDictUpdate_embKVs1 (s : KVs) (k v : Str) :
    pyDictUpdate (embKVs s) (.dict [(k, .str v)]) = .ok (embKVs (kvSet k v s)) := by
  simp [pyDictUpdate, embKVs, dictSet_embKVs]

theorem pyDictUpdate_embKVs2 (s : KVs) (k v k2 v2 : Str) :
    pyDictUpdate (embKVs s) (.dict [(k, .str v), (k2, .str v2)]) = .ok (embKVs (kvSet k2 v2 (kvSet k v s))) := by
  simp [pyDictUpdate, embKVs, dictSet_embKVs]

def mapE {α β : Type} (step : α → Except Err β) : List α → Except Err (List β)
  | [] => .ok []
  | a :: r =>
    match step a with
    | .error e => .error e
    | .ok b =>
      match mapE step r with
      | .error e => .error e
      | .ok bs => .ok (b :: bs)

def accStep {α β : Type} (step : α → Except Err β) (a : α) (acc : List β) : Except Err (List β) :=
  match step a with
  | .error e => .error e
  | .ok b => .ok (acc ++ [b])

theorem mapE_fold {α β : Type} (step : α → Except Err β) (l : List α) (acc : List β) :
    l.foldlM (fun acc a => accStep step a acc) acc
      = match mapE step l with
        | .error e => .error e
        | .ok bs => .ok (acc ++ bs) := by
  induction l generalizing acc with
  | nil => simp [mapE, pure, Except.pure]
  | cons a t ih =>
    simp only [List.foldlM_cons, mapE, accStep]
    cases step a with
    | error e => rfl
    | ok b =>
      simp only [bind, Except.bind]
      have := ih (acc ++ [b])
      simp only [accStep] at this
      rw [this]
      cases mapE step t <;> simp

/-- one stylesheet item of `as_dict` -/
def sheetStep (base : Str) (s : KVs) : Except Err KVs :=
  match alookup dtKHref s with
  | none => .error .keyError
  | some p => .ok (kvSet dtKRel vStylesheet (kvSet dtKHref (posixJoin base (quote p)) s))

/-- one script item of `as_dict` -/
def scriptStep (base : Str) (s : KVs) : Except Err KVs :=
  match alookup dtKSrc s with
  | none => .error .keyError
  | some p => .ok (kvSet dtKSrc (posixJoin base (quote p)) s)

theorem asDictSheets_mapE (base : Str) (l : List KVs) : asDictSheets base l = mapE (sheetStep base) l := by
  induction l with
  | nil => rfl
  | cons s r ih =>
    simp only [asDictSheets, mapE, sheetStep, ih]
    cases alookup dtKHref s with
    | none => simp
    | some p => simp only []; cases mapE (sheetStep base) r <;> rfl

theorem asDictScripts_mapE (base : Str) (l : List KVs) : asDictScripts base l = mapE (scriptStep base) l := by
  induction l with
  | nil => rfl
  | cons s r ih =>
    simp only [asDictScripts, mapE, scriptStep, ih]
    cases alookup dtKSrc s with
    | none => simp
    | some p => simp only []; cases mapE (scriptStep base) r <;> rfl

theorem mkTags_mapE (cfg : Cfg) (name : Str) (l : List KVs) : mkTags cfg name l = mapE (mkTag cfg name) l := by
  induction l with
  | nil => rfl
  | cons s r ih =>
    simp only [mkTags, mapE, ih]
    cases mkTag cfg name s with
    | error e => simp
    | ok t => simp only []; cases mapE (mkTag cfg name) r <;> rfl

theorem asDict_seq (cfg : Cfg) (d : DepInfo) (hasHead : Bool) (head : Nodes) (lp : Option Str) (iv : Bool) :
    asDict cfg d hasHead head lp iv
      = (mapE (sheetStep (sourcePathMap d lp iv).href) d.stylesheet >>= fun sheets =>
         mapE (scriptStep (sourcePathMap d lp iv).href) d.script >>= fun scripts =>
         (if hasHead then (renderListChecked cfg head 0 eolLF true true).map some else .ok none) >>= fun h =>
         (.ok { script := scripts, stylesheet := sheets, metas := d.metas, head := h } : Except Err DepDict)) := by
  simp only [asDict, asDictSheets_mapE, asDictScripts_mapE]
  cases mapE (sheetStep (sourcePathMap d lp iv).href) d.stylesheet with
  | error e => rfl
  | ok sheets =>
    cases mapE (scriptStep (sourcePathMap d lp iv).href) d.script with
    | error e => rfl
    | ok scripts =>
      cases hasHead
      · rfl
      · simp only [if_true, bind, Except.bind, Except.map]
        cases renderListChecked cfg head 0 eolLF true true <;> rfl

theorem Sim.seq {σ τ β γ ε : Type} {R : σ → β → Prop} {R' : τ → γ → Prop} {emb : ε → PyErr}
    {x : PyM σ} {y : Except ε β} {k : σ → PyM τ} {m : β → Except ε γ}
    (hx : Sim R emb x y) (hk : ∀ s b, R s b → Sim R' emb (k s) (m b)) : Sim R' emb (x >>= k) (y >>= m) := by
  cases y with
  | error e => simp only [Sim] at hx; rw [hx]; exact rfl
  | ok b =>
    obtain ⟨s, hs, hR⟩ := hx
    rw [hs]
    exact hk s b hR

theorem Sim.ok_left {σ τ γ ε : Type} {R' : τ → γ → Prop} {emb : ε → PyErr}
    {x : PyM σ} {k : σ → PyM τ} {y : Except ε γ} (s : σ) (hx : x = .ok s) (hk : Sim R' emb (k s) y) :
    Sim R' emb (x >>= k) y := by
  rw [hx]; exact hk

theorem Sim.of_eq {σ β ε : Type} {R : σ → β → Prop} {emb : ε → PyErr} {s : σ} {b : β} (h : R s b) :
    Sim R emb (.ok s) (.ok b : Except ε β) := ⟨s, rfl, h⟩

theorem Sim.eq_embRes' {β : Type} {f : β → PVal} {x : PyM PVal} {y : Except Err β}
    (h : Sim (fun s b => s = f b) embErr x y) : x = embRes f y := by
  cases y with
  | error e => exact h
  | ok b => obtain ⟨s, hs, rfl⟩ := h; exact hs

/-- a loop that applies `step` to every item and collects the results, whatever its body and its state: `R` relates the
    loop state to the results so far -/
theorem mapE_loop {α β σ : Type} (R : σ → List β → Prop) (ea : α → PVal) (step : α → Except Err β) (items : List α)
    (f : PVal → σ → PyM (ForInStep σ)) (s0 : σ) (h0 : R s0 [])
    (hstep : ∀ a ∈ items, ∀ s acc, R s acc →
      Sim (fun (r : ForInStep σ) (b' : List β) => ∃ s', r = .yield s' ∧ R s' b') embErr (f (ea a) s) (accStep step a acc)) :
    Sim R embErr (forIn (items.map ea) s0 f) (mapE step items) := by
  have sim := forIn_sim R embErr ea items f (fun a acc => accStep step a acc) s0 [] h0 hstep
  rw [mapE_fold] at sim
  cases hm : mapE step items with
  | error e => rw [hm] at sim; exact sim
  | ok bs => rw [hm] at sim; simpa using sim

/-- the loop "for every item: compute the updated item, append it to the accumulator", whatever its body is and whatever
    else its state carries besides the accumulator (its first component) -/
theorem item_loop {α β ρ : Type} (ea : α → PVal) (eb : β → PVal) (step : α → Except Err β) (items : List α) (r0 : ρ)
    (f : PVal → PVal × ρ → PyM (ForInStep (PVal × ρ)))
    (hstep : ∀ a ∈ items, ∀ (acc : List β) (rest : ρ),
      Sim (fun (r : ForInStep (PVal × ρ)) (b' : List β) => ∃ s', r = .yield s' ∧ s'.1 = .list (b'.map eb)) embErr
        (f (ea a) (.list (acc.map eb), rest)) (accStep step a acc)) :
    Sim (fun (s : PVal × ρ) (b : List β) => s.1 = .list (b.map eb)) embErr
      (forIn (items.map ea) (PVal.list [], r0) f) (mapE step items) := by
  refine mapE_loop _ ea step items f _ rfl ?_
  intro a ha ⟨s1, s2⟩ acc hR
  simp only at hR; subst hR
  exact hstep a ha acc s2

/-- a list comprehension `[g(x) for x in items]`, whatever its body -/
theorem comp_loop {α β : Type} (ea : α → PVal) (eb : β → PVal) (step : α → Except Err β) (items : List α)
    (f : PVal → List PVal → PyM (ForInStep (List PVal)))
    (hstep : ∀ a ∈ items, ∀ (acc : List β),
      Sim (fun (r : ForInStep (List PVal)) (b' : List β) => ∃ s', r = .yield s' ∧ s' = b'.map eb) embErr
        (f (ea a) (acc.map eb)) (accStep step a acc)) :
    Sim (fun (s : List PVal) (b : List β) => s = b.map eb) embErr
      (forIn (items.map ea) ([] : List PVal) f) (mapE step items) := by
  refine mapE_loop _ ea step items f _ rfl ?_
  intro a ha s acc hR
  subst hR
  exact hstep a ha acc

theorem ok_bindE {ε α β : Type} (a : α) (f : α → Except ε β) : ((Except.ok a : Except ε α) >>= f) = f a := rfl

/-- the tag list `as_html_tags()` returns -/
def embTagList (ns : Nodes) : PVal := .obj "TagList" [("data", .list (embNodes ns))]

theorem asHtmlTags_seq (cfg : Cfg) (d : DepInfo) (hasHead : Bool) (head : Nodes) (lp : Option Str) (iv : Bool) :
    asHtmlTags cfg d hasHead head lp iv
      = (asDict cfg d hasHead head lp iv >>= fun dd =>
         mapE (mkTag cfg nMeta) dd.metas >>= fun metas =>
         mapE (mkTag cfg nLink) dd.stylesheet >>= fun links =>
         mapE (mkTag cfg nScript) dd.script >>= fun scripts =>
         (.ok (Nodes.ofList (metas ++ links ++ scripts) ++ (if hasHead then head else .nil)) : Except Err Nodes)) := by
  simp only [asHtmlTags, mkTags_mapE]
  cases asDict cfg d hasHead head lp iv with
  | error e => rfl
  | ok dd =>
    simp only [bind, Except.bind]
    cases mapE (mkTag cfg nMeta) dd.metas with
    | error e => rfl
    | ok metas =>
      simp only []
      cases mapE (mkTag cfg nLink) dd.stylesheet with
      | error e => rfl
      | ok links =>
        simp only []
        cases mapE (mkTag cfg nScript) dd.script <;> rfl

/-- the keyword dict of `Tag(name, **m)` for an item dict `m`, as `TagAttrDict.update` receives it -/
def kwOf (m : KVs) : List (Str × AttrArg) := m.map fun kv => (kv.1, AttrArg.str kv.2)

theorem embArgDict_kwOf (m : KVs) : embArgDict (kwOf m) = embKVs m := by
  simp [embArgDict, kwOf, embKVs, List.map_map, Function.comp_def, embArg]

theorem kwOf_isEmpty (m : KVs) : (kwOf m).isEmpty = m.isEmpty := by cases m <;> rfl

/-- the three keyword names that collide with a parameter of `Tag.__init__`, on an item dict: `self` / `_name` are
    found by name, `_add_ws` is found with its (`str`) value -/
theorem reserved_embKVs (s : KVs) :
    (s.any fun kv => reservedKw.contains kv.1)
      = (((s.map fun p => (p.1, PVal.str p.2)).any fun kv =>
            decide (kv.1 = ['s', 'e', 'l', 'f']) || decide (kv.1 = ['_', 'n', 'a', 'm', 'e']))
          || (Py.dictGet? ['_', 'a', 'd', 'd', '_', 'w', 's'] (s.map fun p => (p.1, PVal.str p.2))).isSome) := by
  induction s with
  | nil => rfl
  | cons x t ih =>
    obtain ⟨k, v⟩ := x
    rw [List.any_cons, ih]
    simp only [List.map_cons, List.any_cons, Py.dictGet?]
    generalize ((List.map (fun p : Str × Str => (p.1, PVal.str p.2)) t).any _) = A
    generalize Py.dictGet? ['_', 'a', 'd', 'd', '_', 'w', 's'] (List.map (fun p : Str × Str => (p.1, PVal.str p.2)) t) = B
    by_cases h3 : k = ['_', 'a', 'd', 'd', '_', 'w', 's']
    · subst h3; simp [reservedKw]
    · by_cases h1 : k = ['s', 'e', 'l', 'f'] <;> by_cases h2 : k = ['_', 'n', 'a', 'm', 'e'] <;>
        simp [reservedKw, h1, h2, h3]

theorem dictGet_embKVs_str (k : Str) (s : KVs) :
    (∃ v, Py.dictGet? k (s.map fun p => (p.1, PVal.str p.2)) = some (.str v))
      ∨ Py.dictGet? k (s.map fun p => (p.1, PVal.str p.2)) = none := by
  rw [dictGet_embKVs]
  cases alookup k s with
  | none => exact .inr rfl
  | some v => exact .inl ⟨v, rfl⟩

theorem isPlainTagNode_emb (c : Node) : isPlainTagNodeC12 (embNode c) = true := by
  cases c with
  | tobjL rh c => cases rh <;> rfl
  | tobj1 rh c => cases rh <;> rfl
  | _ => rfl

theorem embNodes_append (a b : Nodes) : embNodes (a ++ b) = embNodes a ++ embNodes b := by
  show embNodes (a.append b) = _
  induction a with
  | nil => rfl
  | cons h t ih => simp [Nodes.append, embNodes, ih]

theorem embNodes_ofList (l : List Node) : embNodes (Nodes.ofList l) = l.map embNode := by
  induction l with
  | nil => rfl
  | cons h t ih => simp [Nodes.ofList, embNodes, ih]

/-- tag nodes are kept by `TagList(...)` -/
theorem tagListItems_nodes (l : List Node) (r : List PVal) :
    tagListItems (l.map embNode ++ r) = (tagListItems r).map (l.map embNode ++ ·) := by
  induction l with
  | nil => cases h : tagListItems r <;> simp [Except.map, h]
  | cons c t ih =>
    simp only [List.map_cons, List.cons_append]
    -- an embedded node is neither `None` nor a `TagList`: the last clause of `tagListItems` applies
    rw [tagListItems.eq_4 _ _ (by cases c <;> simp [embNode]) (by cases c <;> simp [embNode]),
      if_pos (isPlainTagNode_emb c), ih]
    cases tagListItems r <;> rfl

/-- `self.head` at the end of the argument list: None is dropped, a TagList is spliced in -/
theorem tagListItems_head (hh : Bool) (head : Nodes) :
    tagListItems [embHead hh head] = .ok (embNodes (if hh then head else .nil)) := by
  cases hh
  · simp [embHead, tagListItems, embNodes]
  · have : (embNodes head).all isPlainTagNodeC12 = true := by
      rw [embNodes_toList, List.all_map]
      simp [Function.comp_def, isPlainTagNode_emb]
    simp [embHead, tagListItems, fieldGet?, this, bind, Except.bind, pure, Except.pure]

end HtmlVerif.SrcTie
