/-
Clauses of the model of `==` (Spec/Equality.lean) as equations, and that equal child lists have the same length.
-/
import HtmlVerif.Spec.Equality

namespace HtmlVerif

/-! ### the clauses of `==` that compare like with like -/

theorem Node.eqv_tag (n n' : Str) (w w' : Bool) (a a' : Attrs) (k k' : Nodes) :
    (Node.tag n w a k).eqv (.tag n' w' a' k') = (n == n' && w == w' && attrsEqv a a' && k.eqvKids k') := rfl

theorem Node.eqv_dep (d d' : DepInfo) (h h' : Bool) (k k' : Nodes) :
    (Node.dep d h k).eqv (.dep d' h' k') = (depInfoEqv d d' && h == h' && k.eqvKids k') := rfl

theorem Nodes.eqvKids_cons (x y : Node) (t u : Nodes) :
    (Nodes.cons x t).eqvKids (.cons y u) = (x.eqv y && t.eqvKids u) := rfl

theorem Nodes.eqvKids_length : (k k' : Nodes) → k.eqvKids k' = true → k.length = k'.length
  | .nil, .nil, _ => rfl
  | .cons _ t, .cons _ u, h => congrArg (· + 1) (Nodes.eqvKids_length t u (Bool.and_eq_true_iff.mp h).2)
  | .nil, .cons .., h => Bool.noConfusion h
  | .cons .., .nil, h => Bool.noConfusion h

/-! ### every comparison is reflexive on dicts with distinct keys -/

theorem alookup_self_of_nodup {β} (a : List (Str × β)) (h : (a.map (·.1)).Nodup) (kv : Str × β) (hm : kv ∈ a) :
    alookup kv.1 a = some kv.2 := by
  induction a with
  | nil => cases hm
  | cons x r ih =>
    simp only [List.map_cons, List.nodup_cons] at h
    rcases List.mem_cons.mp hm with rfl | hr
    · exact if_pos rfl
    · have hne : x.1 ≠ kv.1 := by
        intro e; exact h.1 (e ▸ List.mem_map_of_mem (f := (·.1)) hr)
      exact (if_neg hne).trans (ih h.2 hr)

theorem attrsEqv_refl (a : Attrs) (h : (a.map (·.1)).Nodup) : attrsEqv a a = true := by
  simp +contextual [attrsEqv, alookup_self_of_nodup a h]

theorem kvDictEqv_refl (a : List (Str × Str)) (h : (a.map (·.1)).Nodup) : kvDictEqv a a = true := by
  simp +contextual [kvDictEqv, alookup_self_of_nodup a h]

theorem kvDictsEqv_refl (ds : List (List (Str × Str))) (h : ∀ d ∈ ds, (d.map (·.1)).Nodup) :
    kvDictsEqv ds ds = true := by
  induction ds with
  | nil => rfl
  | cons d r ih =>
    exact Bool.and_eq_true_iff.mpr
      ⟨kvDictEqv_refl d (h d List.mem_cons_self), ih fun x hx => h x (List.mem_cons_of_mem d hx)⟩

theorem sourceEqv_refl (s : DepSource) : sourceEqv s s = true := by cases s <;> simp [sourceEqv]

theorem depInfoEqv_refl (d : DepInfo) (h : d.wf) : depInfoEqv d d = true := by
  simp [depInfoEqv, sourceEqv_refl, kvDictsEqv_refl _ h.1, kvDictsEqv_refl _ h.2.1, kvDictsEqv_refl _ h.2.2]

end HtmlVerif
