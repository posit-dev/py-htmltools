/-
Helper lemmas for C10: the resolution fold decomposes by name.
-/
import HtmlVerif.Spec.Deps

namespace HtmlVerif

section
variable {κ α : Type} [DecidableEq κ] (gt : α → α → Bool) (name : α → κ)

/-- what the loop leaves under one key: start with the first object of that name, replace on strictly greater -/
def bestOf (v : α) (l : List α) : α := l.foldl (fun b y => if gt y b then y else b) v

@[simp] theorem bestOf_nil (v : α) : bestOf gt v [] = v := rfl

@[simp] theorem bestOf_cons (v y : α) (l : List α) :
    bestOf gt v (y :: l) = bestOf gt (if gt y v then y else v) l := rfl

theorem resolveStep_cons_same (k : κ) (v d : α) (m : List (κ × α)) (h : name d = k) :
    resolveStep gt name ((k, v) :: m) d = (k, if gt d v then d else v) :: m := by
  simp only [resolveStep, amapGet?, amapSet, h, if_true]
  split <;> rfl

theorem resolveStep_cons_other (k : κ) (v d : α) (m : List (κ × α)) (h : name d ≠ k) :
    resolveStep gt name ((k, v) :: m) d = (k, v) :: resolveStep gt name m d := by
  have h' : ¬ k = name d := fun e => h e.symm
  simp only [resolveStep, amapGet?, amapSet, h', if_false]
  cases amapGet? (name d) m with
  | none => rfl
  | some cur => simp only []; split <;> rfl

theorem foldl_resolveStep_cons (k : κ) (ds : List α) : ∀ (v : α) (m : List (κ × α)),
    ds.foldl (resolveStep gt name) ((k, v) :: m)
      = (k, bestOf gt v (ds.filter (fun d => name d = k)))
          :: (ds.filter (fun d => name d ≠ k)).foldl (resolveStep gt name) m := by
  induction ds with
  | nil => intro v m; rfl
  | cons d ds ih =>
    intro v m
    by_cases h : name d = k
    · simp [List.foldl_cons, resolveStep_cons_same gt name k v d m h, ih, h]
    · simp [List.foldl_cons, resolveStep_cons_other gt name k v d m h, ih, h]

theorem resolveStep_nil (d : α) : resolveStep gt name [] d = [(name d, d)] := rfl

/-- recursive description of `_resolve_dependencies` -/
theorem resolveBy_cons (d : α) (ds : List α) :
    resolveBy gt name (d :: ds)
      = bestOf gt d (ds.filter (fun x => name x = name d))
          :: resolveBy gt name (ds.filter (fun x => name x ≠ name d)) := by
  simp [resolveBy, resolveMap, List.foldl_cons, resolveStep_nil, foldl_resolveStep_cons]

@[simp] theorem resolveBy_nil : resolveBy gt name ([] : List α) = [] := rfl

/-- induction along `resolveBy_cons`: from the objects of the other names to the whole list -/
theorem byName_induction {P : List α → Prop} (nil : P [])
    (cons : ∀ d ds, P (ds.filter (fun x => name x ≠ name d)) → P (d :: ds)) : ∀ ds, P ds
  | [] => nil
  | d :: ds => cons d ds (byName_induction nil cons _)
termination_by ds => ds.length
decreasing_by exact Nat.lt_succ_of_le (List.length_filter_le _ _)

theorem bestOf_mem (l : List α) : ∀ (v : α), bestOf gt v l = v ∨ bestOf gt v l ∈ l := by
  induction l with
  | nil => intro v; simp
  | cons y l ih =>
    intro v
    rw [bestOf_cons]
    rcases ih (if gt y v then y else v) with h | h
    · rw [h]; split <;> simp
    · exact .inr (List.mem_cons_of_mem _ h)

theorem name_bestOf_filter (d : α) (ds : List α) :
    name (bestOf gt d (ds.filter (fun x => name x = name d))) = name d := by
  rcases bestOf_mem gt (ds.filter _) d with h | h
  · rw [h]
  · exact of_decide_eq_true (List.mem_filter.mp h).2

theorem StrictWeak.irrefl {gt : α → α → Bool} (hs : StrictWeak gt) (a : α) : gt a a = false :=
  Bool.eq_false_iff.mpr fun h => Bool.eq_false_iff.mp (hs.asymm a a h) h

theorem IsFirstMax.not_gt {gt : α → α → Bool} (hs : StrictWeak gt) {l : List α} {d : α}
    (h : IsFirstMax gt l d) : ∀ y ∈ l, gt y d = false := by
  obtain ⟨pre, post, rfl, hpre, hpost⟩ := h
  exact List.forall_mem_append.mpr
    ⟨fun y hy => hs.asymm _ _ (hpre y hy), List.forall_mem_cons.mpr ⟨hs.irrefl _, hpost⟩⟩

/-- the loop invariant of one key: the kept object is the first maximal one of those seen -/
theorem bestOf_isFirstMax (hs : StrictWeak gt) (l : List α) : ∀ (seen : List α) (b : α),
    IsFirstMax gt seen b → IsFirstMax gt (seen ++ l) (bestOf gt b l) := by
  induction l with
  | nil => intro seen b h; simpa using h
  | cons y l ih =>
    intro seen b h
    rw [bestOf_cons, List.append_cons]
    apply ih
    split
    next hg => exact ⟨seen, [], rfl, fun z hz => hs.gt_of_gt_of_le y b z hg (h.not_gt hs z hz), by simp⟩
    next hg =>
      obtain ⟨pre, post, rfl, hpre, hpost⟩ := h
      exact ⟨pre, post ++ [y], by simp, hpre, List.forall_mem_append.mpr ⟨hpost, by simpa using hg⟩⟩

theorem IsFirstMax.firstMaxBy_eq {gt : α → α → Bool} (hs : StrictWeak gt) {l : List α} {d : α}
    (h : IsFirstMax gt l d) : firstMaxBy gt l = some d := by
  have hmax := h.not_gt hs
  obtain ⟨pre, post, hl, hpre, _⟩ := h
  rw [firstMaxBy, List.find?_eq_some_iff_append]
  refine ⟨by simpa using hmax, pre, post, hl, fun x hx => ?_⟩
  have hd : d ∈ l := by simp [hl]
  simp only [Bool.not_eq_true', List.all_eq_false]
  exact ⟨d, hd, by simp [hpre x hx]⟩

end

section
variable {κ : Type} [DecidableEq κ]

theorem dedupKeepFirst_filter (p : κ → Bool) (l : List κ) :
    dedupKeepFirst (l.filter p) = (dedupKeepFirst l).filter p := by
  induction l with
  | nil => rfl
  | cons a l ih =>
    simp only [dedupKeepFirst, List.filter_cons, List.filter_filter]
    split
    · simp only [dedupKeepFirst, ih, List.filter_filter, Bool.and_comm]
    · rw [ih]
      exact List.filter_congr fun x _ => by by_cases hx : x = a <;> simp_all

theorem mem_dedupKeepFirst (x : κ) (l : List κ) : x ∈ dedupKeepFirst l ↔ x ∈ l := by
  induction l with
  | nil => simp [dedupKeepFirst]
  | cons a l ih =>
    simp only [dedupKeepFirst, List.mem_cons, List.mem_filter, ih]
    by_cases hx : x = a <;> simp [hx]

theorem dedupKeepFirst_nodup (l : List κ) : (dedupKeepFirst l).Nodup := by
  induction l with
  | nil => simp [dedupKeepFirst]
  | cons a l ih =>
    simp only [dedupKeepFirst, List.nodup_cons]
    refine ⟨by simp, ?_⟩
    exact ih.sublist List.filter_sublist

end

end HtmlVerif
