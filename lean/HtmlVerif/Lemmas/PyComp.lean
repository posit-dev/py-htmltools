/-
Loop rules for translated loops that accumulate a list — `result.append(…)` / `result.extend(…)` in a `for`, and list
comprehensions, which the translator emits as such a loop —, stated with the code `k` that follows the loop, so that they
apply to a goal `(forIn … >>= k) = r` by unification: the body is whatever the translator emitted, only its effect per pass
is examined.  The loop state is arbitrary; a relation `R` says which list it holds.
-/
import HtmlVerif.Lemmas.PyLoop

namespace HtmlVerif.Py

theorem app_loop_k {α γ σ ρ : Type} (R : σ → List PVal → Prop) (e : γ → α) (g : γ → List PVal) (l : List γ)
    (f : α → σ → PyM (ForInStep σ))
    (hstep : ∀ c ∈ l, ∀ s b, R s b → ∃ s', f (e c) s = .ok (.yield s') ∧ R s' (b ++ g c))
    (k : σ → PyM ρ) (r : PyM ρ) (init : σ) (acc : List PVal) (h0 : R init acc)
    (hk : ∀ s, R s (acc ++ l.flatMap g) → k s = r) :
    (forIn (l.map e) init f >>= k) = r := by
  induction l generalizing init acc with
  | nil => exact hk init (by simpa using h0)
  | cons a t ih =>
    obtain ⟨s', e1, h1⟩ := hstep a (by simp) init acc h0
    simp only [List.map_cons, List.forIn_cons, e1, ok_bind]
    exact ih (fun c hc => hstep c (by simp [hc])) s' _ h1 (by simpa [List.append_assoc] using hk)

/-- a comprehension `[v(x) for x in xs]` -/
theorem comp_loop_k {γ σ ρ : Type} (get : σ → List PVal) (e : γ → PVal) (v : γ → PVal) (l : List γ)
    (f : PVal → σ → PyM (ForInStep σ))
    (hstep : ∀ c ∈ l, ∀ s, ∃ s', f (e c) s = .ok (.yield s') ∧ get s' = get s ++ [v c])
    (k : σ → PyM ρ) (r : PyM ρ) (init : σ) (hk : ∀ s, get s = get init ++ l.map v → k s = r) :
    (forIn (l.map e) init f >>= k) = r :=
  app_loop_k (fun s b => get s = b) e (fun c => [v c]) l f
    (fun c hc s b hb => by obtain ⟨s', h1, h2⟩ := hstep c hc s; exact ⟨s', h1, by rw [h2, hb]⟩)
    k r init _ rfl (by simpa [← List.map_eq_flatMap] using hk)

/-- a loop whose state stands (`R`) for the results so far, and whose pass on `e c` either adds the result of `m c` to them
    or raises its error, computes `l.mapM m` -/
theorem mapM_loop_k {α γ δ ε σ ρ : Type} (R : σ → List δ → Prop) (e : γ → α) (m : γ → Except ε δ) (emb : ε → PyErr) (l : List γ)
    (f : α → σ → PyM (ForInStep σ))
    (hstep : ∀ c ∈ l, ∀ s b, R s b → match m c with
      | .ok v => ∃ s', f (e c) s = .ok (.yield s') ∧ R s' (b ++ [v])
      | .error er => f (e c) s = .error (emb er))
    (k : σ → PyM ρ) (r : PyM ρ) (init : σ) (acc : List δ) (h0 : R init acc)
    (hk : match l.mapM m with
      | .ok vs => ∀ s, R s (acc ++ vs) → k s = r
      | .error er => r = .error (emb er)) :
    (forIn (l.map e) init f >>= k) = r := by
  induction l generalizing init acc with
  | nil => exact hk init (by simpa using h0)
  | cons a t ih =>
    have h1 := hstep a (by simp) init acc h0
    rw [List.mapM_cons] at hk
    simp only [List.map_cons, List.forIn_cons]
    cases hm : m a with
    | error er => rw [hm] at h1 hk; rw [h1, hk]; rfl
    | ok v =>
      rw [hm] at h1 hk
      obtain ⟨s', e1, e2⟩ := h1
      rw [e1, ok_bind]
      refine ih (fun c hc => hstep c (by simp [hc])) s' (acc ++ [v]) e2 ?_
      cases hmt : t.mapM m with
      | error er => rw [hmt] at hk; exact hk
      | ok vs => rw [hmt] at hk; exact fun s hs => hk s (by simpa using hs)

/-- a comprehension whose element expression may raise -/
theorem comp_loop_mapM_k {γ δ ε ρ : Type} (e : γ → PVal) (m : γ → Except ε δ) (g : δ → PVal) (emb : ε → PyErr) (l : List γ)
    (f : PVal → List PVal → PyM (ForInStep (List PVal)))
    (hstep : ∀ c ∈ l, ∀ s, f (e c) s = match m c with
                                      | .ok v => .ok (.yield (s ++ [g v]))
                                      | .error er => .error (emb er))
    (k : List PVal → PyM ρ) (acc : List PVal) :
    (forIn (l.map e) acc f >>= k)
      = match l.mapM m with
        | .ok vs => k (acc ++ vs.map g)
        | .error er => .error (emb er) := by
  refine mapM_loop_k (fun s b => s = acc ++ b.map g) e m emb l f ?_ k _ acc [] (by simp) ?_
  · intro c hc s b hs
    rw [hstep c hc s, hs]
    cases m c with
    | ok v => exact ⟨_, rfl, by simp⟩
    | error er => rfl
  · cases l.mapM m with
    | ok vs => intro s hs; rw [hs]; simp
    | error er => rfl

theorem pyJoin_strs (sep : Str) (l : List Str) : pyJoin (.str sep) (.list (l.map PVal.str)) = .ok (.str (joinStr sep l)) := by
  simp only [pyJoin, pyIter_list, ok_bind, strsOf_map_str, pure_eq_ok]

theorem mapM_ok_self {α : Type} (c : α → PyM α) (l : List α) (h : ∀ x ∈ l, c x = .ok x) : l.mapM c = .ok l := by
  induction l with
  | nil => rfl
  | cons a t ih =>
    simp only [List.mapM_cons, h a (by simp), ih (fun x hx => h x (by simp [hx]))]
    rfl

/-- `enumerate(xs)` counting from `k`, as the list of pairs a loop visits -/
def pyEnum : Nat → List PVal → List PVal
  | _, [] => []
  | k, x :: r => .tuple [.int (k : Nat), x] :: pyEnum (k + 1) r

theorem pyEnumerate_of_iter (X : PVal) (xs : List PVal) (h : pyIter X = .ok xs) :
    pyEnumerate X = .ok (.list (pyEnum 0 xs)) := by
  have zip : ∀ (xs : List PVal) (k : Nat),
      ((List.range' k xs.length).zip xs).map (fun p => PVal.tuple [PVal.int (p.1 : Nat), p.2]) = pyEnum k xs := by
    intro xs
    induction xs with
    | nil => intro k; rfl
    | cons a r ih =>
      intro k
      simp only [List.length_cons, List.range'_succ, List.zip_cons_cons, List.map_cons, pyEnum, ih (k + 1)]
  simp only [pyEnumerate, h, ok_bind, pure_eq_ok, List.range_eq_range', zip]

/-- `for i, x in enumerate(xs): xs[i] = c(x)` over a snapshot of the pairs; `K` is the code after the loop as a function
    of the list -/
theorem enum_map_loop_k {σ ρ : Type} (get : σ → PVal) (c : PVal → PyM PVal) (f : PVal → σ → PyM (ForInStep σ))
    (hstep : ∀ (pre : List PVal) (x : PVal) (rest : List PVal) (s : σ), get s = .list (pre ++ x :: rest) →
      match c x with
      | .ok y => ∃ s', f (.tuple [.int (pre.length : Nat), x]) s = .ok (.yield s') ∧ get s' = .list (pre ++ y :: rest)
      | .error er => f (.tuple [.int (pre.length : Nat), x]) s = .error er)
    (k : σ → PyM ρ) (K : List PVal → PyM ρ) (hk : ∀ s r, get s = .list r → k s = K r)
    (pre rest : List PVal) (s : σ) (hs : get s = .list (pre ++ rest)) :
    (forIn (pyEnum pre.length rest) s f >>= k) = (rest.mapM c >>= fun r => K (pre ++ r)) := by
  induction rest generalizing pre s with
  | nil => simpa [pyEnum, pure, Except.pure] using hk s pre (by simpa using hs)
  | cons x t ih =>
    have h1 := hstep pre x t s hs
    simp only [pyEnum, List.forIn_cons, List.mapM_cons]
    cases hc : c x with
    | error er => rw [hc] at h1; rw [h1]; rfl
    | ok y =>
      rw [hc] at h1
      obtain ⟨s', e1, e2⟩ := h1
      have := ih (pre ++ [y]) s' (by simpa using e2)
      simp only [List.length_append, List.length_cons, List.length_nil, Nat.zero_add] at this
      simp only [e1, ok_bind, this]
      cases List.mapM c t <;> simp [bind, Except.bind, pure, Except.pure]

end HtmlVerif.Py
