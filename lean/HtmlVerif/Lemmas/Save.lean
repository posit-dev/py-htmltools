/-
Helper lemmas for C12: save_html as a whole.
-/
import HtmlVerif.Lemmas.CopyAll
import HtmlVerif.Lemmas.Guards

namespace HtmlVerif
open FS

theorem apart_of_ne_last (D : Path) {x y : Bytes} (h : x ≠ y) : Apart (D ++ [x]) (D ++ [y]) :=
  ⟨fun hp => h (snoc_prefix_cons.mp hp), fun hp => h (snoc_prefix_cons.mp hp).symm⟩

theorem srcDir_subdir {d : DepInfo} {pkg : Option Str} {dir abs : Str} (hs : d.source = .subdir pkg dir abs) :
    srcDir d = pathResolve abs := by simp [srcDir, hs]

theorem saveHtml_of_copyAll_ok {render : Option Str → Bool → FsRendered} {file fileAbs : Str} {libdir : Option Str}
    {iv : Bool} {fs fs1 : FS}
    (hc : copyAll (render libdir iv).deps (destDir fileAbs libdir) iv fs = (fs1, .ok ()))
    (hd : fs1.isDir (pathResolve fileAbs) = false) (hp : fs1.fileOnPath (pathResolve fileAbs).dropLast = false) :
    saveHtml render file fileAbs libdir iv fs
      = (fs1.write (pathResolve fileAbs) (utf8 (render libdir iv).html), .ok file) := by
  simp [saveHtml, hc, hd, hp]

theorem saveHtml_of_copyAll_error {render : Option Str → Bool → FsRendered} {file fileAbs : Str}
    {libdir : Option Str} {iv : Bool} {fs fs1 : FS} {e : Err}
    (hc : copyAll (render libdir iv).deps (destDir fileAbs libdir) iv fs = (fs1, .error e)) :
    saveHtml render file fileAbs libdir iv fs = (fs1, .error e) := by
  simp [saveHtml, hc]

/-- **`save_html` over the abstract file system, for any rendering.**  Let the directory-sourced dependencies of the
    rendering each be ready to be copied, their target directories apart from one another, from every source and from
    the HTML file, and the file creatable.  Then `save_html` succeeds and returns `file`; the file holds the rendering;
    every target directory holds exactly the wanted files, byte-identical to their sources (stale content gone);
    everything else is unchanged. -/
theorem saveHtml_spec (render : Option Str → Bool → FsRendered) (file fileAbs : Str) (libdir : Option Str)
    (iv : Bool) (fs : FS) {deps : List DepInfo} (hdeps : (render libdir iv).deps = deps)
    (hready : ∀ d ∈ deps, isLocal d = true → CopyReady d (destDir fileAbs libdir) iv fs)
    (hTT : deps.Pairwise fun a b => isLocal a = true → isLocal b = true →
      Apart (tgtDir a (destDir fileAbs libdir) iv) (tgtDir b (destDir fileAbs libdir) iv))
    (hST : ∀ a ∈ deps, ∀ b ∈ deps, isLocal a = true → isLocal b = true →
      Apart (srcDir a) (tgtDir b (destDir fileAbs libdir) iv))
    (hF : ∀ d ∈ deps, isLocal d = true → Apart (pathResolve fileAbs) (tgtDir d (destDir fileAbs libdir) iv))
    (hFd : fs.isDir (pathResolve fileAbs) = false) (hFp : fs.fileOnPath (pathResolve fileAbs).dropLast = false) :
    ∃ fs', saveHtml render file fileAbs libdir iv fs = (fs', .ok file)
      ∧ fs'.read (pathResolve fileAbs) = some (utf8 (render libdir iv).html)
      ∧ (∀ d ∈ deps, isLocal d = true → ∀ r, fs'.read (tgtDir d (destDir fileAbs libdir) iv ++ r)
          = if wantedB d r then fs.read (srcDir d ++ r) else none)
      ∧ (∀ q, q ≠ pathResolve fileAbs →
          (∀ d ∈ deps, isLocal d = true → ¬ tgtDir d (destDir fileAbs libdir) iv <+: q) → fs'.read q = fs.read q) := by
  obtain ⟨fs1, hc, hframe, hspec⟩ := copyAll_spec (destDir fileAbs libdir) iv deps fs hready hTT hST
  rw [← hdeps] at hc
  -- the copies change nothing at or below the HTML file, nor on the way down to it
  have hbelow : ∀ r, fs1.read (pathResolve fileAbs ++ r) = fs.read (pathResolve fileAbs ++ r) := fun r =>
    hframe _ fun d hd hld => not_prefix_of_apart (hF d hd hld) r
  have hway : ∀ k, fs1.read ((pathResolve fileAbs).dropLast.take k) = fs.read ((pathResolve fileAbs).dropLast.take k) :=
    fun k => hframe _ fun d hd hld hx => (hF d hd hld).2
      (hx.trans ((List.take_prefix k _).trans (List.dropLast_prefix _)))
  refine ⟨_, saveHtml_of_copyAll_ok hc ((isDir_congr hbelow).trans hFd) ((fileOnPath_congr hway).trans hFp),
    by simp [read_write], fun d hd hld r => ?_, fun q hq hout => ?_⟩
  · rw [read_write, if_neg, hspec d hd hld r]
    exact fun e => (hF d hd hld).2 (e ▸ List.prefix_append _ r)
  · rw [read_write, if_neg hq, hframe q hout]

end HtmlVerif
