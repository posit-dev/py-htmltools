/-
Helper lemmas for the consolidate_attrs round trip (C15): a stored attribute dict, handed back as a
positional dict argument, reproduces itself.
-/
import HtmlVerif.Lemmas.AttrMerge
import HtmlVerif.Model.Consolidate

namespace HtmlVerif

theorem groupVals_of_not_mem (k : Str) (r : List (Str × AttrVal)) (h : k ∉ keysOf r) :
    groupVals k r = [] := by
  rw [groupVals, List.filterMap_eq_nil_iff]
  exact fun kv hkv => if_neg fun (e : kv.1 = k) => h (e ▸ List.mem_map_of_mem hkv)

theorem mergeSpecN_of_nodup (cfg : Cfg) (a : Attrs) (h : (keysOf a).Nodup) : mergeSpecN cfg a = a := by
  induction a with
  | nil => simp [mergeSpecN]
  | cons hd t ih =>
    obtain ⟨k, v⟩ := hd
    rw [keysOf_cons, List.nodup_cons] at h
    rw [mergeSpecN, groupVals_of_not_mem k t h.1, withoutKey_of_not_mem k t h.1, ih h.2]
    rfl

theorem normPairs_cons (k : Str) (x : AttrArg) (r : List (Str × AttrArg)) :
    normPairs ((k, x) :: r) =
      match normValSpec x with
      | none => normPairs r
      | some v => (normNameSpec k, v) :: normPairs r := by
  simp only [normPairs, List.filterMap_cons]
  cases normValSpec x <;> rfl

theorem nodup_keysOf_mergeSpec (cfg : Cfg) (pairs : List (Str × AttrArg)) :
    (keysOf (mergeSpec cfg pairs)).Nodup := nodup_keysOf_mergeSpecN _ _

theorem normPairs_asDictArg (a : Attrs) (h : ∀ k ∈ keysOf a, normNameSpec k = k) :
    normPairs (asDictArg a) = a := by
  induction a with
  | nil => rfl
  | cons hd t ih =>
    obtain ⟨k, v⟩ := hd
    rw [keysOf_cons, List.forall_mem_cons] at h
    show normPairs ((k, _) :: asDictArg t) = _
    rw [normPairs_cons, ih h.2]
    cases v <;> simp [normValSpec, h.1]

theorem asDictArg_not_bad (a : Attrs) : ∀ kv ∈ asDictArg a, kv.2 ≠ .bad := by
  intro kv hkv
  simp only [asDictArg, List.mem_map] at hkv
  obtain ⟨x, _, rfl⟩ := hkv
  cases x.2 <;> simp

theorem normNameSpec_keys_mergeSpec (cfg : Cfg) (pairs : List (Str × AttrArg)) :
    ∀ k ∈ keysOf (mergeSpec cfg pairs), normNameSpec k = k := by
  intro k hk
  rw [mergeSpec, mem_keysOf_mergeSpecN] at hk
  simp only [normPairs, List.mem_map, List.mem_filterMap, Option.map_eq_some_iff] at hk
  obtain ⟨x, ⟨kv, _, v, _, rfl⟩, rfl⟩ := hk
  rw [← normAttrName_eq_spec, ← normAttrName_eq_spec, normAttrName_idem]

theorem tagInitAttrs_flatten (dicts : List (List (Str × AttrArg))) (kw : List (Str × AttrArg)) :
    (if kw.isEmpty then dicts else dicts ++ [kw]).flatten = dicts.flatten ++ kw := by
  cases kw <;> simp

theorem nodup_attrsUpdate (cfg : Cfg) (cur new : Attrs) (args : List (List (Str × AttrArg)))
    (hwf : (keysOf cur).Nodup) (h : attrsUpdate cfg cur args = .ok new) : (keysOf new).Nodup :=
  (attrsUpdate_ok_inv cfg cur new args h).1 ▸ nodup_dictUpdate cur _ hwf

theorem attrsUpdate_single (cfg : Cfg) (cur : Attrs) (k : Str) (v : AttrArg) :
    attrsUpdate cfg cur [[(k, v)]] = attrsSetItem cur k v := by
  cases v <;> rfl

theorem tagInitAttrs_eq (cfg : Cfg) (dicts : List (List (Str × AttrArg))) (kw : List (Str × AttrArg))
    (hok : ∀ kv ∈ dicts.flatten ++ kw, kv.2 ≠ .bad) :
    tagInitAttrs cfg dicts kw = .ok (mergeSpec cfg (dicts.flatten ++ kw)) := by
  rw [tagInitAttrs, attrsUpdate_eq cfg [] _ (by rw [tagInitAttrs_flatten]; exact hok),
    tagInitAttrs_flatten, dictUpdate_nil_left _ (nodup_keysOf_mergeSpec _ _)]

theorem tagInitAttrs_ok_inv (cfg : Cfg) (dicts : List (List (Str × AttrArg))) (kw : List (Str × AttrArg))
    (a : Attrs) (h : tagInitAttrs cfg dicts kw = .ok a) :
    a = mergeSpec cfg (dicts.flatten ++ kw) ∧ ∀ kv ∈ dicts.flatten ++ kw, kv.2 ≠ .bad := by
  have := attrsUpdate_ok_inv cfg [] a _ h
  rwa [tagInitAttrs_flatten, dictUpdate_nil_left _ (nodup_keysOf_mergeSpec _ _)] at this

theorem tagInitAttrs_asDictArg (cfg : Cfg) (a : Attrs) (hn : (keysOf a).Nodup)
    (hk : ∀ k ∈ keysOf a, normNameSpec k = k) : tagInitAttrs cfg [asDictArg a] [] = .ok a := by
  rw [tagInitAttrs_eq cfg _ _ (by simpa using asDictArg_not_bad a)]
  simp only [List.flatten_cons, List.flatten_nil, List.append_nil]
  rw [mergeSpec, normPairs_asDictArg a hk, mergeSpecN_of_nodup cfg a hn]

theorem dictsOf_dict_children {α} (d : List (Str × AttrArg)) (cs : List α) :
    dictsOf (TagArg.dict d :: cs.map TagArg.child) = [d] := by
  induction cs with
  | nil => rfl
  | cons c t ih => exact ih

theorem kidsOf_dict_children {α} (d : List (Str × AttrArg)) (cs : List α) :
    kidsOf (TagArg.dict d :: cs.map TagArg.child) = cs := by
  induction cs with
  | nil => rfl
  | cons c t ih => exact congrArg (c :: ·) ih

end HtmlVerif
