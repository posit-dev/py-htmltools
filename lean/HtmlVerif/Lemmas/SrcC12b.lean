/-
Definitions and lemmas for the source tie of the file-system half of C12 (Props/SrcC12b.lean): the state monad `PyFSC12b`
of Py/PrimC12b.lean and loop rules for it, the model's `copyTo` / `copyAll` as folds of the steps the source takes, the
embedding of a rendering, of a document and of the receivers of `save_html`, the primitives on the embedded shapes.
Nothing here mentions a regenerated function.
-/
import HtmlVerif.Py.PrimC12b
import HtmlVerif.Lemmas.SrcC12
import HtmlVerif.Lemmas.CopyTo
import HtmlVerif.Model.SaveDoc

set_option linter.unusedSimpArgs false
set_option linter.unusedVariables false

namespace HtmlVerif.Py
open HtmlVerif

/-! ### the monad `PyFSC12b`, without unfolding `bind` under binders -/

instance : LawfulMonad PyFSC12b := LawfulMonad.mk' PyFSC12b
  (id_map := by
    intro α x; funext S
    show PyFSC12b.bind x (fun a => PyFSC12b.pure a) S = x S
    unfold PyFSC12b.bind PyFSC12b.pure
    rcases h : x S with ⟨r, S'⟩
    cases r <;> rfl)
  (pure_bind := by intro α β a f; rfl)
  (bind_assoc := by
    intro α β γ x f g; funext S
    show PyFSC12b.bind (PyFSC12b.bind x f) g S = PyFSC12b.bind x (fun a => PyFSC12b.bind (f a) g) S
    unfold PyFSC12b.bind
    rcases h : x S with ⟨r, S'⟩
    cases r <;> rfl)

theorem PyFSC12b.run_pure {α} (a : α) (S : SysC12b) : (pure a : PyFSC12b α) S = (.ok a, S) := rfl

theorem PyFSC12b.run_bind {α β} (x : PyFSC12b α) (f : α → PyFSC12b β) (S : SysC12b) :
    (x >>= f) S = match x S with
      | (.ok a, S') => f a S'
      | (.error e, S') => (.error e, S') := rfl

theorem PyFSC12b.run_bind_ok {α β} {x : PyFSC12b α} {f : α → PyFSC12b β} {S S' : SysC12b} {a : α}
    (h : x S = (.ok a, S')) : (x >>= f) S = f a S' := by
  rw [PyFSC12b.run_bind, h]

theorem PyFSC12b.run_bind_error {α β} {x : PyFSC12b α} {f : α → PyFSC12b β} {S S' : SysC12b} {e : PyErr}
    (h : x S = (.error e, S')) : (x >>= f) S = (.error e, S') := by
  rw [PyFSC12b.run_bind, h]

theorem PyFSC12b.run_throw {α} (e : PyErr) (S : SysC12b) : (throw e : PyFSC12b α) S = (.error e, S) := rfl

theorem PyFSC12b.run_lift {α} (x : PyM α) (S : SysC12b) : (liftM x : PyFSC12b α) S = (x, S) := rfl

@[simp] theorem PyFSC12b.lift_ok {α} (a : α) : (liftM (Except.ok a : PyM α) : PyFSC12b α) = pure a := rfl

@[simp] theorem PyFSC12b.lift_pure {α} (a : α) : (liftM (pure a : PyM α) : PyFSC12b α) = pure a := rfl

@[simp] theorem PyFSC12b.lift_error {α} (e : PyErr) : (liftM (Except.error e : PyM α) : PyFSC12b α) = throw e := rfl

@[simp] theorem PyFSC12b.throw_bind {α β} (e : PyErr) (f : α → PyFSC12b β) :
    ((throw e : PyFSC12b α) >>= f) = throw e := rfl

/-- rule for a list comprehension `[g(x) for x in items]` whose passes leave the state alone, whatever its body; `k`: what
    comes after it -/
theorem comp_loop_kC12b {α β γ : Type} (ea : α → PVal) (eb : β → PVal) (step : α → Except Err β) (items : List α)
    (f : PVal → List PVal → PyFSC12b (ForInStep (List PVal))) (S : SysC12b)
    (k : List PVal → PyFSC12b γ) (R : Except PyErr γ × SysC12b) (acc : List β)
    (hstep : ∀ a ∈ items, ∀ (acc : List β),
      f (ea a) (acc.map eb) S = match SrcTie.accStep step a acc with
        | .ok acc' => (.ok (.yield (acc'.map eb)), S)
        | .error e => (.error (SrcTie.embErr e), S))
    (hk : match SrcTie.mapE step items with
      | .ok bs => k ((acc ++ bs).map eb) S = R
      | .error e => R = (.error (SrcTie.embErr e), S)) :
    (forIn (items.map ea) (acc.map eb) f >>= k) S = R := by
  induction items generalizing acc with
  | nil => simpa [SrcTie.mapE] using hk
  | cons a t ih =>
    have h1 := hstep a (by simp) acc
    simp only [List.map_cons, List.forIn_cons, bind_assoc, SrcTie.mapE, SrcTie.accStep] at h1 hk ⊢
    cases hsa : step a with
    | error e => rw [hsa] at h1 hk; rw [PyFSC12b.run_bind_error h1, hk]
    | ok b =>
      rw [hsa] at h1 hk
      rw [PyFSC12b.run_bind_ok h1]
      refine ih (acc ++ [b]) (fun c hc => hstep c (by simp [hc])) ?_
      cases hm : SrcTie.mapE step t <;> simpa [hm] using hk

def foldFSC12b {γ μ ε : Type} (step : γ → μ → μ × Except ε Unit) : List γ → μ → μ × Except ε Unit
  | [], m => (m, .ok ())
  | a :: r, m =>
    match step a m with
    | (m', .ok _) => foldFSC12b step r m'
    | (m', .error e) => (m', .error e)

theorem foldFS_checkC12b {γ μ ε : Type} (P : γ → μ → Bool) (e : ε) (l : List γ) (m : μ) :
    foldFSC12b (fun a m => (m, if P a m then .ok () else .error e)) l m
      = (m, if l.all (P · m) then .ok () else .error e) := by
  induction l with
  | nil => rfl
  | cons a t ih => cases h : P a m <;> simp [foldFSC12b, h, ih]

/-- rule for a loop whose every pass does, on the file system, what `step` does for the item, whatever its body and its
    local variables (`σ`) -/
theorem fold_loop_kC12b {σ γ δ ε : Type} (emb : δ → PVal) (ee : ε → PyErr) (items : List δ)
    (step : δ → FS → FS × Except ε Unit) (f : PVal → σ → PyFSC12b (ForInStep σ)) (s0 : σ) (S : SysC12b) (fs0 : FS)
    (k : σ → PyFSC12b γ) (R : Except PyErr γ × SysC12b)
    (hstep : ∀ a ∈ items, ∀ s fs, match step a fs with
      | (fs', .ok _) => ∃ s', f (emb a) s { S with fs := fs } = (.ok (.yield s'), { S with fs := fs' })
      | (fs', .error e) => f (emb a) s { S with fs := fs } = (.error (ee e), { S with fs := fs' }))
    (hk : match foldFSC12b step items fs0 with
      | (fs', .ok _) => ∀ s', k s' { S with fs := fs' } = R
      | (fs', .error e) => R = (.error (ee e), { S with fs := fs' })) :
    (forIn (items.map emb) s0 f >>= k) { S with fs := fs0 } = R := by
  induction items generalizing s0 fs0 with
  | nil => exact hk s0
  | cons a t ih =>
    have h1 := hstep a (by simp) s0 fs0
    simp only [List.map_cons, List.forIn_cons, bind_assoc]
    simp only [foldFSC12b] at hk
    generalize step a fs0 = p at h1 hk
    obtain ⟨fs1, r⟩ := p
    cases r with
    | error e => rw [PyFSC12b.run_bind_error h1, hk]
    | ok u =>
      obtain ⟨s', h1⟩ := h1
      rw [PyFSC12b.run_bind_ok h1]
      exact ih s' fs1 (fun c hc => hstep c (by simp [hc])) hk

@[simp] theorem fspath_strC12b (s : Str) : fspathC12b (.str s) = .ok s := rfl
@[simp] theorem fspath_pathC12b (s : Str) : fspathC12b (pathObjC12b s) = .ok s := rfl
@[simp] theorem fdOrPath_strC12b (s : Str) : fdOrPathC12b (.str s) = .ok s := rfl
@[simp] theorem fdOrPath_pathC12b (s : Str) : fdOrPathC12b (pathObjC12b s) = .ok s := rfl
@[simp] theorem mkPath_strC12b (s : Str) : mkPathC12b (.str s) = .ok (pathObjC12b s) := rfl

theorem osPathJoin_okC12b {a b : PVal} {x y : Str} (ha : fspathC12b a = .ok x) (hb : fspathC12b b = .ok y) :
    osPathJoinC12b a b = .ok (.str (posixJoin x y)) := by
  simp [osPathJoinC12b, ha, hb, bind, Except.bind, pure, Except.pure]

@[simp] theorem osPathJoin_ssC12b (x y : Str) : osPathJoinC12b (.str x) (.str y) = .ok (.str (posixJoin x y)) := rfl
@[simp] theorem osPathJoin_psC12b (x y : Str) : osPathJoinC12b (pathObjC12b x) (.str y) = .ok (.str (posixJoin x y)) := rfl
@[simp] theorem osPathDirname_strC12b (x : Str) : osPathDirnameC12b (.str x) = .ok (.str (dirname x)) := rfl
@[simp] theorem pyStr_pathC12b (s : Str) : pyStr (pathObjC12b s) = .ok (.str s) := rfl

/-- the state-touching primitives in "bind, run" form: what the rest of the program is run on -/
theorem exists_bind_strC12b {γ} (s : Str) (k : PVal → PyFSC12b γ) (S : SysC12b) :
    (osPathExistsC12b (.str s) >>= k) S = k (.bool (S.fs.exists (pathResolve s))) S := rfl
theorem exists_bind_pathC12b {γ} (s : Str) (k : PVal → PyFSC12b γ) (S : SysC12b) :
    (osPathExistsC12b (pathObjC12b s) >>= k) S = k (.bool (S.fs.exists (pathResolve s))) S := rfl
theorem isfile_bind_strC12b {γ} (s : Str) (k : PVal → PyFSC12b γ) (S : SysC12b) :
    (osPathIsfileC12b (.str s) >>= k) S = k (.bool (S.fs.isFile (pathResolve s))) S := rfl
theorem isdir_bind_strC12b {γ} (s : Str) (k : PVal → PyFSC12b γ) (S : SysC12b) :
    (osPathIsdirC12b (.str s) >>= k) S = k (.bool (S.fs.isDir (pathResolve s))) S := rfl
theorem resolve_bind_pathC12b {γ} (s : Str) (k : PVal → PyFSC12b γ) (S : SysC12b) :
    (pathResolveMethC12b (pathObjC12b s) >>= k) S = k (pathObjC12b (S.resolve s)) S := rfl
theorem makedirs_bind_strC12b {γ} (s : Str) (k : PVal → PyFSC12b γ) (S : SysC12b) :
    (osMakedirsC12b (.str s) >>= k) S = k .none S := rfl
theorem mkdir_bind_pathC12b {γ} (s : Str) (k : PVal → PyFSC12b γ) (S : SysC12b) :
    (pathMkdirPC12b (pathObjC12b s) >>= k) S
      = if S.fs.fileOnPath (pathResolve s) = true then (.error .exception, S) else k .none S := by
  show PyFSC12b.bind _ _ _ = _
  unfold PyFSC12b.bind pathMkdirPC12b pathObjC12b
  by_cases h : S.fs.fileOnPath (pathResolve s) = true <;> simp [h]
theorem rmtree_bind_pathC12b {γ} (s : Str) (k : PVal → PyFSC12b γ) (S : SysC12b) :
    (shutilRmtreeC12b (pathObjC12b s) >>= k) S
      = if (!S.fs.exists (pathResolve s) || S.fs.fileOnPath (pathResolve s)) = true then (.error .exception, S)
        else k .none { S with fs := S.fs.removeTree (pathResolve s) } := by
  show PyFSC12b.bind _ _ _ = _
  unfold PyFSC12b.bind shutilRmtreeC12b
  simp only [fspath_pathC12b]
  by_cases h : (!S.fs.exists (pathResolve s) || S.fs.fileOnPath (pathResolve s)) = true <;> simp [h]
theorem copy2_bind_strC12b {γ} (x y : Str) (k : PVal → PyFSC12b γ) (S : SysC12b) :
    (shutilCopy2C12b (.str x) (.str y) >>= k) S
      = match S.fs.read (pathResolve x) with
        | some c => k (.str y) { S with fs := S.fs.write (pathResolve y) c }
        | none => (.error .exception, S) := by
  show PyFSC12b.bind _ _ _ = _
  unfold PyFSC12b.bind shutilCopy2C12b
  simp only [fdOrPath_strC12b]
  cases S.fs.read (pathResolve x) <;> rfl
theorem copytree_bind_strC12b {γ} (x y : Str) (k : PVal → PyFSC12b γ) (S : SysC12b) :
    (shutilCopytreeC12b (.str x) (.str y) >>= k) S
      = if S.fs.isDir (pathResolve x) = true then
          if S.fs.exists (pathResolve y) = true then (.error .exception, S)
          else k (.str y) { S with fs := S.fs.copyTree (pathResolve x) (pathResolve y) }
        else (.error .exception, S) := by
  show PyFSC12b.bind _ _ _ = _
  unfold PyFSC12b.bind shutilCopytreeC12b
  simp only [fdOrPath_strC12b]
  by_cases h1 : S.fs.isDir (pathResolve x) = true <;> by_cases h2 : S.fs.exists (pathResolve y) = true <;> simp [h1, h2]

end HtmlVerif.Py

namespace HtmlVerif.SrcTie
open HtmlVerif HtmlVerif.Py

theorem removeTree_not_existsC12b (fs : FS) (t : Path) (h : fs.exists t = false) : fs.removeTree t = fs := by
  obtain ⟨hf, hd⟩ : fs.isFile t = false ∧ fs.isDir t = false := by simpa [FS.exists] using h
  have key : ∀ e ∈ fs.files, (!t.isPrefixOf e.1) = true := by
    intro e he
    rw [Bool.not_eq_true', ← Bool.not_eq_true]
    intro hp
    -- an entry at or below `t`: then `t` is that file, or a directory
    have hsome : (fs.read (t ++ e.1.drop t.length)).isSome = true := by
      rw [prefix_append_drop (isPrefixOf_iff.mp hp)]
      exact (FS.lookupP_isSome_iff e.1 fs.files).mpr ⟨e, he, rfl⟩
    by_cases hr : e.1.drop t.length = []
    · rw [hr, List.append_nil] at hsome
      rw [FS.isFile, hsome] at hf; cases hf
    · rw [(FS.isDir_iff fs t).mpr (.inr ⟨_, hr, hsome⟩)] at hd; cases hd
  cases fs with
  | mk files => exact congrArg FS.mk (List.filter_eq_self.mpr key)

theorem fileOnPath_removeTreeC12b (fs : FS) (t : Path) (h : fs.fileOnPath t = false) :
    (fs.removeTree t).fileOnPath t = false := by
  rw [FS.fileOnPath_false_iff] at h ⊢
  intro k hk
  rw [FS.read_removeTree]
  split
  · rfl
  · exact h k hk

/-- `if os.path.exists(t): shutil.rmtree(t)` and then `k`, when no regular file is on the way to `t`: `k` runs without the
    tree, whether or not it was there -/
theorem rmtree_if_exists_bindC12b {γ} (s : Str) (k : PyFSC12b γ) (S : SysC12b)
    (hfp : S.fs.fileOnPath (pathResolve s) = false) :
    (bif S.fs.exists (pathResolve s) then (shutilRmtreeC12b (pathObjC12b s) >>= fun _ => k) else k) S
      = k { S with fs := S.fs.removeTree (pathResolve s) } := by
  cases hex : S.fs.exists (pathResolve s) with
  | false => rw [removeTree_not_existsC12b _ _ hex]; rfl
  | true => simp only [cond_true, rmtree_bind_pathC12b, hex, hfp, Bool.not_true, Bool.or_false, Bool.false_eq_true, if_false]

theorem copyLoop_foldC12b (items : List (Path × Path)) (fs : FS) : copyLoop items fs = foldFSC12b copyOne items fs := by
  induction items generalizing fs with
  | nil => rfl
  | cons a t ih =>
    simp only [copyLoop, foldFSC12b, ih]
    rcases copyOne a fs with ⟨fs', _ | _⟩ <;> rfl

theorem copyAll_foldC12b (ds : List DepInfo) (dest : Str) (iv : Bool) (fs : FS) :
    copyAll ds dest iv fs = foldFSC12b (fun d => copyTo d dest iv) ds fs := by
  induction ds generalizing fs with
  | nil => rfl
  | cons a t ih =>
    simp only [copyAll, foldFSC12b, ih]
    rcases copyTo a dest iv fs with ⟨fs', _ | _⟩ <;> rfl

theorem foldFS_mapC12b {γ δ μ ε : Type} (g : δ → γ) (step : γ → μ → μ × Except ε Unit) (l : List δ) (m : μ) :
    foldFSC12b step (l.map g) m = foldFSC12b (fun a => step (g a)) l m := by
  induction l generalizing m with
  | nil => rfl
  | cons a t ih => simp only [List.map_cons, foldFSC12b, ih]

/-- where a file named `f` comes from and where it goes (`os.path.join(paths["source"], f)`, `os.path.join(target_dir, f)`) -/
def itemOfC12b (source targetDir : Str) (f : Str) : Path × Path :=
  (pathResolve (posixJoin source f), pathResolve (posixJoin targetDir f))

/-- what `copy_to` does once the names of the files are known -/
def copyTailC12b (source targetDir : Str) (fl : List Str) (fs : FS) : FS × Except Err Unit :=
  if fl.all (fun f => fs.exists (pathResolve (posixJoin source f))) then
    if fs.fileOnPath (pathResolve targetDir) then (fs, .error .exception)
    else foldFSC12b (fun f => copyOne (itemOfC12b source targetDir f)) fl (fs.removeTree (pathResolve targetDir))
  else (fs, .error .exception)

/-- `r`: the names of the files to copy, or the failure to list them; `src`: the source directory, `tgt`: the target
    directory -/
theorem copyTo_filesC12b (d : DepInfo) (path : Str) (iv : Bool) (fs : FS) (src tgt : Str)
    (hs : (sourcePathMap d none iv).source = src) (ht : posixJoin path (sourcePathMap d none iv).href = tgt)
    (r : Except Err (List Str)) (hne : src.isEmpty = false)
    (hitems : copyItems d src tgt fs = r.map (List.map (itemOfC12b src tgt))) :
    copyTo d path iv fs = match (generalizing := false) r with
      | .error e => (fs, .error e)
      | .ok fl => copyTailC12b src tgt fl fs := by
  subst hs ht
  cases r with
  | error e => simp only [copyTo, hne, hitems, Except.map, Bool.false_eq_true, if_false]
  | ok fl =>
    simp only [copyTo, hne, hitems, Except.map, copyTailC12b, copyLoop_foldC12b, foldFS_mapC12b, List.all_map,
      Function.comp_def, itemOfC12b, Bool.false_eq_true, if_false]
    generalize fl.all _ = b
    cases b <;> rfl

theorem target_resolveC12b (t t' f : Str) (h : pathResolve t' = pathResolve t) :
    pathResolve (posixJoin t' f) = pathResolve (posixJoin t f) := by
  by_cases hf : f.head? = some '/'
  · simp [posixJoin, hf]
  · rw [resolve_posixJoin t' f hf, resolve_posixJoin t f hf, h]

/-- outcome and state of a state-passing translation that returns `None`, from the model's pair -/
def embOutC12b (S : SysC12b) (m : FS × Except Err Unit) : Except PyErr PVal × SysC12b :=
  (embRes (fun _ => PVal.none) m.2, { S with fs := m.1 })

theorem getattr_allfilesC12b (d : DepInfo) (hh : Bool) (head : Nodes) (pdir : Str) :
    pyGetAttr (embDep d hh head pdir) "all_files" = .ok (.bool d.allFiles) := by
  simp [embDep, pyGetAttr, fieldGet?]

theorem ite_condC12b {α} (b : Bool) (x y : α) : (if b = true then x else y) = bif b then x else y := by
  cases b <;> rfl

theorem cond_applyC12b {γ} (c : Bool) (a b : PyFSC12b γ) (S : SysC12b) :
    (bif c then a else b) S = bif c then a S else b S := by
  cases c <;> rfl

theorem truthy_strC12b (s : Str) : truthy (.str s) = !s.isEmpty := rfl

theorem pyEq_str_strC12b (a b : Str) : pyEq (.str a) (.str b) = .ok (.bool (a == b)) := rfl

/-- `s[k]` for an item dict -/
def keyStepC12b (k : Str) (s : KVs) : Except Err Str :=
  match alookup k s with
  | none => .error .keyError
  | some p => .ok p

theorem listKey_mapEC12b (k : Str) (l : List KVs) : listKey k l = mapE (keyStepC12b k) l := by
  induction l with
  | nil => rfl
  | cons s r ih =>
    simp only [listKey, mapE, keyStepC12b, ih]
    cases alookup k s with
    | none => rfl
    | some p => simp only []; cases mapE (keyStepC12b k) r <;> rfl

theorem starList2C12b (a b : List Str) :
    pyStarListC12b [a.map PVal.str, b.map PVal.str] = .list ((a ++ b).map PVal.str) := by
  simp [pyStarListC12b]

theorem copyItems_listedC12b (d : DepInfo) (src tgt : Str) (fs : FS) (haf : d.allFiles = false) :
    copyItems d src tgt fs = (listedFiles d).map (List.map (itemOfC12b src tgt)) := by
  simp only [copyItems, haf, Bool.false_eq_true, if_false]
  cases listedFiles d <;> rfl

/-- what the run time must supply for `all_files`: every entry directly below the source directory decodes (`os.fsdecode`)
    to a `str` that names exactly that entry — one component, not starting with a slash -/
def NamesOkC12b (S : SysC12b) (src : Str) : Prop :=
  ∀ n ∈ S.fs.topLevel (pathResolve src), ∃ nm, S.fsdecode n = some nm ∧ nm.head? ≠ some '/' ∧ segs (utf8 nm) = [n]

def decNameC12b (S : SysC12b) (n : Bytes) : Str := (S.fsdecode n).getD []

theorem globEntries_okC12b (S : SysC12b) (s : Str) (names : List Bytes)
    (h : ∀ n ∈ names, ∃ nm, S.fsdecode n = some nm) :
    globEntriesC12b S.fsdecode s names = .ok (names.map fun n => pathObjC12b (posixJoin s (decNameC12b S n))) := by
  induction names with
  | nil => rfl
  | cons n r ih =>
    obtain ⟨nm, hn⟩ := h n (by simp)
    simp only [globEntriesC12b, hn, ih (fun m hm => h m (by simp [hm])), List.map_cons, decNameC12b, Option.getD_some]
    rfl

theorem glob_bind_pathC12b {γ} (s : Str) (k : PVal → PyFSC12b γ) (S : SysC12b) :
    (pathGlobStarC12b (pathObjC12b s) >>= k) S
      = match globEntriesC12b S.fsdecode s (S.fs.topLevel (pathResolve s)) with
        | .ok l => k (.list l) S
        | .error e => (.error e, S) := by
  show PyFSC12b.bind _ _ _ = _
  unfold PyFSC12b.bind pathGlobStarC12b pathObjC12b
  simp only []
  cases globEntriesC12b S.fsdecode s (S.fs.topLevel (pathResolve s)) <;> rfl

theorem relStr_joinC12b (s nm : Str) (h : nm.head? ≠ some '/') : relStrC12b (posixJoin s nm) s = some nm := by
  have hp : (s ++ ['/']).isPrefixOf (s ++ '/' :: nm) = true := by simp
  unfold relStrC12b posixJoin
  by_cases hs : (s.isEmpty || s.getLast? == some '/') = true <;> simp_all

theorem relativeTo_joinC12b (s nm : Str) (h : nm.head? ≠ some '/') (hne : nm ≠ []) :
    pathRelativeToC12b (pathObjC12b (posixJoin s nm)) (pathObjC12b s) = .ok (pathObjC12b nm) := by
  have he : (nm.isEmpty || nm.head? == some '/') = false := by cases nm <;> simp_all
  simp only [pathRelativeToC12b, pathObjC12b, fspathC12b, pure_eq_ok, ok_bind, relStr_joinC12b s nm h, he,
    Bool.false_eq_true, if_false]

theorem mapE_okC12b {α β : Type} (g : α → β) (l : List α) : mapE (fun a => (.ok (g a) : Except Err β)) l = .ok (l.map g) := by
  induction l with
  | nil => rfl
  | cons a t ih => simp [mapE, ih]

theorem copyItems_allC12b (d : DepInfo) (src tgt : Str) (S : SysC12b) (haf : d.allFiles = true) (hn : NamesOkC12b S src) :
    copyItems d src tgt S.fs
      = .ok (((S.fs.topLevel (pathResolve src)).map (decNameC12b S)).map (itemOfC12b src tgt)) := by
  simp only [copyItems, haf, if_true, List.map_map]
  congr 1
  apply List.map_congr_left
  intro n hmem
  obtain ⟨nm, h1, h2, h3⟩ := hn n hmem
  simp only [Function.comp, decNameC12b, h1, Option.getD_some, itemOfC12b, resolve_posixJoin _ nm h2, h3]

def kDepsC12b : Str := ['d', 'e', 'p', 'e', 'n', 'd', 'e', 'n', 'c', 'i', 'e', 's']
def kHtmlC12b : Str := ['h', 't', 'm', 'l']

/-- the dependencies among the nodes of `rendered["dependencies"]`, with what `embDep` needs -/
def depTriplesC12b : List Node → List (DepInfo × Bool × Nodes)
  | [] => []
  | .dep i hh head :: r => (i, hh, head) :: depTriplesC12b r
  | _ :: r => depTriplesC12b r

/-- a dependency of a rendering as the object `copy_to` is called on (`pd`: the package directory of each dependency) -/
def embTripleC12b (pd : DepInfo → Str) (t : DepInfo × Bool × Nodes) : PVal := embDep t.1 t.2.1 t.2.2 (pd t.1)

theorem depInfos_triplesC12b (l : List Node) : depInfos l = (depTriplesC12b l).map (·.1) := by
  induction l with
  | nil => rfl
  | cons n r ih =>
    cases n <;> simp_all [depInfos, depInfoOf, depTriplesC12b, List.filterMap_cons]

/-- the `RenderedHTML` dict -/
def embRenderedC12b (pd : DepInfo → Str) (r : Doc.DocRendered) : PVal :=
  .dict [(kDepsC12b, .list ((depTriplesC12b r.deps).map (embTripleC12b pd))), (kHtmlC12b, .str r.html)]

def errNameC12b : Err → Str
  | .typeError => "TypeError".toList
  | .valueError => "ValueError".toList
  | .keyError => "KeyError".toList
  | .runtimeError => "RuntimeError".toList
  | .notImplemented => "NotImplementedError".toList
  | .exception => "Exception".toList

theorem errOfName_nameC12b (e : Err) : errOfNameC12b (errNameC12b e) = embErr e := by
  unfold errOfNameC12b errNameC12b
  -- the literals as lists of characters first: decoding them inside `decide` is slow
  repeat rw [String.toList_ofList]
  cases e <;> decide

/-- what `render(lib_prefix=lp, include_version=iv)` answers, as the record the document object carries -/
def embOutcomeC12b (pd : DepInfo → Str) : Except Err Doc.DocRendered → PVal
  | .ok r => embRenderedC12b pd r
  | .error e => .obj "Raises" [("kind", .str (errNameC12b e))]

def embRecordC12b (cfg : Cfg) (pd : DepInfo → Str) (content : Nodes) (kw : List (Str × AttrArg)) (lp : Option Str)
    (iv : Bool) : PVal :=
  .obj "RenderRecord" [("lib_prefix", embOptStr lp), ("include_version", .bool iv),
    ("outcome", embOutcomeC12b pd (Doc.docRender cfg content kw lp iv))]

/-- `HTMLDocument(*content, **kw)` as `save_html` sees it: its two fields, and the record of what its `render` answers for
    `lib_prefix = lp`, `include_version = iv` — the model's `docRender` (`HTMLDocument.render` is not translated here) -/
def embDocC12b (cfg : Cfg) (pd : DepInfo → Str) (content : Nodes) (kw : List (Str × AttrArg)) (lp : Option Str)
    (iv : Bool) : PVal :=
  .obj "HTMLDocument" [("_content", embTagList content), ("_html_attr_args", embArgDict kw),
    ("__render__", embRecordC12b cfg pd content kw lp iv)]

/-- `self.render(lib_prefix=lp, include_version=iv)` on a document object that carries the record of the model's answer
    for these arguments, whatever its other two fields are -/
theorem docRenderRec_recordC12b (cfg : Cfg) (pd : DepInfo → Str) (content : Nodes) (kw : List (Str × AttrArg))
    (lp : Option Str) (iv : Bool) (c a : PVal) :
    docRenderRecC12b (.obj "HTMLDocument" [("_content", c), ("_html_attr_args", a),
        ("__render__", embRecordC12b cfg pd content kw lp iv)]) (embOptStr lp) (.bool iv)
      = embRes (embRenderedC12b pd) (Doc.docRender cfg content kw lp iv) := by
  have hs : (sameArgC12b (embOptStr lp) (embOptStr lp) && sameArgC12b (.bool iv) (.bool iv)) = true := by
    cases lp <;> simp only [embOptStr, sameArgC12b, beq_self_eq_true, Bool.and_self]
  -- the record is found (by evaluation) and is for these arguments (`hs`)
  show (if (sameArgC12b (embOptStr lp) (embOptStr lp) && sameArgC12b (.bool iv) (.bool iv)) = true then _ else _) = _
  rw [if_pos hs]
  cases Doc.docRender cfg content kw lp iv with
  | ok r => rfl
  | error e => exact congrArg Except.error (errOfName_nameC12b e)

theorem docRenderRec_embC12b (cfg : Cfg) (pd : DepInfo → Str) (content : Nodes) (kw : List (Str × AttrArg))
    (lp : Option Str) (iv : Bool) :
    docRenderRecC12b (embDocC12b cfg pd content kw lp iv) (embOptStr lp) (.bool iv)
      = embRes (embRenderedC12b pd) (Doc.docRender cfg content kw lp iv) :=
  docRenderRec_recordC12b cfg pd content kw lp iv _ _

/-- outcome and state of a state-passing translation that returns a `str`, from the model's pair -/
def embOutStrC12b (S : SysC12b) (m : FS × Except Err Str) : Except PyErr PVal × SysC12b :=
  (embRes PVal.str m.2, { S with fs := m.1 })

theorem write_writeC12b (fs : FS) (p : Path) (a b : Bytes) : (fs.write p a).write p b = fs.write p b := by
  simp [FS.write, List.filter_filter]

theorem openWrite_bind_strC12b {γ} (s : Str) (k : PVal → PyFSC12b γ) (S : SysC12b) :
    (openWriteC12b (.str s) >>= k) S
      = if (S.fs.isDir (pathResolve (S.resolve s)) || S.fs.fileOnPath (pathResolve (S.resolve s)).dropLast) = true then
          (.error .exception, S)
        else k (.obj "TextIOWrapper" [("name", .str (S.resolve s))])
          { S with fs := S.fs.write (pathResolve (S.resolve s)) [] } := by
  show PyFSC12b.bind _ _ _ = _
  unfold PyFSC12b.bind openWriteC12b
  simp only [fdOrPath_strC12b]
  by_cases h : (S.fs.isDir (pathResolve (S.resolve s)) || S.fs.fileOnPath (pathResolve (S.resolve s)).dropLast) = true <;>
    simp [h]

theorem fileWrite_bind_strC12b {γ} (nm t : Str) (k : PVal → PyFSC12b γ) (S : SysC12b) :
    (fileWriteC12b (.obj "TextIOWrapper" [("name", .str nm)]) (.str t) >>= k) S
      = k (.int t.length) { S with fs := S.fs.write (pathResolve nm) (utf8 t) } := rfl

theorem pathParent_normC12b (s : Str) (h : normalAbsC12b s = true) :
    pathParentC12b (pathObjC12b s) = .ok (pathObjC12b (dirname s)) := by
  simp [pathParentC12b, pathObjC12b, h]

theorem posixJoin_absC12b (a b : Str) (h : a.head? = some '/') : (posixJoin a b).head? = some '/' := by
  cases a with
  | nil => simp at h
  | cons c r =>
    unfold posixJoin
    split
    · assumption
    · split <;> simpa using h

theorem rstripSlash_headC12b (s : Str) (h : s.all (· = '/') = false) : (rstripSlash s).head? = s.head? := by
  have hp : (rstripSlash s).reverse.reverse <+: s.reverse.reverse :=
    List.reverse_prefix.mpr (by rw [rstripSlash, List.reverse_reverse]; exact List.dropWhile_suffix _)
  rw [List.reverse_reverse, List.reverse_reverse] at hp
  obtain ⟨t, ht⟩ := hp
  cases hr : rstripSlash s with
  | nil =>
    -- nothing left: every character was a slash
    have := List.any_dropWhile (p := (· = '/')) (l := s.reverse)
    rw [List.reverse_eq_nil_iff.mp hr, List.all_reverse, h] at this
    cases this
  | cons c u => rw [hr] at ht; rw [← ht]; rfl

theorem dirname_absC12b (s : Str) (h : s.head? = some '/') : (dirname s).head? = some '/' := by
  cases s with
  | nil => simp at h
  | cons c r =>
    obtain rfl : c = '/' := by simpa using h
    have hh : (headUpToSlash ('/' :: r)).head? = some '/' := by
      simp only [headUpToSlash]
      split <;> simp
    unfold dirname
    simp only []
    split
    · exact hh
    · rename_i hcond
      simp only [Bool.or_eq_true, not_or, Bool.not_eq_true] at hcond
      rw [rstripSlash_headC12b _ hcond.2, hh]

/-- a `Tag` / `TagList` receiver of `save_html`: the object, carrying the record of what the `render` of the document made
    from it answers (`__doc_render__`, Py/PrimC12b.lean `mkDocC12b`) -/
def withDocRecordC12b (rec : PVal) : PVal → PVal
  | .obj c fs => .obj c (fs ++ [("__doc_render__", rec)])
  | v => v

/-- the receiver of `saveOn` as the Python object -/
def embRecvC12b (cfg : Cfg) (pd : DepInfo → Str) (lp : Option Str) (iv : Bool) : Receiver → PVal
  | .document content kw => embDocC12b cfg pd content kw lp iv
  | .tag t => withDocRecordC12b (embRecordC12b cfg pd (.cons t .nil) [] lp iv) (embNode t)
  | .tagList items => withDocRecordC12b (embRecordC12b cfg pd items [] lp iv) (embTagList items)

/-- `HTMLDocument(tag)` on an embedded tag that carries a record: a document object with that record (by evaluation) -/
theorem mkDoc_tagC12b (rec : PVal) (name : Str) (ws : Bool) (attrs : Attrs) (kids : Nodes) :
    ∃ c, mkDocC12b (withDocRecordC12b rec (embNode (.tag name ws attrs kids)))
      = .ok (.obj "HTMLDocument" [("_content", c), ("_html_attr_args", .dict []), ("__render__", rec)]) :=
  ⟨_, rfl⟩

theorem mkDoc_listC12b (rec : PVal) (items : Nodes) :
    ∃ c, mkDocC12b (withDocRecordC12b rec (embTagList items))
      = .ok (.obj "HTMLDocument" [("_content", c), ("_html_attr_args", .dict []), ("__render__", rec)]) := by
  refine ⟨.obj "TagList" [("data", .list (embNodes items))], ?_⟩
  have hall : (embNodes items).all isPlainTagNodeC12 = true := by
    rw [embNodes_toList, List.all_map]
    simp [Function.comp_def, isPlainTagNode_emb]
  simp [mkDocC12b, withDocRecordC12b, embTagList, fieldGet?, mkTagList, tagListItems, hall, bind, Except.bind, pure,
    Except.pure]

theorem normalAbs_headC12b (s : Str) (h : normalAbsC12b s = true) : s.head? = some '/' := by
  simp only [normalAbsC12b, Bool.and_eq_true] at h
  simpa using h.1.1

theorem destDir_absC12b (fa : Str) (libdir : Option Str) (h : fa.head? = some '/') :
    (destDir fa libdir).head? = some '/' := by
  cases libdir with
  | none => exact dirname_absC12b fa h
  | some l =>
    show (if l.isEmpty then dirname fa else posixJoin (dirname fa) l).head? = some '/'
    split
    · exact dirname_absC12b fa h
    · exact posixJoin_absC12b _ _ (dirname_absC12b fa h)

end HtmlVerif.SrcTie
