/-
Embeddings and helper lemmas for the source tie of the constructor validation of `HTMLDependency`
(Props/SrcC10b.lean): `HTMLDependency._validate_dict`, `_validate_dicts`, `__init__` against `validateDict`,
`validateDicts`, `depInit` (Model/Deps.lean).

The model abstracts every value that is not a dict to `PyItem.other` / `ItemsArg.scalar` / `SourceArg.other`.  The
embeddings below go the other way with *any* Python value that has the abstracted property (`isInstance v ["dict"] =
false`, …), so the tie theorems speak about every such value, not about one chosen representative.
-/
import HtmlVerif.Generated.Src
import HtmlVerif.Lemmas.PyLoop
import HtmlVerif.Lemmas.SrcTie
import HtmlVerif.Model.Deps

set_option linter.unusedVariables false

namespace HtmlVerif.SrcTie
open HtmlVerif HtmlVerif.Py

/-- a dict with `str` values (an item of `script=` / `stylesheet=` / `meta=`, or `source=`) -/
def embKvsC10b (d : List (Str × Str)) : PVal := .dict (d.map fun kv => (kv.1, PVal.str kv.2))

def embDictsC10b (ds : List (List (Str × Str))) : PVal := .list (ds.map embKvsC10b)

/-- an element of the list given for `script=` / `stylesheet=` / `meta=`: a dict, or any value that is not one -/
inductive ItemV
  | dict (kvs : List (Str × Str))
  | other (v : PVal) (h : isInstance v ["dict"] = false)

def ItemV.toItem : ItemV → PyItem
  | .dict kvs => .dict kvs
  | .other _ _ => .other

def ItemV.emb : ItemV → PVal
  | .dict kvs => embKvsC10b kvs
  | .other v _ => v

/-- what reaches `_validate_dicts`: a list of items, or any value that is not None, not a dict and cannot be iterated -/
inductive LdV
  | items (l : List ItemV)
  | scalar (v : PVal) (hn : isNone v = false) (hd : isInstance v ["dict"] = false) (hi : pyIter v = .error .typeError)

def LdV.emb : LdV → PVal
  | .items l => .list (l.map ItemV.emb)
  | .scalar v _ _ _ => v

/-- the model's verdict on it (`validateDicts`; iterating a non-iterable raises TypeError, as `normItems` has it) -/
def LdV.model (req : List Str) : LdV → Except Err (List (List (Str × Str)))
  | .items l => validateDicts req (l.map ItemV.toItem)
  | .scalar _ _ _ _ => .error .typeError

/-- what is given for `script=` / `stylesheet=` / `meta=` -/
inductive ItemsV
  | none
  | one (kvs : List (Str × Str))
  | many (l : List ItemV)
  | scalar (v : PVal) (hn : isNone v = false) (hd : isInstance v ["dict"] = false) (hi : pyIter v = .error .typeError)

def ItemsV.toArg : ItemsV → ItemsArg
  | .none => .none
  | .one d => .one d
  | .many l => .many (l.map ItemV.toItem)
  | .scalar _ _ _ _ => .scalar

def ItemsV.emb : ItemsV → PVal
  | .none => PVal.none
  | .one d => embKvsC10b d
  | .many l => .list (l.map ItemV.emb)
  | .scalar v _ _ _ => v

/-- after `if x is None: x = [] elif isinstance(x, dict): x = [x]` -/
def ItemsV.toLd : ItemsV → LdV
  | .none => .items []
  | .one d => .items [.dict d]
  | .many l => .items l
  | .scalar v hn hd hi => .scalar v hn hd hi

/-- what is given for `source=`: None, a dict, or any value that is neither -/
inductive SourceV
  | none
  | dict (kvs : List (Str × Str))
  | other (v : PVal) (hn : isNone v = false) (hd : isInstance v ["dict"] = false)

def SourceV.toArg : SourceV → SourceArg
  | .none => .none
  | .dict d => .dict d
  | .other _ _ _ => .other

def SourceV.emb : SourceV → PVal
  | .none => PVal.none
  | .dict d => embKvsC10b d
  | .other v _ _ => v

/-- what is given for `head=`: None, a `str`, or any value that is neither -/
inductive HeadV
  | none
  | text (s : Str)
  | node (v : PVal) (hn : isNone v = false) (hs : isInstance v ["str"] = false)

def HeadV.emb : HeadV → PVal
  | .none => PVal.none
  | .text s => .str s
  | .node v _ _ => v

/-- the `head` field: None stays None; a `str` is trusted markup, `TagList(HTML(s))`; anything else goes through
    `TagList(v)` (Py/PrimC10b.lean: `pyTagList1`, defined on the shapes listed there) -/
def HeadV.res : HeadV → PyM PVal
  | .none => .ok PVal.none
  | .text s => .ok (tagListObjC10b [.html s])
  | .node v _ _ => pyTagList1 v

/-- the arguments of `HTMLDependency(name, version, …)` as Python values -/
structure DepArgV where
  name       : Str
  version    : Str          -- `str(Version(version))`
  verOk      : Bool         -- `packaging` accepts the version string
  vrank      : Nat
  source     : SourceV
  script     : ItemsV
  stylesheet : ItemsV
  metas      : ItemsV
  allFiles   : Bool

def DepArgV.toArg (a : DepArgV) : DepArg :=
  { name := a.name, version := a.version, verOk := a.verOk, vrank := a.vrank, source := a.source.toArg,
    script := a.script.toArg, stylesheet := a.stylesheet.toArg, metas := a.metas.toArg, allFiles := a.allFiles }

/-- the instance `__init__` leaves behind (`__dict__` in assignment order): the fields the model describes come from the
    model's `DepInfo`; `source` is stored as given (the model keeps only what `checkSource` reads from it) -/
def embDepObjC10b (cls : String) (src : PVal) (info : DepInfo) (head : PVal) : PVal :=
  .obj cls [("name", .str info.name), ("version", versionObjC10b info.vrank info.version), ("source", src),
    ("script", embDictsC10b info.script), ("stylesheet", embDictsC10b info.stylesheet),
    ("meta", embDictsC10b info.metas), ("all_files", .bool info.allFiles), ("head", head)]

/-- the attributes of an `HTMLDependency` the model describes -/
def depFieldNamesC10b : List String := ["name", "version", "source", "script", "stylesheet", "meta", "all_files", "head"]

/-- an instance restricted to these attributes, in this order: the order in which `__init__` makes its assignments (the
    order of `__dict__`) is not part of what the tie states -/
def projDepC10b : PVal → PVal
  | .obj c fs => .obj c (depFieldNamesC10b.filterMap fun k => (fieldGet? k fs).map fun v => (k, v))
  | v => v

theorem dictGet?_embKvsC10b (k : Str) (d : List (Str × Str)) :
    (Py.dictGet? k (d.map fun kv => (kv.1, PVal.str kv.2))).isSome = hasKey k d := by
  induction d with
  | nil => rfl
  | cons x t ih =>
    obtain ⟨k', v⟩ := x
    simp only [List.map_cons, Py.dictGet?, hasKey, List.any_cons] at ih ⊢
    by_cases h : k' = k <;> simp [h, ih]

theorem pyIn_embKvsC10b (k : Str) (d : List (Str × Str)) :
    pyIn (.str k) (embKvsC10b d) = .ok (.bool (hasKey k d)) := by
  simp only [pyIn, embKvsC10b, dictGet?_embKvsC10b, pure_eq_ok]

theorem isInstance_embKvsC10b (d : List (Str × Str)) : isInstance (embKvsC10b d) ["dict"] = true := rfl
theorem isNone_embKvsC10b (d : List (Str × Str)) : isNone (embKvsC10b d) = false := rfl

/-- `"href" in source or "subdir" in source` -/
theorem pyOr_in_embKvsC10b (k1 k2 : Str) (d : List (Str × Str)) :
    pyOr (pyIn (.str k1) (embKvsC10b d)) (pyIn (.str k2) (embKvsC10b d))
      = .ok (.bool (hasKey k1 d || hasKey k2 d)) := by
  simp only [pyOr, pyIn_embKvsC10b, ok_bind, truthy_bool]
  cases hasKey k1 d <;> simp

theorem dictSet_absentC10b (k : Str) (v : PVal) (d : List (Str × Str)) (h : hasKey k d = false) :
    Py.dictSet k v (d.map fun kv => (kv.1, PVal.str kv.2)) = (d.map fun kv => (kv.1, PVal.str kv.2)) ++ [(k, v)] := by
  induction d with
  | nil => rfl
  | cons x t ih =>
    obtain ⟨k', v'⟩ := x
    simp only [hasKey, List.any_cons, Bool.or_eq_false_iff, beq_eq_false_iff_ne, ne_eq] at h
    simp only [List.map_cons, Py.dictSet, h.1, if_false, List.cons_append]
    rw [ih (by simpa [hasKey] using h.2)]

/-- one pass of `if "rel" not in s: s["rel"] = "stylesheet"` on a dict is the model's `addRel` -/
theorem pySetItem_addRelC10b (d : List (Str × Str)) (h : hasKey ['r','e','l'] d = false) :
    pySetItem (embKvsC10b d) (.str ['r','e','l']) (.str ['s','t','y','l','e','s','h','e','e','t'])
      = .ok (embKvsC10b (addRel d)) := by
  simp only [pySetItem, embKvsC10b, dictSet_absentC10b _ _ _ h, addRel, h, Bool.false_eq_true, if_false, List.map_append,
    List.map_cons, List.map_nil, pure_eq_ok]

theorem addRel_presentC10b (d : List (Str × Str)) (h : hasKey ['r','e','l'] d = true) : addRel d = d := by
  simp [addRel, h]

theorem pySetAttr_objC10b (c : String) (fs : List (String × PVal)) (n : String) (v : PVal) :
    pySetAttr (.obj c fs) n v = .ok (.obj c (fieldSet n v fs)) := rfl

theorem pyGetAttr_objC10b (c : String) (fs : List (String × PVal)) (n : String) (v : PVal)
    (h : fieldGet? n fs = some v) : pyGetAttr (.obj c fs) n = .ok v := by
  simp only [pyGetAttr, h, pure_eq_ok]

theorem pyRebuildSeq_listC10b (xs elems : List PVal) : pyRebuildSeq (.list xs) elems = .ok (.list elems) := rfl

theorem isNone_listC10b (xs : List PVal) : isNone (.list xs) = false := rfl
theorem isDict_listC10b (xs : List PVal) : isInstance (.list xs) ["dict"] = false := rfl
theorem fieldGet?_fieldSetC10b (k k' : String) (v : PVal) (fs : List (String × PVal)) :
    fieldGet? k (fieldSet k' v fs) = if k' = k then some v else fieldGet? k fs := by
  induction fs with
  | nil => rfl
  | cons x t ih =>
    obtain ⟨k'', v''⟩ := x
    by_cases h1 : k'' = k'
    · subst h1
      by_cases h2 : k'' = k <;> simp [fieldSet, fieldGet?, h2]
    · by_cases h2 : k'' = k
      · subst h2
        have h3 : ¬k' = k'' := fun h => h1 h.symm
        simp [fieldSet, fieldGet?, h1, h3]
      · simp [fieldSet, fieldGet?, h1, h2, ih]

theorem pyGetAttr_fieldSetC10b (c : String) (k : String) (v : PVal) (fs : List (String × PVal)) :
    pyGetAttr (.obj c (fieldSet k v fs)) k = .ok v := by
  simp only [pyGetAttr, fieldGet?_fieldSetC10b, if_true, pure_eq_ok]

theorem pyMkVersion_strC10b (G : Globals) (raw : Str) :
    pyMkVersion G (.str raw) = match G.mkVersion raw with | some v => .ok v | none => .error .valueError := rfl

theorem isNone_noneC10b : isNone PVal.none = true := rfl
theorem isStr_strC10b (s : Str) : isInstance (.str s) ["str"] = true := rfl
theorem isStr_versionC10b (r : Nat) (t : Str) : isInstance (versionObjC10b r t) ["str"] = false := by
  simp [versionObjC10b, isInstance, classBases]

theorem validateDicts_ok_embC10b (req : List Str) (l : List ItemV) (ds : List (List (Str × Str)))
    (h : validateDicts req (l.map ItemV.toItem) = .ok ds) : l.map ItemV.emb = ds.map embKvsC10b := by
  induction l generalizing ds with
  | nil => simp only [List.map_nil, validateDicts, Except.ok.injEq] at h; subst h; rfl
  | cons x t ih =>
    simp only [List.map_cons, validateDicts] at h
    cases x with
    | other v hv => simp [ItemV.toItem, validateDict] at h
    | dict d =>
      simp only [ItemV.toItem, validateDict] at h
      cases hc : checkKeys d req with
      | error e => simp [hc] at h
      | ok u =>
        simp only [hc] at h
        cases ht : validateDicts req (t.map ItemV.toItem) with
        | error e => simp [ht] at h
        | ok ds' =>
          simp only [ht, Except.ok.injEq] at h
          subst h
          simp only [List.map_cons, ItemV.emb, ih ds' ht]

theorem LdV_model_ok_embC10b (req : List Str) (x : LdV) (ds : List (List (Str × Str))) (h : x.model req = .ok ds) :
    x.emb = embDictsC10b ds := by
  cases x with
  | scalar v hn hd hi => simp [LdV.model] at h
  | items l => simp only [LdV.emb, embDictsC10b, validateDicts_ok_embC10b req l ds h]

theorem isNone_LdVC10b (x : LdV) : isNone x.emb = false := by
  cases x with
  | items l => rfl
  | scalar v hn hd hi => exact hn

theorem isDict_LdVC10b (x : LdV) : isInstance x.emb ["dict"] = false := by
  cases x with
  | items l => rfl
  | scalar v hn hd hi => exact hd

theorem normItems_toLdC10b (req : List Str) (x : ItemsV) : normItems req x.toArg = x.toLd.model req := by
  cases x <;> rfl

/-- `depInit` with the three `normItems` verdicts as parameters -/
def depInitOfC10b (a : DepArg) (sc st me : Except Err (List (List (Str × Str)))) : Except Err DepInfo :=
  if !a.verOk then .error .valueError else
  match checkSource a.source with
  | .error e => .error e
  | .ok src =>
    match sc with
    | .error e => .error e
    | .ok sc =>
      match st with
      | .error e => .error e
      | .ok st =>
        match me with
        | .error e => .error e
        | .ok me =>
          .ok { name := a.name, version := a.version, vrank := a.vrank, source := src, script := sc,
                stylesheet := st.map addRel, metas := me, allFiles := a.allFiles }

theorem depInit_eq_ofC10b (a : DepArg) :
    depInit a = depInitOfC10b a (normItems reqScript a.script) (normItems reqStylesheet a.stylesheet)
      (normItems reqMeta a.metas) := rfl

theorem checkSource_dict_okC10b (d : List (Str × Str))
    (h : (hasKey ['h','r','e','f'] d || hasKey ['s','u','b','d','i','r'] d) = true) :
    ∃ src, checkSource (.dict d) = .ok src := by
  simp only [checkSource]
  by_cases h1 : hasKey ['h','r','e','f'] d = true
  · simp only [h1, if_true]; exact ⟨_, rfl⟩
  · have h2 : hasKey ['s','u','b','d','i','r'] d = true := by simpa [h1] using h
    simp only [h1, h2, if_true, Bool.false_eq_true, if_false]; exact ⟨_, rfl⟩

theorem checkSource_dict_badC10b (d : List (Str × Str))
    (h : (hasKey ['h','r','e','f'] d || hasKey ['s','u','b','d','i','r'] d) = false) :
    checkSource (.dict d) = .error .typeError := by
  simp only [Bool.or_eq_false_iff] at h
  simp [checkSource, h.1, h.2]

/-- `for a in req_attr: if a not in d: raise KeyError`, for any loop state: nothing is carried from pass to pass -/
theorem keys_loop_kC10b {σ β : Type} (d : List (Str × Str)) (req : List Str) (f : PVal → σ → PyM (ForInStep σ)) (init : σ)
    (k : σ → PyM β) (r : PyM β)
    (hstep : ∀ a s, (hasKey a d = true → ∃ s', f (.str a) s = .ok (.yield s'))
                  ∧ (hasKey a d = false → f (.str a) s = .error .keyError))
    (hk : ∀ s, k s = r) :
    (forIn (req.map PVal.str) init f >>= k)
      = match checkKeys d req with | .ok () => r | .error e => .error (embErr e) := by
  induction req generalizing init with
  | nil => simp only [List.map_nil, List.forIn_nil, checkKeys, pure_eq_ok, ok_bind, hk]
  | cons a t ih =>
    simp only [List.map_cons, List.forIn_cons, checkKeys]
    by_cases ha : hasKey a d = true
    · obtain ⟨s', hs'⟩ := (hstep a init).1 ha
      simp only [hs', ok_bind, ha, if_true]
      exact ih s'
    · simp only [Bool.not_eq_true] at ha
      simp only [(hstep a init).2 ha, error_bind, ha, Bool.false_eq_true, if_false, embErr]

/-- `for d in ld: self._validate_dict(d, req_attr)`, for any loop state -/
theorem dicts_loop_kC10b {σ β : Type} (req : List Str) (l : List ItemV) (f : PVal → σ → PyM (ForInStep σ)) (init : σ)
    (k : σ → PyM β) (r : PyM β)
    (hstep : ∀ (x : ItemV) s, match validateDict req x.toItem with
      | .ok _ => ∃ s', f x.emb s = .ok (.yield s')
      | .error e => f x.emb s = .error (embErr e))
    (hk : ∀ s, k s = r) :
    (forIn (l.map ItemV.emb) init f >>= k)
      = match validateDicts req (l.map ItemV.toItem) with | .ok _ => r | .error e => .error (embErr e) := by
  induction l generalizing init with
  | nil => simp only [List.map_nil, List.forIn_nil, validateDicts, pure_eq_ok, ok_bind, hk]
  | cons x t ih =>
    simp only [List.map_cons, List.forIn_cons, validateDicts]
    have hx := hstep x init
    cases hv : validateDict req x.toItem with
    | error e =>
      rw [hv] at hx
      simp only [hx, error_bind]
    | ok d =>
      rw [hv] at hx
      obtain ⟨s', hs'⟩ := hx
      simp only [hs', ok_bind]
      rw [ih s']
      cases validateDicts req (t.map ItemV.toItem) <;> rfl

/-- the `rel` loop as the translator renders it: the state is (loop variable, elements collected so far) -/
theorem rel_loop_kC10b {β : Type} (ds : List (List (Str × Str)))
    (f : PVal → PVal × List PVal → PyM (ForInStep (PVal × List PVal))) (init : PVal × List PVal)
    (k : PVal × List PVal → PyM β) (r : PyM β)
    (hstep : ∀ (d : List (Str × Str)) (s : PVal × List PVal),
      ∃ s1, f (embKvsC10b d) s = .ok (.yield (s1, s.2 ++ [embKvsC10b (addRel d)])))
    (hk : ∀ s, s.2 = init.2 ++ (ds.map addRel).map embKvsC10b → k s = r) :
    (forIn (ds.map embKvsC10b) init f >>= k) = r := by
  induction ds generalizing init with
  | nil =>
    simp only [List.map_nil, List.forIn_nil, pure_eq_ok, ok_bind]
    exact hk init (by simp)
  | cons d t ih =>
    obtain ⟨s1, hs1⟩ := hstep d init
    simp only [List.map_cons, List.forIn_cons, hs1, ok_bind]
    refine ih _ (fun s hs => hk s ?_)
    simp only [hs, List.map_cons, List.append_assoc, List.cons_append, List.nil_append]

end HtmlVerif.SrcTie
