/-
Embedding of the tree model into Python values (`embNode`; `RenderEmb`: what any embedding must show the renderer), the
model-level step functions that the loops of the translated renderer simulate, and the loop lemmas (used by
Props/SrcRender.lean); `depth_induction`, the recursion scheme of the translated `mutual` pairs.
-/
import HtmlVerif.Lemmas.SrcTie
import HtmlVerif.Lemmas.Nodes
import HtmlVerif.Model.Render
import HtmlVerif.Generated.Src

namespace HtmlVerif.SrcTie
open HtmlVerif HtmlVerif.Py HtmlVerif.Generated.Src

mutual
  /-- a node as the Python object the renderer sees.  Only what rendering reads is recorded: a Tag's four fields; for
      self-rendering objects the text their `_repr_html_()` returns; for tagifiable objects the presence of `tagify` -/
  def embNode : Node → PVal
    | .tag name ws attrs kids =>
      .obj "Tag" [("name", .str name), ("attrs", embAttrs attrs),
                  ("children", .obj "TagList" [("data", .list (embNodes kids))]), ("add_ws", .bool ws)]
    | .text s => .str s
    | .html s => .html s
    | .robj s => .obj "ReprObj" [("_repr_html_", .str s)]
    | .mnode n => .obj "MetadataNode" [("id", .int n)]
    | .dep d _ _ => .obj "HTMLDependency" [("name", .str d.name)]
    | .tobjL rh _ => .obj "TagifiableObj" (("tagify", .none) :: match rh with
        | some s => [("_repr_html_", .str s)]
        | none => [])
    | .tobj1 rh _ => .obj "TagifiableObj" (("tagify", .none) :: match rh with
        | some s => [("_repr_html_", .str s)]
        | none => [])
  def embNodes : Nodes → List PVal
    | .nil => []
    | .cons h t => embNode h :: embNodes t
end

theorem embNodes_toList (ks : Nodes) : embNodes ks = ks.toList.map embNode := by
  induction ks with
  | nil => rfl
  | cons h t ih => simp [embNodes, Nodes.toList, ih]

def reprField : Option Str → List (String × PVal)
  | some s => [("_repr_html_", .str s)]
  | none => []

mutual
  def nodeDepth : Node → Nat
    | .tag _ _ _ kids => kidsDepth kids + 1
    | _ => 0
  def kidsDepth : Nodes → Nat
    | .nil => 0
    | .cons h t => max (nodeDepth h) (kidsDepth t)
end

theorem depth_mem (ks : Nodes) (c : Node) (h : c ∈ ks.toList) : nodeDepth c ≤ kidsDepth ks := by
  induction ks with
  | nil => simp [Nodes.toList] at h
  | cons x t ih =>
    simp only [Nodes.toList, List.mem_cons] at h
    simp only [kidsDepth]
    rcases h with rfl | h
    · omega
    · have := ih h; omega

/-- the recursion scheme of the translated `mutual` pairs (`Tag.f` calls `TagList.f` on its child list at the fuel below,
    which calls `Tag.f` on the tag children at the fuel below): from the two steps, both statements for all trees of nesting
    depth ≤ n and any fuel that covers the depth -/
theorem depth_induction {P : Nat → Node → Prop} {Q : Nat → Nodes → Prop}
    (hQ : ∀ f ks, (∀ c ∈ ks.toList, c.isTag = true → P f c) → Q (f + 1) ks)
    (hP : ∀ f nm ws a kk, Q f kk → P (f + 1) (.tag nm ws a kk)) (n : Nat) :
    (∀ t : Node, t.isTag = true → nodeDepth t ≤ n → ∀ fuel, 2 * n ≤ fuel → P fuel t)
    ∧ (∀ ks : Nodes, kidsDepth ks ≤ n → ∀ fuel, 2 * n + 1 ≤ fuel → Q fuel ks) := by
  -- the child-list half follows from the tag half at the same depth
  have listOf : ∀ m, (∀ t : Node, t.isTag = true → nodeDepth t ≤ m → ∀ fuel, 2 * m ≤ fuel → P fuel t) →
      ∀ ks : Nodes, kidsDepth ks ≤ m → ∀ fuel, 2 * m + 1 ≤ fuel → Q fuel ks := by
    intro m hm ks hd fuel hf
    obtain ⟨f, rfl⟩ : ∃ f, fuel = f + 1 := ⟨fuel - 1, by omega⟩
    exact hQ f ks fun c hc hct => hm c hct (Nat.le_trans (depth_mem ks c hc) hd) f (by omega)
  induction n with
  | zero =>
    refine ⟨fun t htag hd => ?_, listOf 0 fun t htag hd => ?_⟩ <;>
    · cases t <;> simp [Node.isTag] at htag
      simp [nodeDepth] at hd
  | succ n ih =>
    have hT : ∀ t : Node, t.isTag = true → nodeDepth t ≤ n + 1 → ∀ fuel, 2 * (n + 1) ≤ fuel → P fuel t := by
      intro t htag hd fuel hf
      cases t <;> simp [Node.isTag] at htag
      rename_i nm ws at' kk
      obtain ⟨f, rfl⟩ : ∃ f, fuel = f + 1 := ⟨fuel - 1, by omega⟩
      exact hP f nm ws at' kk (ih.2 kk (by simp [nodeDepth] at hd; omega) f (by omega))
    exact ⟨hT, listOf (n + 1) hT⟩

/-! ### the child loop of `TagList.get_html_string`, one pass at the model level -/

/-- the loop state the property is about: (html_, first_child, prev_was_add_ws) -/
structure KS where
  acc : Str
  first : Bool
  prev : Bool

/-- what one pass over the child `h` does to the state; an un-expanded tagifiable object that is not self-rendering
    raises RuntimeError, and so does a tag child whose own rendering raises -/
def kidStep (cfg : Cfg) (indent : Nat) (eol : Str) (esc : Bool) (h : Node) (st : KS) : Except Err KS :=
  let leaf (s : Str) : Except Err KS :=
    .ok ⟨st.acc ++ (if !st.first && st.prev then eol else []) ++ (if st.prev then indentStr indent else []) ++ s, false, false⟩
  match h with
  | .mnode _ => .ok st
  | .dep .. => .ok st
  | .tag _ ws _ _ =>
    if h.hasTobj then .error .runtimeError else
    let pc := st.prev || ws
    .ok ⟨st.acc ++ (if !st.first && pc then eol else [])
          ++ (if pc then h.render cfg indent eol else h.render cfg 0 []), false, ws⟩
  | .text s => leaf (if esc then escText cfg s else s)
  | .html s => leaf s
  | .robj s => leaf s
  | .tobjL (some s) _ => leaf s
  | .tobj1 (some s) _ => leaf s
  | .tobjL none _ => .error .runtimeError
  | .tobj1 none _ => .error .runtimeError

def leafStep (indent : Nat) (eol : Str) (s : Str) (st : KS) : KS :=
  ⟨st.acc ++ (if !st.first && st.prev then eol else []) ++ (if st.prev then indentStr indent else []) ++ s, false, false⟩

theorem kidStep_mnode (cfg i e esc n st) : kidStep cfg i e esc (.mnode n) st = .ok st := rfl
theorem kidStep_dep (cfg i e esc d hh hd st) : kidStep cfg i e esc (.dep d hh hd) st = .ok st := rfl
theorem kidStep_text (cfg i e esc s st) :
    kidStep cfg i e esc (.text s) st = .ok (leafStep i e (if esc then escText cfg s else s) st) := rfl
theorem kidStep_html (cfg i e esc s st) : kidStep cfg i e esc (.html s) st = .ok (leafStep i e s st) := rfl
theorem kidStep_robj (cfg i e esc s st) : kidStep cfg i e esc (.robj s) st = .ok (leafStep i e s st) := rfl
theorem kidStep_tobjL_some (cfg i e esc s c st) : kidStep cfg i e esc (.tobjL (some s) c) st = .ok (leafStep i e s st) := rfl
theorem kidStep_tobj1_some (cfg i e esc s c st) : kidStep cfg i e esc (.tobj1 (some s) c) st = .ok (leafStep i e s st) := rfl
theorem kidStep_tobjL_none (cfg i e esc c st) : kidStep cfg i e esc (.tobjL none c) st = .error .runtimeError := rfl
theorem kidStep_tobj1_none (cfg i e esc c st) : kidStep cfg i e esc (.tobj1 none c) st = .error .runtimeError := rfl
theorem kidStep_tag (cfg i e esc nm ws a k st) :
    kidStep cfg i e esc (.tag nm ws a k) st
      = if (Node.tag nm ws a k).hasTobj then .error .runtimeError else
        .ok ⟨st.acc ++ (if !st.first && (st.prev || ws) then e else [])
              ++ (if (st.prev || ws) then (Node.tag nm ws a k).render cfg i e else (Node.tag nm ws a k).render cfg 0 []), false, ws⟩ := rfl

theorem kids_fold (cfg : Cfg) (indent : Nat) (eol : Str) (esc : Bool) (ks : Nodes) (st : KS) :
    (ks.toList.foldlM (fun st h => kidStep cfg indent eol esc h st) st).map (·.acc)
      = if ks.hasTobjKids then .error .runtimeError
        else .ok (st.acc ++ ks.renderKids cfg indent eol st.first st.prev esc) := by
  induction ks generalizing st with
  | nil => simp [Nodes.toList, Nodes.hasTobjKids, Nodes.renderKids, Except.map, pure, Except.pure]
  | cons h t ih =>
    simp only [Nodes.toList, List.foldlM_cons, Nodes.hasTobjKids]
    cases h with
    | mnode n => rw [kidStep_mnode]; simpa [Nodes.renderKids, bind, Except.bind] using ih st
    | dep d hh hd => rw [kidStep_dep]; simpa [Nodes.renderKids, bind, Except.bind] using ih st
    | tag nm ws at' kk =>
      rw [kidStep_tag]
      by_cases ht : (Node.tag nm ws at' kk).hasTobj = true
      · simp [ht, bind, Except.bind, Except.map]
      · simp only [ht, Bool.false_eq_true, if_false, bind, Except.bind, Bool.false_or]
        rw [ih]
        simp [Nodes.renderKids, List.append_assoc]
    | text s =>
      rw [kidStep_text]; simp only [bind, Except.bind, Bool.false_or]; rw [ih]
      simp [Nodes.renderKids, leafStep, List.append_assoc]
    | html s =>
      rw [kidStep_html]; simp only [bind, Except.bind, Bool.false_or]; rw [ih]
      simp [Nodes.renderKids, leafStep, List.append_assoc]
    | robj s =>
      rw [kidStep_robj]; simp only [bind, Except.bind, Bool.false_or]; rw [ih]
      simp [Nodes.renderKids, leafStep, List.append_assoc]
    | tobjL rh c =>
      cases rh with
      | none => rw [kidStep_tobjL_none]; simp [bind, Except.bind, Except.map]
      | some s =>
        rw [kidStep_tobjL_some]; simp only [bind, Except.bind, Bool.false_or]; rw [ih]
        simp [Nodes.renderKids, leafStep, List.append_assoc]
    | tobj1 rh c =>
      cases rh with
      | none => rw [kidStep_tobj1_none]; simp [bind, Except.bind, Except.map]
      | some s =>
        rw [kidStep_tobj1_some]; simp only [bind, Except.bind, Bool.false_or]; rw [ih]
        simp [Nodes.renderKids, leafStep, List.append_assoc]

theorem pyMul_indent (i : Nat) : pyMul (.str [' ', ' ']) (.int i) = .ok (.str (indentStr i)) := by
  simp only [pyMul, pure_eq_ok, indentStr, Int.toNat_natCast]
  congr 2
  induction i with
  | zero => rfl
  | succ n ih => rw [List.replicate_succ, List.flatten_cons, ih, Nat.mul_succ]; simp [List.replicate_succ]

theorem rks_triv (x y z : PVal) : ∃ a a_1 a_2, (x = a ∧ y = a_1 ∧ z = a_2) ∧ a = x ∧ a_1 = y ∧ a_2 = z :=
  ⟨x, y, z, ⟨rfl, rfl, rfl⟩, rfl, rfl, rfl⟩

theorem pyAdd_str (G : Globals) (a b : Str) : pyAdd G (.str a) (.str b) = .ok (.str (a ++ b)) := rfl

/-- the relation between the loop state of `TagList.get_html_string` and the model-level state -/
def RKS {ρ : Type} (s : PVal × PVal × PVal × ρ) (b : KS) : Prop :=
  s.1 = .str b.acc ∧ s.2.1 = .bool b.first ∧ s.2.2.1 = .bool b.prev

/-- what the child loop can find out about a child that shows itself only through `_repr_html_()` -/
structure ReprVal (v : PVal) (s : Str) : Prop where
  notMeta : isInstance v ["MetadataNode"] = false
  notTag : isInstance v ["Tag"] = false
  isRepr : isInstance v ["ReprHtml"] = true
  repr : pyReprHtml v = .ok (.str s)

/-- … and about an un-expanded tagifiable object that is not self-rendering -/
structure TobjVal (v : PVal) : Prop where
  notMeta : isInstance v ["MetadataNode"] = false
  notTag : isInstance v ["Tag"] = false
  notRepr : isInstance v ["ReprHtml"] = false
  tagifiable : isInstance v ["Tagifiable"] = true

/-- an embedding of nodes that shows the renderer what it reads: a Tag's four fields, strings and `HTML` as themselves,
    and of every other child the answers to the class tests of the child loop and of the single-child exit -/
structure RenderEmb (E : Node → PVal) : Prop where
  tag : ∀ nm ws a k, E (.tag nm ws a k)
    = .obj "Tag" [("name", .str nm), ("attrs", embAttrs a), ("children", .obj "TagList" [("data", .list (k.toList.map E))]),
                  ("add_ws", .bool ws)]
  text : ∀ s, E (.text s) = .str s
  html : ∀ s, E (.html s) = .html s
  robj : ∀ s, ReprVal (E (.robj s)) s
  tobjL : ∀ rh c, match rh with | some s => ReprVal (E (.tobjL rh c)) s | none => TobjVal (E (.tobjL rh c))
  tobj1 : ∀ rh c, match rh with | some s => ReprVal (E (.tobj1 rh c)) s | none => TobjVal (E (.tobj1 rh c))
  isMeta : ∀ c, isInstance (E c) ["MetadataNode"] = c.isMeta
  notInline : ∀ c, inlineChild? [c] = none → isInstance (E c) ["str"] = false ∧ isInstance (E c) ["HTML"] = false

theorem reprVal_html (s : Str) : ReprVal (.html s) s := ⟨rfl, rfl, rfl, rfl⟩

/-- whatever the body of the child loop is: if a pass does, on each kind of child, what `kidStep` does, the loop followed
    by `return html_` is `renderList` (or RuntimeError when an un-expanded object is reached) -/
theorem child_loop {ρ : Type} (E : Node → PVal) (hE : RenderEmb E) (cfg : Cfg) (ks : Nodes) (i : Nat) (eol : Str)
    (aw esc : Bool) (r0 : ρ) (f : PVal → PVal × PVal × PVal × ρ → PyM (ForInStep (PVal × PVal × PVal × ρ)))
    (hmeta : ∀ v acc first prev r, isInstance v ["MetadataNode"] = true →
      Sim (fun (x : ForInStep _) b' => ∃ s', x = .yield s' ∧ RKS s' b') embErr (f v (.str acc, .bool first, .bool prev, r))
        (.ok ⟨acc, first, prev⟩))
    (hrepr : ∀ v t acc first prev r, ReprVal v t →
      Sim (fun (x : ForInStep _) b' => ∃ s', x = .yield s' ∧ RKS s' b') embErr (f v (.str acc, .bool first, .bool prev, r))
        (.ok (leafStep i eol t ⟨acc, first, prev⟩)))
    (htobj : ∀ v acc first prev r, TobjVal v → f v (.str acc, .bool first, .bool prev, r) = .error .runtimeError)
    (htext : ∀ t acc first prev r,
      Sim (fun (x : ForInStep _) b' => ∃ s', x = .yield s' ∧ RKS s' b') embErr (f (.str t) (.str acc, .bool first, .bool prev, r))
        (.ok (leafStep i eol (if esc then escText cfg t else t) ⟨acc, first, prev⟩)))
    (htag : ∀ c ∈ ks.toList, c.isTag = true → ∀ acc first prev r,
      Sim (fun (x : ForInStep _) b' => ∃ s', x = .yield s' ∧ RKS s' b') embErr (f (E c) (.str acc, .bool first, .bool prev, r))
        (kidStep cfg i eol esc c ⟨acc, first, prev⟩)) :
    (do
      let s ← forIn (ks.toList.map E) (PVal.str [], PVal.bool true, PVal.bool aw, r0) f
      Except.ok s.1 : PyM PVal)
      = if ks.hasTobjKids then .error .runtimeError else .ok (.str (renderList cfg ks i eol aw esc)) := by
  have hstep : ∀ c ∈ ks.toList, ∀ s b, RKS s b →
      Sim (fun (r : ForInStep _) b' => ∃ s', r = .yield s' ∧ RKS s' b') embErr (f (E c) s) (kidStep cfg i eol esc c b) := by
    intro c hc s b hR
    obtain ⟨s1, s2, s3, r⟩ := s
    obtain ⟨acc, first, prev⟩ := b
    obtain ⟨h1, h2, h3⟩ := hR
    simp only at h1 h2 h3
    subst h1 h2 h3
    cases c with
    | tag nm ws a k => exact htag _ hc rfl acc first prev r
    | mnode n => exact hmeta _ acc first prev r ((hE.isMeta _).trans rfl)
    | dep d hh hd => exact hmeta _ acc first prev r ((hE.isMeta _).trans rfl)
    | text t => rw [hE.text]; exact htext t acc first prev r
    | html t => rw [hE.html]; exact hrepr _ t acc first prev r (reprVal_html t)
    | robj t => exact hrepr _ t acc first prev r (hE.robj t)
    | tobjL rh cc =>
      have := hE.tobjL rh cc
      cases rh with
      | some t => exact hrepr _ t acc first prev r this
      | none => exact htobj _ acc first prev r this
    | tobj1 rh cc =>
      have := hE.tobj1 rh cc
      cases rh with
      | some t => exact hrepr _ t acc first prev r this
      | none => exact htobj _ acc first prev r this
  have sim := forIn_sim (RKS (ρ := ρ)) embErr E ks.toList f (fun c b => kidStep cfg i eol esc c b)
    (PVal.str [], PVal.bool true, PVal.bool aw, r0) ⟨[], true, aw⟩ ⟨rfl, rfl, rfl⟩ hstep
  have kf := kids_fold cfg i eol esc ks ⟨[], true, aw⟩
  generalize List.foldlM (fun b c => kidStep cfg i eol esc c b) ({ acc := [], first := true, prev := aw } : KS) ks.toList = y at sim kf
  cases y with
  | error e =>
    simp only [Sim] at sim
    rw [sim]
    by_cases hk : ks.hasTobjKids = true
    · simp only [hk, if_true, Except.map] at kf ⊢
      cases kf; rfl
    · simp [hk, Except.map] at kf
  | ok b =>
    obtain ⟨s, hs, hR⟩ := sim
    rw [hs]
    by_cases hk : ks.hasTobjKids = true
    · simp [hk, Except.map] at kf
    · simp only [hk, Bool.false_eq_true, if_false, Except.map, List.nil_append] at kf ⊢
      have kf' : b.acc = ks.renderKids cfg i eol true aw esc := by injection kf
      simp [hR.1, renderList, kf']

theorem pyIn_names (nm : Str) (l : List Str) :
    pyIn (.str nm) (.list (l.map PVal.str)) = .ok (.bool (l.contains nm)) := by
  simp only [pyIn, pure_eq_ok]
  congr 2
  induction l with
  | nil => rfl
  | cons a t ih =>
    rw [List.map_cons, List.any_cons, ih, List.contains_cons, Bool.beq_comm]

/-- one attribute, as the attribute loop writes it -/
def attrText (cfg : Cfg) (kv : Str × AttrVal) : Str :=
  ' ' :: kv.1 ++ '=' :: '"' :: emitAttrVal cfg kv.2 ++ ['"']

theorem renderAttrs_fold (cfg : Cfg) (attrs : Attrs) (acc : Str) :
    attrs.foldlM (m := Except Err) (fun b kv => .ok (b ++ attrText cfg kv)) acc = .ok (acc ++ renderAttrs cfg attrs) := by
  induction attrs generalizing acc with
  | nil => simp [renderAttrs, pure, Except.pure]
  | cons kv t ih =>
    obtain ⟨k, v⟩ := kv
    simp only [List.foldlM_cons, bind, Except.bind]
    rw [ih]
    simp [renderAttrs, attrText, List.append_assoc]

/-- the attribute loop, whatever its body and whatever else its state carries: it is enough that each pass appends the
    attribute's text to the first component -/
theorem attr_loop {ρ : Type} (cfg : Cfg) (attrs : Attrs) (acc : Str) (r0 : ρ)
    (f : PVal → PVal × ρ → PyM (ForInStep (PVal × ρ)))
    (hstep : ∀ kv ∈ attrs, ∀ (s : PVal × ρ) (b : Str), s.1 = .str b →
      ∃ s', f (.tuple [.str kv.1, embVal kv.2]) s = .ok (.yield s') ∧ s'.1 = .str (b ++ attrText cfg kv)) :
    ∃ s, forIn (attrs.map fun kv => PVal.tuple [.str kv.1, embVal kv.2]) (PVal.str acc, r0) f = .ok s
      ∧ s.1 = .str (acc ++ renderAttrs cfg attrs) := by
  have sim := forIn_sim (fun (s : PVal × ρ) (b : Str) => s.1 = .str b) embErr
    (fun kv : Str × AttrVal => PVal.tuple [.str kv.1, embVal kv.2]) attrs f
    (fun kv b => .ok (b ++ attrText cfg kv)) (PVal.str acc, r0) acc rfl
    (by
      intro kv hkv s b hR
      obtain ⟨s', h1, h2⟩ := hstep kv hkv s b hR
      exact ⟨_, h1, s', rfl, h2⟩)
  rw [renderAttrs_fold] at sim
  exact sim

theorem visible_fold (ks : List Node) (b : List Node) :
    ks.foldlM (m := Except Err) (fun b c => .ok (if c.isMeta then b else b ++ [c])) b
      = .ok (b ++ ks.filter (fun c => !c.isMeta)) := by
  induction ks generalizing b with
  | nil => simp [pure, Except.pure]
  | cons c t ih =>
    simp only [List.foldlM_cons, bind, Except.bind]
    rw [ih]
    by_cases h : c.isMeta = true <;> simp [h, List.filter_cons]

theorem visible_eq_filter (ks : Nodes) : ks.visible = ks.toList.filter (fun c => !c.isMeta) := by
  induction ks with
  | nil => rfl
  | cons h t ih =>
    simp only [Nodes.visible, Nodes.toList, List.filter_cons]
    by_cases hm : h.isMeta = true <;> simp [hm, ih]

/-- the comprehension `[x for x in self.children if not isinstance(x, MetadataNode)]`, whatever its body -/
theorem vis_loop (E : Node → PVal) (ks : Nodes) (f : PVal → List PVal → PyM (ForInStep (List PVal)))
    (hstep : ∀ c ∈ ks.toList, ∀ s, f (E c) s = .ok (.yield (if c.isMeta then s else s ++ [E c]))) :
    forIn (ks.toList.map E) ([] : List PVal) f = .ok (ks.visible.map E) := by
  have sim := forIn_sim (fun (s : List PVal) (b : List Node) => s = b.map E) embErr E ks.toList f
    (fun c b => .ok (if c.isMeta then b else b ++ [c])) [] [] rfl
    (by
      intro c hc s b hR
      subst hR
      refine ⟨_, hstep c hc _, _, rfl, ?_⟩
      by_cases h : c.isMeta = true <;> simp [h])
  rw [visible_fold] at sim
  obtain ⟨s, hs, hR⟩ := sim
  rw [hs, hR, visible_eq_filter]
  simp

theorem attr_loop_k {β ρ : Type} (cfg : Cfg) (attrs : Attrs) (acc : Str) (r0 : ρ) (L : List PVal)
    (hL : L = attrs.map fun kv => PVal.tuple [.str kv.1, embVal kv.2])
    (f : PVal → PVal × ρ → PyM (ForInStep (PVal × ρ)))
    (hstep : ∀ kv ∈ attrs, ∀ (s : PVal × ρ) (b : Str), s.1 = .str b →
      ∃ s', f (.tuple [.str kv.1, embVal kv.2]) s = .ok (.yield s') ∧ s'.1 = .str (b ++ attrText cfg kv))
    (k : PVal × ρ → PyM β) (r : PyM β)
    (hk : ∀ s, s.1 = .str (acc ++ renderAttrs cfg attrs) → k s = r) :
    (forIn L (PVal.str acc, r0) f >>= k) = r := by
  obtain ⟨s, hs, h1⟩ := attr_loop cfg attrs acc r0 f hstep
  rw [hL, hs, ok_bind]
  exact hk s h1

theorem globalsOf_void (cfg : Cfg) : (globalsOf cfg).VOID_TAG_NAMES = cfg.void := rfl
theorem globalsOf_noesc (cfg : Cfg) : (globalsOf cfg).NO_ESCAPE_TAG_NAMES = cfg.noesc := rfl

theorem pyIter_taglist (l : List PVal) : pyIter (.obj "TagList" [("data", .list l)]) = .ok l := by
  simp [pyIter]

end HtmlVerif.SrcTie
