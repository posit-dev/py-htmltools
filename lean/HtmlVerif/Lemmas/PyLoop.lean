/-
Loop rules for the translated functions.  `forIn_ok_inv`: a `for` loop whose body, on every state satisfying an invariant,
takes one step `g` without raising and without leaving the loop, is the fold of `g`.  `forIn_sim` (the rule most ties use):
a body that does, on states related to model states, what a model-level step does — yields a related state or raises the
corresponding exception — makes the loop simulate the monadic fold of that step (`Sim`, `Sim.bind`, `Sim.yield_ok`).  The
body itself is never spelled out in a proof — it is whatever the translator emitted — only its effect on the state is.
-/
import HtmlVerif.Lemmas.PyPrim

namespace HtmlVerif.Py

theorem forIn_ok_inv {α σ : Type} (Inv : σ → Prop) (l : List α) (init : σ)
    (f : α → σ → PyM (ForInStep σ)) (g : α → σ → σ) (h0 : Inv init)
    (hstep : ∀ a ∈ l, ∀ s, Inv s → f a s = .ok (.yield (g a s)) ∧ Inv (g a s)) :
    forIn l init f = .ok (l.foldl (fun s a => g a s) init) ∧ Inv (l.foldl (fun s a => g a s) init) := by
  induction l generalizing init with
  | nil => exact ⟨rfl, h0⟩
  | cons a t ih =>
    have ⟨e, hi⟩ := hstep a (by simp) init h0
    have := ih (g a init) hi (fun b hb s hs => hstep b (by simp [hb]) s hs)
    simp only [List.forIn_cons, e, ok_bind, List.foldl_cons]
    exact this

theorem forIn_ok {α σ : Type} (l : List α) (init : σ)
    (f : α → σ → PyM (ForInStep σ)) (g : α → σ → σ)
    (hstep : ∀ a ∈ l, ∀ s, f a s = .ok (.yield (g a s))) :
    forIn l init f = .ok (l.foldl (fun s a => g a s) init) :=
  (forIn_ok_inv (fun _ => True) l init f g trivial (fun a ha s _ => ⟨hstep a ha s, trivial⟩)).1

theorem forIn_error {α σ : Type} (l₁ : List α) (a : α) (l₂ : List α) (init : σ)
    (f : α → σ → PyM (ForInStep σ)) (g : α → σ → σ) (e : PyErr)
    (hstep : ∀ b ∈ l₁, ∀ s, f b s = .ok (.yield (g b s)))
    (herr : f a (l₁.foldl (fun s b => g b s) init) = .error e) :
    forIn (l₁ ++ a :: l₂) init f = .error e := by
  induction l₁ generalizing init with
  | nil => simp only [List.nil_append, List.forIn_cons]; simp only [List.foldl_nil] at herr; rw [herr]; rfl
  | cons b t ih =>
    simp only [List.cons_append, List.forIn_cons, hstep b (by simp) init, ok_bind]
    exact ih (g b init) (fun c hc s => hstep c (by simp [hc]) s) (by simpa using herr)

def Sim {σ β ε : Type} (R : σ → β → Prop) (emb : ε → PyErr) (x : PyM σ) (y : Except ε β) : Prop :=
  match y with
  | .ok b => ∃ s, x = .ok s ∧ R s b
  | .error e => x = .error (emb e)

theorem forIn_sim {α γ σ β ε : Type} (R : σ → β → Prop) (emb : ε → PyErr) (e : γ → α) (l : List γ)
    (f : α → σ → PyM (ForInStep σ)) (m : γ → β → Except ε β) (init : σ) (b0 : β) (h0 : R init b0)
    (hstep : ∀ c ∈ l, ∀ s b, R s b →
      Sim (fun (r : ForInStep σ) b' => ∃ s', r = .yield s' ∧ R s' b') emb (f (e c) s) (m c b)) :
    Sim R emb (forIn (l.map e) init f) (l.foldlM (fun b c => m c b) b0) := by
  induction l generalizing init b0 with
  | nil => exact ⟨init, rfl, h0⟩
  | cons a t ih =>
    have hs := hstep a (by simp) init b0 h0
    simp only [List.foldlM_cons, List.map_cons, List.forIn_cons]
    cases hm : m a b0 with
    | error e =>
      rw [hm] at hs
      simp only [Sim] at hs
      rw [hs]
      exact rfl
    | ok b1 =>
      rw [hm] at hs
      obtain ⟨r, hr, s', rfl, hR⟩ := hs
      rw [hr]
      exact ih s' b1 hR (fun c hc s b hsb => hstep c (by simp [hc]) s b hsb)

theorem Sim.yield_ok {σ β ε : Type} {R : σ → β → Prop} {emb : ε → PyErr} {x : PyM (ForInStep σ)} {b : β} (X : σ)
    (hx : x = .ok (.yield X)) (hR : R X b) :
    Sim (fun (r : ForInStep σ) b' => ∃ s', r = .yield s' ∧ R s' b') emb x (.ok b) :=
  ⟨_, hx, X, rfl, hR⟩

theorem Sim.bind {σ τ β ε : Type} {R : σ → β → Prop} {R' : τ → β → Prop} {emb : ε → PyErr}
    {x : PyM σ} {y : Except ε β} {k : σ → PyM τ}
    (hx : Sim R emb x y) (hk : ∀ s b, R s b → ∃ t, k s = .ok t ∧ R' t b) : Sim R' emb (x >>= k) y := by
  cases y with
  | error e => simp only [Sim] at hx ⊢; rw [hx]; rfl
  | ok b =>
    obtain ⟨s, hs, hR⟩ := hx
    obtain ⟨t, ht, hR'⟩ := hk s b hR
    exact ⟨t, by rw [hs]; exact ht, hR'⟩

theorem Sim.eq_embRes {σ β ε : Type} {emb : ε → PyErr} {f : β → σ} {x : PyM σ} {y : Except ε β}
    (h : Sim (fun s b => s = f b) emb x y) :
    x = match y with | .ok b => .ok (f b) | .error e => .error (emb e) := by
  cases y with
  | error e => exact h
  | ok b => obtain ⟨s, hs, rfl⟩ := h; exact hs

end HtmlVerif.Py
