/-
Helper lemmas for C12: the copy loop of copy_to over the abstract file system.
-/
import HtmlVerif.Lemmas.FS
import HtmlVerif.Lemmas.Paths

namespace HtmlVerif
open FS

theorem copyOne_file {it : Path × Path} {fs : FS} {c : Bytes} (h : fs.read it.1 = some c) :
    copyOne it fs = (fs.write it.2 c, .ok ()) := by
  simp [copyOne, h]

theorem copyOne_dir {it : Path × Path} {fs : FS} (h : fs.read it.1 = none) (hd : fs.isDir it.1 = true)
    (he : fs.exists it.2 = false) : copyOne it fs = (fs.copyTree it.1 it.2, .ok ()) := by
  simp [copyOne, h, hd, he]

theorem copyOne_skip {it : Path × Path} {fs : FS} (h : fs.read it.1 = none) (hd : fs.isDir it.1 = false) :
    copyOne it fs = (fs, .ok ()) := by
  simp [copyOne, h, hd]

theorem copyLoop_cons_ok {it : Path × Path} {r : List (Path × Path)} {fs fs1 : FS}
    (h : copyOne it fs = (fs1, .ok ())) : copyLoop (it :: r) fs = copyLoop r fs1 := by
  simp [copyLoop, h]

theorem copyOne_fresh {s t : Path} {fs : FS} (ht0 : t ≠ []) (ht : ∀ r, fs.read (t ++ r) = none)
    (hs : (fs.read s).isSome = true → ∀ r, r ≠ [] → fs.read (s ++ r) = none) :
    ∃ fs', copyOne (s, t) fs = (fs', .ok ()) ∧ (∀ r, fs'.read (t ++ r) = fs.read (s ++ r)) ∧
      ∀ q, ¬ t <+: q → fs'.read q = fs.read q := by
  cases hc : fs.read s with
  | some c =>
    refine ⟨_, copyOne_file hc, fun r => ?_, fun q hq => ?_⟩
    · rw [read_write]
      by_cases hr : r = []
      · simp [hr, hc]
      · simp [hr, ht r, hs (by simp [hc]) r hr]
    · rw [read_write, if_neg]
      rintro rfl
      exact hq (List.prefix_refl _)
  | none =>
    cases hd : fs.isDir s with
    | true =>
      have hex : fs.exists t = false := by
        rw [Bool.eq_false_iff, ne_eq, exists_iff]
        rintro (h | ⟨r, h⟩)
        · exact ht0 h
        · simp [ht r] at h
      exact ⟨_, copyOne_dir hc hd hex, fun r => by rw [read_copyTree_under, ht r, Option.or_none],
        fun q hq => read_copyTree_outside _ _ _ _ hq⟩
    | false =>
      refine ⟨fs, copyOne_skip hc hd, fun r => ?_, fun _ _ => rfl⟩
      rw [ht r]
      by_cases hr : r = []
      · simp [hr, hc]
      · exact (read_below_of_not_isDir hd hr).symm

theorem copyLoop_files {S T : Path} (hST : Apart S T) :
    ∀ (rels : List Path) (fs : FS), (∀ r ∈ rels, (fs.read (S ++ r)).isSome = true) →
      ∃ fs', copyLoop (rels.map fun r => (S ++ r, T ++ r)) fs = (fs', .ok ()) ∧
        (∀ q, ¬ T <+: q → fs'.read q = fs.read q) ∧
        (∀ r, fs'.read (T ++ r) = if r ∈ rels then fs.read (S ++ r) else fs.read (T ++ r)) := by
  intro rels
  induction rels with
  | nil => intro fs _; exact ⟨fs, by simp [copyLoop], fun _ _ => rfl, by simp⟩
  | cons r rest ih =>
    intro fs hfiles
    obtain ⟨c, hc⟩ := Option.isSome_iff_exists.mp (hfiles r (by simp))
    have hout : ∀ q, ¬ T <+: q → (fs.write (T ++ r) c).read q = fs.read q := by
      intro q hq
      rw [read_write, if_neg]
      rintro rfl
      exact hq (List.prefix_append T r)
    have hsrc : ∀ x, (fs.write (T ++ r) c).read (S ++ x) = fs.read (S ++ x) := fun x =>
      hout _ (not_prefix_of_apart hST x)
    obtain ⟨fs', hl, hF, hS⟩ := ih (fs.write (T ++ r) c) (fun x hx => by rw [hsrc]; exact hfiles x (by simp [hx]))
    refine ⟨fs', ?_, fun q hq => (hF q hq).trans (hout q hq), fun x => ?_⟩
    · simp only [List.map_cons]; rw [copyLoop_cons_ok (copyOne_file hc)]; exact hl
    · rw [hS x, hsrc, read_write]
      by_cases hx : x ∈ rest
      · simp [hx]
      · by_cases hxr : x = r
        · simp [hxr, hc]
        · simp [hx, hxr]

theorem snoc_prefix_cons {T : Path} {n m : Bytes} {r : Path} : T ++ [n] <+: T ++ m :: r ↔ n = m := by
  simp [List.prefix_append_right_inj]

/-- the loop over the top-level names of the source directory (`all_files`), the target cleared beforehand -/
theorem copyLoop_all {S T : Path} (hST : Apart S T) :
    ∀ (names : List Bytes) (fs : FS), names.Nodup → SrcWF fs S →
      (∀ n ∈ names, ∀ r, fs.read (T ++ n :: r) = none) →
      ∃ fs', copyLoop (names.map fun n => (S ++ [n], T ++ [n])) fs = (fs', .ok ()) ∧
        (∀ n ∈ names, ∀ r, fs'.read (T ++ n :: r) = fs.read (S ++ n :: r)) ∧
        (∀ q, (∀ n ∈ names, ¬ T ++ [n] <+: q) → fs'.read q = fs.read q) := by
  intro names
  induction names with
  | nil => intro fs _ _ _; exact ⟨fs, by simp [copyLoop], by simp, fun _ _ => rfl⟩
  | cons n rest ih =>
    intro fs hnd hwf hclr
    obtain ⟨hn, hnd'⟩ := List.nodup_cons.mp hnd
    obtain ⟨fs1, hone, hMine, hOut⟩ := copyOne_fresh (s := S ++ [n]) (t := T ++ [n]) (fs := fs) (by simp)
      (fun r => by simpa using hclr n (by simp) r) (fun h r hr => by simpa using hwf n r hr h)
    have hsrc : ∀ x, fs1.read (S ++ x) = fs.read (S ++ x) := fun x =>
      hOut _ (fun h => not_prefix_of_apart hST x ((List.prefix_append T [n]).trans h))
    have hother : ∀ m ∈ rest, ∀ r, fs1.read (T ++ m :: r) = fs.read (T ++ m :: r) := fun m hm r =>
      hOut _ (fun h => hn (by rwa [snoc_prefix_cons.mp h]))
    obtain ⟨fs', hl, hM, hO⟩ := ih fs1 hnd' (hwf.congr hsrc)
      (fun m hm r => by rw [hother m hm]; exact hclr m (by simp [hm]) r)
    refine ⟨fs', ?_, ?_, fun q hq => ?_⟩
    · simp only [List.map_cons]; rw [copyLoop_cons_ok hone]; exact hl
    · intro m hm r
      rcases List.mem_cons.mp hm with rfl | hm
      · rw [hO _ (fun k hk h => hn (by rwa [← snoc_prefix_cons.mp h]))]
        simpa using hMine r
      · rw [hM m hm r, hsrc]
    · rw [hO q (fun m hm => hq m (by simp [hm]))]
      exact hOut q (hq n (by simp))

end HtmlVerif
