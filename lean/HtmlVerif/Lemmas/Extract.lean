/-
Extraction (C13): scanning an interleaving of text and serialised dependencies, recovering each body.
-/
import HtmlVerif.Lemmas.Scan
import HtmlVerif.Lemmas.NoOpen
import HtmlVerif.Lemmas.Recover

namespace HtmlVerif

abbrev Item := Option Nat × SDep × Str

def Item.body (it : Item) : Str := serBody it.1 it.2.1

def remText (t0 : Str) : List Item → Str
  | [] => t0
  | (_, _, t) :: r => t0 ++ remText t r

theorem interleave_eq (t0 : Str) (items : List Item) :
    interleave t0 items = interleaveB t0 (items.map fun it => (it.body, it.2.2)) := by
  induction items generalizing t0 with
  | nil => rfl
  | cons it r ih => obtain ⟨i, d, t⟩ := it; simp [interleave, interleaveB, tdSerialize, Item.body, ih]

theorem chunksOf_eq (t0 : Str) (items : List Item) :
    chunksOf t0 (items.map fun it => (it.body, it.2.2)) = remText t0 items := by
  induction items generalizing t0 with
  | nil => rfl
  | cons it r ih => obtain ⟨i, d, t⟩ := it; simp [chunksOf, remText, ih]

theorem serBody_noLtSlash (ind : Option Nat) (d : SDep) : hasLtSlash (serBody ind d) = false :=
  neutG_no_lt_slash false _

theorem jsonParse_serBody (ind : Option Nat) (d : SDep) : jsonParse (serBody ind d) = some (depToJson d) :=
  jsonParse_neutralise ind _

theorem recover_serBody (ind : Option Nat) (d : SDep) (hw : d.wellFormed = true) :
    recover (serBody ind d) = .ok d.norm := by
  simp [recover, jsonParse_serBody, depOfJson_depToJson d hw]

theorem recoverAll_bodies (l : List Item) (hw : ∀ it ∈ l, it.2.1.wellFormed = true) :
    recoverAll (l.map Item.body) = .ok (l.map fun it => it.2.1.norm) := by
  induction l with
  | nil => rfl
  | cons it r ih =>
    have h1 := recover_serBody it.1 it.2.1 (hw it (by simp))
    have h2 := ih (fun x hx => hw x (by simp [hx]))
    simp only [List.map_cons, recoverAll]
    rw [show it.body = serBody it.1 it.2.1 from rfl, h1]
    simp only [h2]

theorem scan_interleave (t0 : Str) (items : List Item) (f : Nat) (hf : items.length ≤ f)
    (h0 : ¬ openMarker <:+: t0) (hi : ∀ it ∈ items, ¬ openMarker <:+: it.2.2) :
    scan f (interleave t0 items) = (remText t0 items, items.map Item.body) := by
  rw [interleave_eq, scan_interleaveB t0 _ f (by simpa using hf) h0, chunksOf_eq]
  · simp [List.map_map, Function.comp_def]
  · intro it hit
    simp only [List.mem_map] at hit
    obtain ⟨x, hx, rfl⟩ := hit
    exact ⟨serBody_noLtSlash _ _, hi x hx⟩

theorem extract_interleave (t0 : Str) (items : List Item)
    (h0 : ¬ openMarker <:+: t0) (hi : ∀ it ∈ items, ¬ openMarker <:+: it.2.2)
    (hw : ∀ it ∈ items, it.2.1.wellFormed = true) :
    extract (interleave t0 items)
      = .ok (remText t0 items, (dedupOn Item.body items).map fun it => it.2.1.norm) := by
  have hlen : items.length ≤ (interleave t0 items).length := by
    rw [interleave_eq]; simpa using length_interleaveB t0 (items.map fun it => (it.body, it.2.2))
  have hs := scan_interleave t0 items _ hlen h0 hi
  have hr := recoverAll_bodies (dedupOn Item.body items)
    (fun it hit => hw it ((dedupOnGo_sublist _ _ _).subset hit))
  simp only [extract, hs, dedupKeepFirst_map, hr]

/-! ### JSON render mode as an interleaving -/

/-- the serialised copies appended in JSON mode: joined by newlines -/
def jmItems : List SDep → List Item
  | [] => []
  | [d] => [(none, d, [])]
  | d :: d' :: r => (none, d, ['\n']) :: jmItems (d' :: r)

theorem jsonModeStr_eq (html : Str) (ds : List SDep) : jsonModeStr html ds = interleave html (jmItems ds) := by
  unfold jsonModeStr
  induction ds using jmItems.induct generalizing html with
  | case1 => simp [joinStr, jmItems, interleave]
  | case2 d => simp [joinStr, jmItems, interleave]
  | case3 d d' r ih => simp [joinStr, jmItems, interleave, ← ih]

theorem remText_jmItems (html : Str) (ds : List SDep) :
    remText html (jmItems ds) = html ++ List.replicate (ds.length - 1) '\n' := by
  induction ds using jmItems.induct generalizing html with
  | case1 => simp [jmItems, remText]
  | case2 d => simp [jmItems, remText]
  | case3 d d' r ih => simp [jmItems, remText, ih, List.replicate_succ]

/-- the chunks between the serialised copies are at most a newline: too short for the marker -/
theorem jmItems_chunks (ds : List SDep) : ∀ it ∈ jmItems ds, ¬ openMarker <:+: it.2.2 := by
  have short (t : Str) (ht : t.length ≤ 1) : ¬ openMarker <:+: t := fun h =>
    absurd (Nat.le_trans h.length_le ht) (by decide)
  induction ds using jmItems.induct with
  | case1 => exact fun _ h => absurd h List.not_mem_nil
  | case2 d => simpa [jmItems] using short [] (by decide)
  | case3 d d' r ih => exact List.forall_mem_cons.mpr ⟨short ['\n'] (by decide), ih⟩

theorem jmItems_deps (ds : List SDep) : (jmItems ds).map (·.2.1) = ds := by
  induction ds using jmItems.induct with
  | case1 => rfl
  | case2 d => rfl
  | case3 d d' r ih => exact congrArg (d :: ·) ih

theorem jmItems_body (ds : List SDep) : (jmItems ds).map Item.body = ds.map (serBody none) := by
  induction ds using jmItems.induct with
  | case1 => rfl
  | case2 d => rfl
  | case3 d d' r ih => exact congrArg (serBody none d :: ·) ih

end HtmlVerif
