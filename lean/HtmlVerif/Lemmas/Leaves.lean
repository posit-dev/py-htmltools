/-
Text leaves under a map of their strings (Spec/Leaves.lean): the visible children and the single-child exit are preserved.
-/
import HtmlVerif.Spec.Leaves
import HtmlVerif.Lemmas.Pieces

namespace HtmlVerif

theorem visible_mapText (g : Str → Str) (ks : Nodes) :
    (ks.mapTextKids g).visible = ks.visible.map (Node.mapText g) := by
  induction ks with
  | nil => simp [Nodes.mapTextKids, Nodes.visible]
  | cons h t ih => cases h <;> simp_all [Nodes.mapTextKids, Nodes.visible, Node.isMeta, Node.mapText]

theorem inlineChild?_mapText (g : Str → Str) (v : List Node) :
    inlineChild? (v.map (Node.mapText g)) = (inlineChild? v).map (fun c => (if c.2 then c.1 else g c.1, c.2)) := by
  match v with
  | [] => rfl
  | [a] => cases a <;> simp [Node.mapText, inlineChild?]
  | a :: b :: r => simp

theorem oneLine_mapText (g : Str → Str) (ks : Nodes) : (ks.mapTextKids g).oneLine = ks.oneLine := by
  simp [Nodes.oneLine, visible_mapText, inlineChild?_mapText]

@[simp] theorem txt?_opn (n : Str) (w : Bool) (a : Attrs) (sc : Bool) : Piece.txt? (.opn n w a sc) = none := rfl
@[simp] theorem txt?_cls (n : Str) (w : Bool) : Piece.txt? (.cls n w) = none := rfl
@[simp] theorem txt?_ws (s : Str) : Piece.txt? (.ws s) = none := rfl
@[simp] theorem txt?_txt (s : Str) : Piece.txt? (.txt s) = some s := rfl
@[simp] theorem txt?_raw (s : Str) : Piece.txt? (.raw s) = none := rfl
@[simp] theorem raw?_opn (n : Str) (w : Bool) (a : Attrs) (sc : Bool) : Piece.raw? (.opn n w a sc) = none := rfl
@[simp] theorem raw?_cls (n : Str) (w : Bool) : Piece.raw? (.cls n w) = none := rfl
@[simp] theorem raw?_ws (s : Str) : Piece.raw? (.ws s) = none := rfl
@[simp] theorem raw?_txt (s : Str) : Piece.raw? (.txt s) = none := rfl
@[simp] theorem raw?_raw (s : Str) : Piece.raw? (.raw s) = some s := rfl
@[simp] theorem skel_opn (n : Str) (w : Bool) (a : Attrs) (sc : Bool) : Piece.skel (.opn n w a sc) = .opn n w a sc := rfl
@[simp] theorem skel_cls (n : Str) (w : Bool) : Piece.skel (.cls n w) = .cls n w := rfl
@[simp] theorem skel_ws (s : Str) : Piece.skel (.ws s) = .ws s := rfl
@[simp] theorem skel_txt (s : Str) : Piece.skel (.txt s) = .txt [] := rfl
@[simp] theorem skel_raw (s : Str) : Piece.skel (.raw s) = .raw [] := rfl

@[simp] theorem map_skel_wsP (s : Str) : (wsP s).map Piece.skel = wsP s := by
  unfold wsP; split <;> simp [Piece.skel]

end HtmlVerif
