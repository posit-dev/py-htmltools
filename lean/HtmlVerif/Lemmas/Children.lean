/-
Helper lemmas for C14 (flatten-then-convert vs the one-pass specification, list algebra).
-/
import HtmlVerif.Spec.Children

namespace HtmlVerif

@[simp] theorem Args.toList_ofList (l : List Arg) : (Args.ofList l).toList = l := by
  induction l with
  | nil => rfl
  | cons h t ih => simp [Args.ofList, Args.toList, ih]

@[simp] theorem Args.ofList_toList : (xs : Args) → Args.ofList xs.toList = xs
  | .nil => rfl
  | .cons h t => congrArg (Args.cons h) (Args.ofList_toList t)

theorem Node.isTagNode_true (n : Node) : n.isTagNode = true := by
  cases n <;> rfl

/-! ### the accumulator of `_flatten_recurse` only ever grows at the end -/

mutual
  theorem Arg.flattenItem_acc (a : Arg) (acc : List Arg) :
      a.flattenItem acc = acc ++ a.flattenItem [] := by
    cases a with
    | list xs | tuple xs | taglist xs => exact Args.flattenInto_acc xs acc
    | _ => simp [Arg.flattenItem]
  theorem Args.flattenInto_acc (xs : Args) (acc : List Arg) :
      xs.flattenInto acc = acc ++ xs.flattenInto [] := by
    cases xs with
    | nil => simp [Args.flattenInto]
    | cons h t =>
      simp only [Args.flattenInto]
      rw [Args.flattenInto_acc t (h.flattenItem acc), Args.flattenInto_acc t (h.flattenItem []),
        Arg.flattenItem_acc h acc, List.append_assoc]
end

theorem flatten_cons (h : Arg) (t : Args) :
    flatten (.cons h t) = h.flattenItem [] ++ flatten t :=
  Args.flattenInto_acc t _

attribute [simp] mapOk

@[simp] def both {α} : Except Err (List α) → Except Err (List α) → Except Err (List α)
  | .error e, _ => .error e
  | .ok x, b => mapOk (x ++ ·) b

theorem mapOk_mapOk {α β γ} (g : β → γ) (f : α → β) (r : Except Err α) :
    mapOk g (mapOk f r) = mapOk (fun x => g (f x)) r := by
  cases r <;> rfl

theorem mapOk_eq_error {α β} {f : α → β} {r : Except Err α} {e : Err} : mapOk f r = .error e ↔ r = .error e := by
  cases r <;> simp

theorem convertLoop_append (a b : List Arg) :
    convertLoop (a ++ b) = both (convertLoop a) (convertLoop b) := by
  induction a with
  | nil => show convertLoop b = both (.ok []) (convertLoop b); cases convertLoop b <;> rfl
  | cons x r ih =>
    rw [List.cons_append, convertLoop.eq_def (x :: (r ++ b)), convertLoop.eq_def (x :: r)]
    simp only [ih]
    -- a number, or else something that passes `is_tag_node` or not
    split
    · cases convertLoop r <;> cases convertLoop b <;> rfl
    · split
      · cases convertLoop r <;> cases convertLoop b <;> rfl
      · rfl

theorem Args.spec_cons (h : Arg) (t : Args) : (Args.cons h t).spec = both h.spec t.spec := by
  rw [Args.spec]
  cases h.spec <;> cases t.spec <;> rfl

/-! ### flatten-then-convert is the one-pass specification -/

mutual
  theorem Arg.convert_flatten (a : Arg) :
      convertLoop (a.flattenItem []) = mapOk (List.map Stored.node) a.spec := by
    cases a with
    | list xs | tuple xs | taglist xs => exact Args.convert_flatten xs
    | node n => cases n <;> rfl
    | _ => rfl
  theorem Args.convert_flatten (xs : Args) :
      convertLoop (flatten xs) = mapOk (List.map Stored.node) xs.spec := by
    cases xs with
    | nil => rfl
    | cons h t =>
      rw [flatten_cons, convertLoop_append, Arg.convert_flatten h, Args.convert_flatten t, Args.spec_cons]
      cases h.spec <;> cases t.spec <;> simp
end

theorem flatSpec_cons (a : Arg) (r : List Arg) : flatSpec (a :: r) = both a.spec (flatSpec r) :=
  Args.spec_cons _ _

theorem flatSpec_append (a b : List Arg) : flatSpec (a ++ b) = both (flatSpec a) (flatSpec b) := by
  induction a with
  | nil => show flatSpec b = both (.ok []) (flatSpec b); cases flatSpec b <;> rfl
  | cons x r ih =>
    rw [List.cons_append, flatSpec_cons, flatSpec_cons, ih]
    cases x.spec <;> cases flatSpec r <;> cases flatSpec b <;> simp

theorem flatSpec_singleton (a : Arg) : flatSpec [a] = a.spec := by
  rw [flatSpec_cons]
  cases a.spec <;> simp [flatSpec, Args.ofList, Args.spec]

theorem toArg_nodes (s : List Node) : TL.toArg (s.map Stored.node) = selfArg s := by
  simp [TL.toArg, TL.toArgs, selfArg, List.map_map, Function.comp_def, Stored.toArg]

theorem selfArg_spec (s : List Node) : (selfArg s).spec = .ok s := by
  show flatSpec (s.map Arg.node) = .ok s
  induction s with
  | nil => rfl
  | cons n r ih => rw [List.map_cons, flatSpec_cons, ih]; rfl

/-- `TagList(data)` for a `data` of nodes, as slicing and repetition call it -/
theorem flatSpec_list_nodes (s : List Node) : flatSpec [.list (TL.toArgs (s.map .node))] = .ok s := by
  rw [flatSpec_singleton]
  exact (congrArg Arg.spec (toArg_nodes s)).trans (selfArg_spec s)

theorem resolve_nodes (s : List Node) (a : OArg) : a.resolve (s.map Stored.node) = a.resolveSpec s := by
  cases a <;> simp [OArg.resolve, OArg.resolveSpec, toArg_nodes]

theorem Inv.eq_nodes {s : TL} (h : Inv s) : s = (TL.nodes s).map Stored.node := by
  induction s with
  | nil => rfl
  | cons x r ih =>
    obtain ⟨hx, hr⟩ := List.forall_mem_cons.1 h
    cases x with
    | node n => rw [TL.nodes, List.map_cons, ← ih hr]
    | raw a => cases hx

theorem inv_nodes (s : List Node) : Inv (s.map Stored.node) := by
  intro x hx
  obtain ⟨n, _, rfl⟩ := List.mem_map.1 hx
  rfl

theorem nodes_map (s : List Node) : TL.nodes (s.map Stored.node) = s := by
  induction s with
  | nil => rfl
  | cons n r ih => simp [TL.nodes, ih]

theorem invB_iff (s : TL) : invB s = true ↔ Inv s := by
  simp [invB, Inv, List.all_eq_true]

/-! ### supported types, and the one way to fail -/

mutual
  theorem Arg.spec_supported (a : Arg) :
      if a.supported then ∃ ns, a.spec = .ok ns else a.spec = .error .typeError := by
    cases a with
    | list xs | tuple xs | taglist xs => exact Args.spec_supported xs
    | seqLike k xs | bad k => rfl
    | _ => exact ⟨_, rfl⟩
  theorem Args.spec_supported (xs : Args) :
      if xs.supported then ∃ ns, xs.spec = .ok ns else xs.spec = .error .typeError := by
    cases xs with
    | nil => exact ⟨_, rfl⟩
    | cons x t =>
      have hx := Arg.spec_supported x
      have ht := Args.spec_supported t
      rw [Args.supported, Args.spec_cons]
      split at hx
      · obtain ⟨a, ha⟩ := hx
        split at ht
        · obtain ⟨b, hb⟩ := ht
          simp [*]
        · simp [*]
      · simp [*]
end

theorem Arg.spec_of_unsupported (a : Arg) (h : a.supported = false) : a.spec = .error .typeError := by
  simpa [h] using a.spec_supported

theorem Args.supported_ofList (l : List Arg) : (Args.ofList l).supported = l.all Arg.supported := by
  induction l with
  | nil => rfl
  | cons h t ih => simp [Args.ofList, Args.supported, ih]

theorem flatSpec_supported (args : List Arg) :
    if args.all Arg.supported then ∃ ns, flatSpec args = .ok ns else flatSpec args = .error .typeError := by
  rw [← Args.supported_ofList]
  exact (Args.ofList args).spec_supported

theorem Args.spec_error {xs : Args} {e : Err} (h : xs.spec = .error e) : e = .typeError := by
  have hs := xs.spec_supported
  split at hs
  · obtain ⟨ns, hn⟩ := hs
    cases hn.symm.trans h
  · cases hs.symm.trans h
    rfl

theorem operandSpec_list (xs : Args) : operandSpec (.list xs) = flatSpec xs.toList := rfl

theorem operandSpec_tuple (xs : Args) : operandSpec (.tuple xs) = flatSpec xs.toList := rfl

theorem operandSpec_error {a : Arg} {e : Err} (h : operandSpec a = .error e) : e = .typeError := by
  unfold operandSpec at h
  split at h
  · exact Args.spec_error h
  · next hc =>
    cases h
    -- `childrenOf` fails only where `iter` does
    unfold childrenOf at hc
    split at hc
    · cases hc
    · cases hi : a.iter with
      | ok items => rw [hi] at hc; cases hc
      | error e' =>
        rw [hi] at hc; cases hc
        unfold Arg.iter at hi
        split at hi <;> cases hi <;> rfl

theorem specStep_error {s : List Node} {op : Op} {e : Err} (h : specStep s op = .error e) :
    e = .typeError ∨ (e = .valueError ∧ ∃ lo hi, op = .slice lo hi (some 0)) := by
  cases op with
  | init args => exact .inl (Args.spec_error h)
  | extend a | add a | radd a | iadd a => exact .inl (operandSpec_error (mapOk_eq_error.1 h))
  | append args =>
    cases args with
    | nil => cases h; exact .inl rfl
    | cons a r => exact .inl (Args.spec_error (mapOk_eq_error.1 h))
  | insert i a => exact .inl (Args.spec_error (mapOk_eq_error.1 h))
  | slice lo hi st =>
    rw [specStep] at h
    split at h
    · cases h
      subst ‹st = some 0›
      exact .inr ⟨rfl, lo, hi, rfl⟩
    · cases h
  | mul n | rmul n | imul n => cases h

/-! ### list primitives commute with the embedding of nodes -/

theorem pySlice_map {α β} (f : α → β) (l : List α) (lo hi : Option Int) (st : Int) :
    pySlice (l.map f) lo hi st = (pySlice l lo hi st).map f := by
  simp only [pySlice, List.length_map, List.map_filterMap, List.getElem?_map]

theorem rep_map {α β} (f : α → β) (n : Int) (l : List α) : rep n (l.map f) = (rep n l).map f := by
  simp [rep, List.map_flatten, List.map_replicate]

theorem StepOut.ofSpec_eq (s : List Node) (r : Except Err (List Node)) :
    StepOut.ofSpec s r = rebind (s.map .node) (mapOk (List.map .node) r) := by
  cases r <;> rfl

end HtmlVerif
