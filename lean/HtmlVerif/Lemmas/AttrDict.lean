/-
The association-list dictionary (`alookup`, `dictSet`, `dictUpdate`) and the closed form of the two loops of
`TagAttrDict.update`. Both closed forms are reached the same way: the first entry of the dictionary being
written to keeps its place and absorbs what the loop has for its name, and the loop goes on without that name
(`accumNorm_cons_acc`, `dictUpdate_cons_left`).
-/
import HtmlVerif.Spec.AttrMerge

namespace HtmlVerif

theorem dropOneTrailing_eq (c : Char) (x : Str) :
    dropOneTrailing c x = if x.getLast? = some c then x.dropLast else x := by
  fun_induction dropOneTrailing c x <;> simp_all [List.getLast?_cons_cons]
  split <;> simp

theorem normAttrName_eq_spec (x : Str) : normAttrName x = normNameSpec x := by
  simp [normAttrName, normNameSpec, dropOneTrailing_eq]

theorem underscore_not_mem_normAttrName (x : Str) : '_' ∉ normAttrName x := by
  simp only [normAttrName, List.mem_map, not_exists, not_and]
  intro c _
  split <;> simp_all

theorem normAttrName_of_no_underscore {y : Str} (h : '_' ∉ y) : normAttrName y = y := by
  have h1 : y.getLast? ≠ some '_' := fun hl => h (List.mem_of_getLast? hl)
  have h2 : ∀ c ∈ y, (if c = '_' then '-' else c) = c := fun c hc => if_neg fun (e : c = '_') => h (e ▸ hc)
  simp only [normAttrName, h1, if_false, List.map_congr_left h2, List.map_id']

theorem normAttrName_idem (x : Str) : normAttrName (normAttrName x) = normAttrName x :=
  normAttrName_of_no_underscore (underscore_not_mem_normAttrName x)

@[simp] theorem keysOf_singleton (k : Str) (v : AttrVal) : keysOf [(k, v)] = [k] := rfl

@[simp] theorem keysOf_nil : keysOf [] = [] := rfl

theorem keysOf_cons (kv : Str × AttrVal) (a : Attrs) : keysOf (kv :: a) = kv.1 :: keysOf a := rfl

theorem alookup_eq_none_iff {β} (q : Str) (a : List (Str × β)) :
    alookup q a = none ↔ q ∉ a.map Prod.fst := by
  fun_induction alookup q a <;> simp_all [@eq_comm _ q]

theorem alookup_isSome_iff {β} (q : Str) (a : List (Str × β)) :
    (alookup q a).isSome ↔ q ∈ a.map Prod.fst := by
  rw [Option.isSome_iff_ne_none, Ne, alookup_eq_none_iff, Classical.not_not]

theorem alookup_append {β} (q : Str) (a b : List (Str × β)) :
    alookup q (a ++ b) = (alookup q a).or (alookup q b) := by
  fun_induction alookup q a <;> simp_all [alookup]

theorem alookup_filter {β} (q : Str) (p : Str → Bool) (a : List (Str × β)) :
    alookup q (a.filter fun kv => p kv.1) = if p q then alookup q a else none := by
  induction a with
  | nil => simp [alookup]
  | cons hd t ih =>
    by_cases hk : hd.1 = q
    · cases hp : p q <;> simp [List.filter, alookup, hk, hp, ih]
    · cases hp : p hd.1 <;> simp [List.filter, alookup, hk, hp, ih]

theorem alookup_map_val {β γ} (q : Str) (f : Str → β → γ) (a : List (Str × β)) :
    alookup q (a.map fun kv => (kv.1, f kv.1 kv.2)) = (alookup q a).map (f q) := by
  fun_induction alookup q a <;> simp_all [alookup]

theorem dictSet_of_not_mem (k : Str) (v : AttrVal) (a : Attrs) (h : k ∉ keysOf a) :
    dictSet k v a = a ++ [(k, v)] := by
  fun_induction dictSet k v a <;> simp_all [keysOf_cons]

theorem keysOf_dictSet (k : Str) (v : AttrVal) (a : Attrs) :
    keysOf (dictSet k v a) = if k ∈ keysOf a then keysOf a else keysOf a ++ [k] := by
  fun_induction dictSet k v a <;> simp_all [keysOf_cons, @eq_comm _ k]
  split <;> rfl

theorem nodup_dictSet (k : Str) (v : AttrVal) (a : Attrs) (h : (keysOf a).Nodup) :
    (keysOf (dictSet k v a)).Nodup := by
  rw [keysOf_dictSet]
  split
  · exact h
  · rename_i hk
    have : ∀ x ∈ keysOf a, x ≠ k := fun x hx e => hk (e ▸ hx)
    simpa [List.nodup_append, h]

theorem alookup_dictSet_self (k : Str) (v : AttrVal) (a : Attrs) : alookup k (dictSet k v a) = some v := by
  fun_induction dictSet k v a <;> simp_all [alookup]

theorem alookup_dictSet_ne (q k : Str) (v : AttrVal) (a : Attrs) (h : q ≠ k) :
    alookup q (dictSet k v a) = alookup q a := by
  fun_induction dictSet k v a <;> simp_all [alookup, Ne.symm h]

theorem groupVals_filter (q : Str) (p : Str → Bool) (r : List (Str × AttrVal)) (h : p q = true) :
    groupVals q (r.filter fun kv => p kv.1) = groupVals q r := by
  rw [groupVals, List.filterMap_filter, groupVals]
  congr 1; funext kv
  by_cases hk : kv.1 = q <;> simp [hk, h]

theorem joinVals_cons (cfg : Cfg) (v w : AttrVal) (g : List AttrVal) :
    joinVals cfg v (w :: g) = joinVals cfg (mergeVal cfg v w) g := rfl

theorem withoutKey_of_not_mem (k : Str) (r : List (Str × AttrVal)) (h : k ∉ keysOf r) :
    withoutKey k r = r :=
  List.filter_eq_self.mpr fun kv hkv => bne_iff_ne.mpr fun (e : kv.1 = k) => h (e ▸ List.mem_map_of_mem hkv)

/-! ### the accumulation loop -/

/-- the inner loop of `TagAttrDict.update`, on pairs already normalised -/
def accumNorm (cfg : Cfg) : List (Str × AttrVal) → Attrs → Attrs
  | [], acc => acc
  | (k, v) :: r, acc =>
    accumNorm cfg r (dictSet k (match alookup k acc with
      | some old => mergeVal cfg old v
      | none => v) acc)

theorem normValSpec_of_ok {v : AttrArg} (h : v ≠ .bad) : normAttrValue v = .ok (normValSpec v) := by
  cases v <;> simp_all [normAttrValue, normValSpec]

theorem accumPairs_eq (cfg : Cfg) (pairs : List (Str × AttrArg)) (acc : Attrs)
    (h : ∀ kv ∈ pairs, kv.2 ≠ .bad) :
    accumPairs cfg pairs acc = .ok (accumNorm cfg (normPairs pairs) acc) := by
  induction pairs generalizing acc with
  | nil => rfl
  | cons hd t ih =>
    obtain ⟨k, v⟩ := hd
    rw [List.forall_mem_cons] at h
    rw [accumPairs, normValSpec_of_ok h.1]
    cases hn : normValSpec v with
    | none => simp [normPairs, hn, ih _ h.2]
    | some val =>
      simp only [normPairs, List.filterMap_cons, hn, Option.map_some]
      rw [ih _ h.2, accumNorm, normAttrName_eq_spec]
      rfl

theorem accumPairs_bad (cfg : Cfg) (pairs : List (Str × AttrArg)) (acc : Attrs)
    (h : ∃ kv ∈ pairs, kv.2 = .bad) : accumPairs cfg pairs acc = .error .typeError := by
  induction pairs generalizing acc with
  | nil => simp at h
  | cons hd t ih =>
    obtain ⟨k, v⟩ := hd
    simp only [List.mem_cons, exists_eq_or_imp] at h
    rcases h with rfl | ht
    · rfl
    · cases v <;> simp [accumPairs, normAttrValue, ih _ ht]

theorem accumPairs_append (cfg : Cfg) (a b : List (Str × AttrArg)) (acc : Attrs) :
    accumPairs cfg (a ++ b) acc =
      match accumPairs cfg a acc with
      | .error e => .error e
      | .ok acc' => accumPairs cfg b acc' := by
  induction a generalizing acc with
  | nil => rfl
  | cons hd t ih =>
    obtain ⟨k, v⟩ := hd
    simp only [List.cons_append, accumPairs]
    cases normAttrValue v with
    | error e => rfl
    | ok o => cases o <;> simp [ih]

theorem accumDicts_eq_flatten (cfg : Cfg) (ds : List (List (Str × AttrArg))) (acc : Attrs) :
    accumDicts cfg ds acc = accumPairs cfg ds.flatten acc := by
  fun_induction accumDicts cfg ds acc <;> simp_all [accumPairs_append, accumPairs]

/-- The loop started on any dictionary: its first entry absorbs, in order, every value given for its name, and
    the rest of the dictionary sees the loop without that name. (A step for another name commutes with
    `(k, v) ::`; a step for `k` merges into `v`.) -/
theorem accumNorm_cons_acc (cfg : Cfg) (np : List (Str × AttrVal)) (k : Str) (v : AttrVal) (acc : Attrs) :
    accumNorm cfg np ((k, v) :: acc)
      = (k, joinVals cfg v (groupVals k np)) :: accumNorm cfg (withoutKey k np) acc := by
  induction np generalizing v acc with
  | nil => rfl
  | cons hd t ih =>
    by_cases hk : hd.1 = k
    · simp [accumNorm, alookup, dictSet, groupVals, withoutKey, joinVals, hk, ih]
    · simp [accumNorm, alookup, dictSet, groupVals, withoutKey, joinVals, hk, Ne.symm hk, ih]

theorem accumNorm_nil (cfg : Cfg) (np : List (Str × AttrVal)) : accumNorm cfg np [] = mergeSpecN cfg np := by
  fun_induction mergeSpecN cfg np with
  | case1 => rfl
  | case2 k v r ih => rw [← ih, ← accumNorm_cons_acc]; rfl

theorem keysOf_mergeSpecN (cfg : Cfg) (np : List (Str × AttrVal)) :
    keysOf (mergeSpecN cfg np) = (np.map Prod.fst).eraseDups := by
  fun_induction mergeSpecN cfg np with
  | case1 => rfl
  | case2 k v r ih =>
    rw [keysOf_cons, ih, List.map_cons, List.eraseDups_cons, withoutKey, List.filter_map]
    rfl

theorem mem_keysOf_mergeSpecN (cfg : Cfg) (np : List (Str × AttrVal)) (q : Str) :
    q ∈ keysOf (mergeSpecN cfg np) ↔ q ∈ np.map Prod.fst := by
  rw [keysOf_mergeSpecN, List.mem_eraseDups]

theorem nodup_keysOf_mergeSpecN (cfg : Cfg) (np : List (Str × AttrVal)) :
    (keysOf (mergeSpecN cfg np)).Nodup := by
  fun_induction mergeSpecN cfg np with
  | case1 => exact List.nodup_nil
  | case2 k v r ih =>
    rw [keysOf_cons, List.nodup_cons, mem_keysOf_mergeSpecN]
    exact ⟨by simp [withoutKey], ih⟩

theorem alookup_mergeSpecN (cfg : Cfg) (np : List (Str × AttrVal)) (q : Str) :
    alookup q (mergeSpecN cfg np) =
      match groupVals q np with
      | [] => none
      | v :: vs => some (joinVals cfg v vs) := by
  fun_induction mergeSpecN cfg np with
  | case1 => rfl
  | case2 k v r ih =>
    by_cases hk : k = q
    · simp [alookup, groupVals, hk]
    · rw [alookup, if_neg hk, ih, withoutKey, groupVals_filter q (· != k) r (by simp [Ne.symm hk])]
      simp [groupVals, hk]

/-! ### dict.update -/

theorem dictUpdate_cons (cur : Attrs) (k : Str) (v : AttrVal) (r : Attrs) :
    dictUpdate cur ((k, v) :: r) = dictUpdate (dictSet k v cur) r := rfl

theorem nodup_dictUpdate (cur new : Attrs) (h : (keysOf cur).Nodup) : (keysOf (dictUpdate cur new)).Nodup := by
  induction new generalizing cur with
  | nil => exact h
  | cons hd t ih => exact ih _ (nodup_dictSet hd.1 hd.2 cur h)

theorem alookup_dictUpdate (q : Str) (cur new : Attrs) (hn : (keysOf new).Nodup) :
    alookup q (dictUpdate cur new) = (alookup q new).or (alookup q cur) := by
  induction new generalizing cur with
  | nil => simp [dictUpdate, alookup]
  | cons hd r ih =>
    obtain ⟨k, v⟩ := hd
    rw [keysOf_cons, List.nodup_cons] at hn
    rw [dictUpdate_cons, ih _ hn.2, alookup]
    by_cases hk : k = q
    · subst hk
      simp [(alookup_eq_none_iff k r).mpr hn.1, alookup_dictSet_self]
    · simp [hk, alookup_dictSet_ne q k v cur (Ne.symm hk)]

theorem dictUpdate_cons_left (k : Str) (v : AttrVal) (cur new : Attrs) (hn : (keysOf new).Nodup) :
    dictUpdate ((k, v) :: cur) new = (k, (alookup k new).getD v) :: dictUpdate cur (withoutKey k new) := by
  induction new generalizing v cur with
  | nil => rfl
  | cons hd r ih =>
    obtain ⟨k', v'⟩ := hd
    rw [keysOf_cons, List.nodup_cons] at hn
    rw [dictUpdate_cons, dictSet]
    by_cases hk : k' = k
    · have : alookup k r = none := (alookup_eq_none_iff k r).mpr (hk ▸ hn.1)
      simp [hk, ih _ _ hn.2, this, alookup, withoutKey]
    · simp [hk, Ne.symm hk, ih _ _ hn.2, alookup, withoutKey, dictUpdate_cons]

theorem dictUpdate_nil_left (new : Attrs) (hn : (keysOf new).Nodup) : dictUpdate [] new = new := by
  induction new with
  | nil => rfl
  | cons hd r ih =>
    rw [keysOf_cons, List.nodup_cons] at hn
    rw [dictUpdate_cons, dictSet, dictUpdate_cons_left _ _ _ _ hn.2, withoutKey_of_not_mem _ _ hn.1, ih hn.2,
      (alookup_eq_none_iff _ _).mpr hn.1]
    rfl

theorem dictUpdate_eq_override (cur new : Attrs) (hc : (keysOf cur).Nodup) (hn : (keysOf new).Nodup) :
    dictUpdate cur new = overrideKeepOrder cur new := by
  induction cur generalizing new with
  | nil =>
    rw [dictUpdate_nil_left new hn]
    exact (List.filter_eq_self.mpr fun _ _ => rfl).symm
  | cons hd t ih =>
    rw [keysOf_cons, List.nodup_cons] at hc
    rw [dictUpdate_cons_left _ _ _ _ hn, ih (withoutKey _ new) hc.2 ((List.filter_sublist.map _).nodup hn)]
    simp only [overrideKeepOrder, List.map_cons, List.cons_append, withoutKey, List.filter_filter, keysOf_cons]
    congr 2
    · apply List.map_congr_left
      intro kv hkv
      have : kv.1 ≠ hd.1 := fun e => hc.1 (e ▸ List.mem_map_of_mem hkv)
      rw [alookup_filter kv.1 (· != hd.1)]
      simp [this]
    · apply List.filter_congr
      intro kv _
      simp only [List.contains_cons, Bool.not_or, bne, Bool.and_comm]

theorem alookup_override (q : Str) (cur new : Attrs) :
    alookup q (overrideKeepOrder cur new) = (alookup q new).or (alookup q cur) := by
  rw [overrideKeepOrder, alookup_append, alookup_map_val q fun k v => (alookup k new).getD v,
    alookup_filter q fun k => !(keysOf cur).contains k]
  have hm : (keysOf cur).contains q = (alookup q cur).isSome := by
    rw [Bool.eq_iff_iff, alookup_isSome_iff, List.contains_iff_mem]; rfl
  rw [hm]
  cases alookup q cur <;> cases alookup q new <;> rfl

end HtmlVerif
