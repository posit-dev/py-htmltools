/-
Helper lemmas of the source tie for C16 (Props/SrcC16.lean): the whitespace primitives of Py/Prim.lean against the
model's `tokens` / `strip`, attribute-dictionary reads and `pop` on embedded attributes, the two `re.sub` primitives
against `cssHyphen` / `cssKey`, and the relation between Python values and the model's `CssVal`.
Nothing here mentions a regenerated function.
-/
import HtmlVerif.Py.PrimC16
import HtmlVerif.Lemmas.PyLoop
import HtmlVerif.Lemmas.SrcTie
import HtmlVerif.Model.ClassStyle

namespace HtmlVerif.SrcTie
open HtmlVerif HtmlVerif.Py

/-- `splitWs` (accumulator form, Py/Prim.lean) against the model's `splitAll` -/
theorem splitWs_splitAll (sp : Char → Bool) (s cur : Str) :
    ∃ h t, splitAll sp s = h :: t ∧ splitWs sp s cur = ((cur ++ h) :: t).filter (fun t => !t.isEmpty) := by
  induction s generalizing cur with
  | nil => refine ⟨[], [], rfl, ?_⟩; cases cur <;> simp [splitWs]
  | cons c r ih =>
    cases hc : sp c
    · obtain ⟨h, t, e1, e2⟩ := ih (cur ++ [c])
      refine ⟨c :: h, t, by simp [splitAll, hc, e1], ?_⟩
      simp [splitWs, hc, e2]
    · obtain ⟨h, t, e1, e2⟩ := ih []
      refine ⟨[], h :: t, by simp [splitAll, hc, e1], ?_⟩
      cases cur <;> simp [splitWs, hc, e2, List.filter]

theorem splitWs_tokens (sp : Char → Bool) (s : Str) : splitWs sp s [] = tokens sp s := by
  obtain ⟨h, t, e1, e2⟩ := splitWs_splitAll sp s []
  simp [tokens, e1, e2]

theorem pySplit_embVal (G : Globals) (v : AttrVal) :
    pySplit G (embVal v) = .ok (.list ((tokens G.isSpace v.str).map .str)) := by
  cases v <;> simp only [embVal, AttrVal.str, pySplit, splitWs_tokens, pure_eq_ok]

theorem pyStrip_str (G : Globals) (s : Str) : pyStrip G (.str s) = .ok (.str (strip G.isSpace s)) := rfl

theorem pyIn_strs (n : Str) (l : List Str) : pyIn (.str n) (.list (l.map .str)) = .ok (.bool (l.contains n)) := by
  simp only [pyIn, pure_eq_ok]
  congr 2
  induction l with
  | nil => rfl
  | cons a t ih => simp only [List.map_cons, List.any_cons, ih, List.contains_cons, Bool.beq_comm (a := n)]

theorem pyInC16_strs (n : Str) (l : List Str) : pyInC16 (.str n) (.list (l.map .str)) = .ok (.bool (l.contains n)) := by
  have : (l.map PVal.str).all isStrVal = true := by simp [isStrVal]
  simp only [pyInC16, this, if_true, pyIn_strs]

/-- `HTML(n) in [s₁, …]`: `UserString.__eq__` compares the text -/
theorem pyInC16_strs_html (n : Str) (l : List Str) : pyInC16 (.html n) (.list (l.map .str)) = .ok (.bool (l.contains n)) := by
  have : (l.map PVal.str).all isStrVal = true := by simp [isStrVal]
  simp only [pyInC16, this, if_true, pyIn_strs]

theorem truthy_embVal (v : AttrVal) : truthy (embVal v) = !v.str.isEmpty := by cases v <;> rfl

theorem pyDictGet_emb (a : Attrs) (k : Str) :
    pyDictGet (embAttrs a) (.str k) .none = .ok (match alookup k a with | some v => embVal v | none => PVal.none) := by
  simp only [pyDictGet, embAttrs, dictGet_emb, pure_eq_ok]
  cases alookup k a <;> rfl

theorem embArg_getArg (k : Str) (a : Attrs) :
    embArg (getArg k a) = match alookup k a with | some v => embVal v | none => PVal.none := by
  unfold getArg
  cases alookup k a with
  | none => rfl
  | some v => cases v <;> rfl

theorem endsSemi_decide (s : Str) : decide (s.getLast? = some ';') = endsSemi s := by
  unfold endsSemi
  cases s.getLast? with
  | none => rfl
  | some c => by_cases h : c = ';' <;> simp [h]

theorem endswith_semi_str (s : Str) :
    pyEndswith (.str s) (.str [';']) = .ok (.bool (endsSemi s)) := by
  rw [endswith_char, endsSemi_decide]

theorem endswith_semi_html (s : Str) :
    pyEndswith (.html s) (.str [';']) = .ok (.bool (endsSemi s)) := by
  have := endswith_semi_str s
  simp only [pyEndswith, Py.textOf] at this ⊢
  exact this

/-- `del d[k]` on the model's attributes -/
def attrsDel (k : Str) : Attrs → Attrs
  | [] => []
  | (k', v) :: r => if k' = k then r else (k', v) :: attrsDel k r

theorem dictPop_eq (k : Str) (a : Attrs) :
    dictPop k a = if (alookup k a).isSome then .ok (attrsDel k a) else .error .keyError := by
  induction a with
  | nil => rfl
  | cons x t ih =>
    obtain ⟨k', v'⟩ := x
    simp only [dictPop, alookup, attrsDel]
    by_cases hk : k' = k
    · simp [hk]
    · simp only [hk, if_false, ih]
      cases (alookup k t).isSome <;> simp

theorem dictDel_emb (k : Str) (a : Attrs) :
    Py.dictDel k (a.map fun kv => (kv.1, embVal kv.2)) = (attrsDel k a).map fun kv => (kv.1, embVal kv.2) := by
  induction a with
  | nil => rfl
  | cons x t ih =>
    obtain ⟨k', v'⟩ := x
    simp only [List.map_cons, Py.dictDel, attrsDel]
    split <;> simp_all

theorem pyDictPop_emb (k : Str) (a : Attrs) :
    pyDictPop (embAttrs a) (.str k) = embRes embAttrs (dictPop k a) := by
  simp only [pyDictPop, embAttrs, dictGet_emb, dictDel_emb, dictPop_eq, Option.isSome_map]
  cases (alookup k a).isSome <;> simp [embRes, embAttrs, embErr]

theorem getAttr_obj (c : String) (fs : List (String × PVal)) (k : String) (v : PVal) (h : fieldGet? k fs = some v) :
    pyGetAttr (.obj c fs) k = .ok v := by
  simp only [pyGetAttr, h, pure_eq_ok]

theorem setAttr_obj (c : String) (fs : List (String × PVal)) (k : String) (v : PVal) :
    pySetAttr (.obj c fs) k v = .ok (.obj c (fieldSet k v fs)) := rfl

/-- the receiver after a method has replaced its attributes -/
def withAttrs (c : String) (fs : List (String × PVal)) (a : Attrs) : PVal := .obj c (fieldSet "attrs" (embAttrs a) fs)

theorem fieldSet_same (k : String) (v : PVal) (fs : List (String × PVal)) (h : fieldGet? k fs = some v) :
    fieldSet k v fs = fs := by
  induction fs with
  | nil => cases h
  | cons x t ih =>
    obtain ⟨k', v'⟩ := x
    simp only [fieldGet?, fieldSet] at h ⊢
    by_cases hk : k' = k
    · simp only [hk, if_true] at h ⊢
      injection h with h; rw [h]
    · simp only [hk, if_false] at h ⊢
      rw [ih h]

/-- a method that leaves the attributes as they are returns the receiver as it was -/
theorem withAttrs_same (c : String) (fs : List (String × PVal)) (a : Attrs) (h : fieldGet? "attrs" fs = some (embAttrs a)) :
    withAttrs c fs a = .obj c fs := by
  unfold withAttrs; rw [fieldSet_same _ _ _ h]

@[simp] theorem globalsOf_isSpace (cfg : Cfg) (sp : Char → Bool) (lw : Str → Str) : (globalsOf cfg sp lw).isSpace = sp := rfl
@[simp] theorem globalsOf_lower (cfg : Cfg) (sp : Char → Bool) (lw : Str → Str) : (globalsOf cfg sp lw).lower = lw := rfl

/-- the end of every mutating method: store the new attributes in the receiver and return it -/
theorem bind_embRes_setAttr (c : String) (fs : List (String × PVal)) (r : Except Err Attrs) :
    (do
      let x ← embRes embAttrs r
      let y ← pySetAttr (.obj c fs) "attrs" x
      Except.ok y : PyM PVal) = embRes (withAttrs c fs) r := by
  cases r <;> rfl

/-- `isinstance(style, (str, HTML))` on the model's argument kinds -/
def strLike : AttrArg → Bool
  | .str _ => true
  | .html _ => true
  | _ => false

/-- `style.endswith(";")` -/
def semiArg : AttrArg → Bool
  | .str s => endsSemi s
  | .html s => endsSemi s
  | _ => false

theorem isInstance_embArg_strLike (v : AttrArg) : isInstance (embArg v) ["str", "HTML"] = strLike v := by
  cases v <;> simp [embArg, isInstance, builtinClasses, classBases, strLike]

theorem endswith_embArg (v : AttrArg) (h : strLike v = true) :
    pyEndswith (embArg v) (.str [';']) = .ok (.bool (semiArg v)) := by
  cases v with
  | str s => exact endswith_semi_str s
  | html s => exact endswith_semi_html s
  | _ => cases h

theorem styleRejected_eq (v : AttrArg) : styleRejected v = (strLike v && !semiArg v) := by
  cases v <;> rfl

/-- a loop over strings whose body — whatever its text — appends the item to the accumulated list exactly when it
    differs from `t` computes the filter (`[v for v in l if v != t]`) -/
theorem filter_loop_acc (t : Str) (l : List Str) (body : PVal → List PVal → PyM (ForInStep (List PVal)))
    (hb : ∀ x acc, body (.str x) acc = .ok (.yield (if x != t then acc ++ [.str x] else acc))) (acc0 : List PVal) :
    forIn (l.map PVal.str) acc0 body = .ok (acc0 ++ (l.filter (· != t)).map .str) := by
  induction l generalizing acc0 with
  | nil => simp [pure, Except.pure]
  | cons x r ih =>
    simp only [List.map_cons, List.forIn_cons, hb, ok_bind, ih, List.filter_cons]
    cases x != t <;> simp

theorem filter_loop (t : Str) (l : List Str) (body : PVal → List PVal → PyM (ForInStep (List PVal)))
    (hb : ∀ x acc, body (.str x) acc = .ok (.yield (if x != t then acc ++ [.str x] else acc)))
    (k : List PVal → PyM PVal) :
    (forIn (l.map PVal.str) [] body >>= k) = k ((l.filter (· != t)).map .str) := by
  rw [filter_loop_acc t l body hb []]
  rfl

/-- `if new_classes:` / `if not new_classes:` (the truthiness spelling of `len(new_classes) > 0`) -/
theorem truthy_list_strs (l : List Str) : truthy (.list (l.map PVal.str)) = !l.isEmpty := by
  cases l <;> rfl

theorem len_gt_zero (l : List Str) : pyGt (.int ((l.map PVal.str).length : Nat)) (.int 0) = .ok (.bool (!l.isEmpty)) := by
  cases l with
  | nil => rfl
  | cons x r =>
    simp only [pyGt, pure_eq_ok, List.map_cons, List.length_cons, List.isEmpty_cons, Bool.not_false]
    congr 2
    simp only [decide_eq_true_eq]
    omega

theorem subHyphenCaps_eq (k : Str) : subHyphenCaps k = cssHyphen k := rfl

theorem reSub_caps (s : Str) :
    reSub (.str ['(', '[', 'A', '-', 'Z', ']', ')']) (.str ['-', Char.ofNat 92, '1']) (.str s) = .ok (.str (cssHyphen s)) := by
  simp [reSub, subHyphenCaps_eq]

theorem reSub_underscore (s : Str) :
    reSub (.str ['_']) (.str ['-']) (.str s) = .ok (.str (s.map fun c => if c = '_' then '-' else c)) := by
  simp [reSub, subUnderscore]

theorem strictStrs_map_str (l : List Str) : strictStrs (l.map PVal.str) = .ok l := by
  induction l with
  | nil => rfl
  | cons a t ih => simp [strictStrs, ih]

theorem pyJoinStrict_strs (sep : Str) (l : List Str) :
    pyJoinStrict (.str sep) (.list (l.map .str)) = .ok (.str (joinStr sep l)) := by
  simp only [pyJoinStrict, pyIter_list, ok_bind, strictStrs_map_str, pure_eq_ok]

/-- a Python keyword value of `css()` and the model's description of it -/
inductive CssRel : PVal → CssVal → Prop
  | none : CssRel .none .none
  | text (v : PVal) (s : Str) : isNone v = false → isInstance v ["list"] = false → pyStr v = .ok (.str s) → CssRel v (.text s)
  | list (xs : List Str) : CssRel (.list (xs.map .str)) (.list xs)
  | bad (vs : List PVal) : strictStrs vs = .error .typeError → CssRel (.list vs) .badList

/-- the model's step for one keyword of `css()` on the accumulator `res` -/
def cssStep (lower : Str → Str) (collapse : Str) (kv : Str × CssVal) (res : Str) : Except Err Str :=
  match kv.2 with
  | .none => .ok res
  | .badList => .error .typeError
  | .text s => .ok (res ++ (cssKey lower kv.1 ++ ':' :: s ++ ';' :: collapse))
  | .list xs => .ok (res ++ (cssKey lower kv.1 ++ ':' :: joinStr [' '] xs ++ ';' :: collapse))

theorem sim_eq_embRes {β : Type} {f : β → PVal} {x : PyM PVal} {y : Except Err β} (h : Sim (fun s b => s = f b) embErr x y) :
    x = embRes f y := by
  cases y with
  | error e => exact h
  | ok b => obtain ⟨s, hs, rfl⟩ := h; exact hs

theorem cssLoop_fold (lower : Str → Str) (collapse : Str) (l : List (Str × CssVal)) (res : Str) :
    cssLoop lower collapse l res = l.foldlM (fun res kv => cssStep lower collapse kv res) res := by
  induction l generalizing res with
  | nil => rfl
  | cons kv t ih =>
    obtain ⟨k, v⟩ := kv
    cases v <;> simp only [cssLoop, List.foldlM_cons, cssStep] <;> first | exact ih _ | rfl

end HtmlVerif.SrcTie
