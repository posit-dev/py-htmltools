/-
`ensure_ascii`: everything `json.dumps` writes for a string is printable ASCII.
-/
import HtmlVerif.Lemmas.JsonStr

namespace HtmlVerif

theorem jsonStr_printable (s : Str) (x : Char) (h : x ∈ jsonStr s) : 0x20 ≤ x.toNat ∧ x.toNat ≤ 0x7E := by
  simp only [jsonStr, escBody, List.mem_cons, List.mem_append, List.mem_flatMap, List.not_mem_nil, or_false] at h
  rcases h with (rfl | ⟨c, _, hc⟩) | rfl
  · decide
  · exact (escChar_mem c x hc).1
  · decide

end HtmlVerif
