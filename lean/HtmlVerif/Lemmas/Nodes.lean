/-
`Nodes` (the sibling lists of the tag tree) as lists: list induction, append, `toList` / `ofList`.
-/
import HtmlVerif.Model.Tree

namespace HtmlVerif

/-- induction along a sibling list, as for `List` (the nodes themselves are not entered) -/
@[induction_eliminator] theorem Nodes.induction {motive : Nodes → Prop} (nil : motive .nil)
    (cons : ∀ h t, motive t → motive (.cons h t)) (ks : Nodes) : motive ks := by
  induction ks using Nodes.rec (motive_1 := fun _ => True) with
  | nil => exact nil
  | cons h t _ ih => exact cons h t ih
  | _ => trivial

@[simp] theorem Nodes.nil_append (b : Nodes) : Nodes.nil ++ b = b := rfl
@[simp] theorem Nodes.cons_append (h : Node) (t b : Nodes) : Nodes.cons h t ++ b = .cons h (t ++ b) := rfl

@[simp] theorem Nodes.toList_nil : Nodes.nil.toList = [] := rfl
@[simp] theorem Nodes.toList_cons (h : Node) (t : Nodes) : (Nodes.cons h t).toList = h :: t.toList := rfl

@[simp] theorem Nodes.toList_append (a b : Nodes) : (a ++ b).toList = a.toList ++ b.toList := by
  induction a with
  | nil => rfl
  | cons h t ih => simp [ih]

@[simp] theorem Nodes.ofList_toList (ks : Nodes) : Nodes.ofList ks.toList = ks := by
  induction ks with
  | nil => rfl
  | cons h t ih => simp [Nodes.ofList, ih]

@[simp] theorem Nodes.toList_ofList (l : List Node) : (Nodes.ofList l).toList = l := by
  induction l with
  | nil => rfl
  | cons h t ih => simp [Nodes.ofList, ih]

theorem Nodes.toList_inj {a b : Nodes} (h : a.toList = b.toList) : a = b := by
  rw [← Nodes.ofList_toList a, ← Nodes.ofList_toList b, h]

@[simp] theorem Nodes.append_nil (a : Nodes) : a ++ Nodes.nil = a :=
  Nodes.toList_inj (by simp)

theorem Nodes.append_assoc (a b c : Nodes) : (a ++ b) ++ c = a ++ (b ++ c) :=
  Nodes.toList_inj (by simp)

theorem Nodes.length_eq (ks : Nodes) : ks.length = ks.toList.length := by
  induction ks with
  | nil => rfl
  | cons h t ih => simp [Nodes.length, ih]

end HtmlVerif
