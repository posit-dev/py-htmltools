/-
The OPEN marker cannot occur inside dumped JSON (`C13_no_open_inside`): OPEN contains `="a`
(`type="application…`); in JSON text a quote that follows `=` is a closing quote (a quote inside a string
body always follows a backslash), and what follows a closing quote is never `a`.
The argument is carried by a three-state matcher for the window `="a` run over the printed text.
-/
import HtmlVerif.Lemmas.Neutralise
import HtmlVerif.Model.TextDoc

namespace HtmlVerif

/-- matcher states for the window `="a`: nothing / `=` / `="` / seen -/
inductive WS
  | s0 | s1 | s2 | hit
  deriving DecidableEq, Repr

def winStep (q : WS) (c : Char) : WS :=
  match q with
  | .hit => .hit
  | .s2 => if c = 'a' then .hit else if c = '=' then .s1 else .s0
  | .s1 => if c = '"' then .s2 else if c = '=' then .s1 else .s0
  | .s0 => if c = '=' then .s1 else .s0

def winRun (q : WS) (s : Str) : WS := s.foldl winStep q

theorem winRun_append (q : WS) (a b : Str) : winRun q (a ++ b) = winRun (winRun q a) b := by
  simp [winRun, List.foldl_append]

theorem winRun_cons (q : WS) (c : Char) (s : Str) : winRun q (c :: s) = winRun (winStep q c) s := rfl

theorem winRun_hit (s : Str) : winRun .hit s = .hit := by
  induction s with
  | nil => rfl
  | cons c r ih => rw [winRun_cons]; exact ih

def win : Str := ['=', '"', 'a']

theorem winRun_of_infix (s : Str) (h : win <:+: s) (q : WS) : winRun q s = .hit := by
  obtain ⟨pre, post, rfl⟩ := h
  rw [List.append_assoc, winRun_append]
  generalize winRun q pre = q'
  cases q' <;> simp [win, winRun_cons, winStep, winRun_hit]

theorem win_infix_open : win <:+: openMarker := ⟨openMarker.take 12, openMarker.drop 15, by decide +kernel⟩

/-- inside a string body: nothing matched, or just an `=` -/
def Low (q : WS) : Prop := q = .s0 ∨ q = .s1

/-- between tokens: nothing matched, or `="` (a closing quote after `=`) -/
def Safe (q : WS) : Prop := q = .s0 ∨ q = .s2

theorem low_step (q : WS) (x : Char) (hq : Low q) (hx : x ≠ '"') : Low (winStep q x) := by
  rcases hq with rfl | rfl <;> simp only [winStep, hx, if_false] <;> split <;> simp [Low]

theorem low_run (L : Str) (h : ∀ x ∈ L, x ≠ '"') (q : WS) (hq : Low q) : Low (winRun q L) := by
  induction L generalizing q with
  | nil => exact hq
  | cons c r ih =>
    rw [winRun_cons]
    exact ih (fun x hx => h x (by simp [hx])) _ (low_step q c hq (h c (by simp)))

theorem low_escChar (c : Char) (q : WS) (hq : Low q) : Low (winRun q (escChar c)) := by
  by_cases hc : c = '"'
  · subst hc
    rcases hq with rfl | rfl <;> exact .inl rfl
  · exact low_run _ (fun x hx => (escChar_mem c x hx).2.1.resolve_right hc) q hq

theorem low_escBody (s : Str) (q : WS) (hq : Low q) : Low (winRun q (escBody s)) := by
  induction s generalizing q with
  | nil => exact hq
  | cons c cs ih =>
    rw [escBody_cons, winRun_append]
    exact ih _ (low_escChar c q hq)

theorem punct_step (q : WS) (c : Char) (hq : Safe q) (hc : c ≠ '=' ∧ c ≠ 'a') : winStep q c = .s0 := by
  rcases hq with rfl | rfl <;> simp [winStep, hc.1, hc.2]

theorem safe_strLit (s : Str) (q : WS) (hq : Safe q) : Safe (winRun q (strLit escBody s)) := by
  show Safe (winRun q ('"' :: (escBody s ++ ['"'])))
  rw [winRun_cons, winRun_append, punct_step q '"' hq (by decide)]
  rcases low_escBody s .s0 (.inl rfl) with h | h <;> rw [h]
  · exact .inl rfl
  · exact .inr rfl

theorem safe_punct (L : Str) (hL : ∀ c ∈ L, c ≠ '=' ∧ c ≠ 'a') (q : WS) (hq : Safe q) : Safe (winRun q L) := by
  induction L generalizing q with
  | nil => exact hq
  | cons c r ih =>
    rw [winRun_cons, punct_step q c hq (hL c (by simp))]
    exact ih (fun x hx => hL x (by simp [hx])) _ (Or.inl rfl)

theorem nlInd_punct (ind : Option Nat) (lvl : Nat) : ∀ c ∈ nlInd ind lvl, c ≠ '=' ∧ c ≠ 'a' :=
  fun c hc => by rcases mem_nlInd hc with rfl | rfl <;> decide

theorem lead_punct (ind : Option Nat) (lvl : Nat) (first : Bool) :
    ∀ c ∈ (if first then nlInd ind lvl else itemSep ind lvl), c ≠ '=' ∧ c ≠ 'a' :=
  fun c hc => by rcases mem_lead hc with rfl | rfl | rfl <;> decide

mutual
  theorem safe_printVal (ind : Option Nat) :
      ∀ (v : Json) (lvl : Nat) (q : WS), Safe q → Safe (winRun q (printVal escBody ind lvl v))
    | .null, _, q, hq => by rcases hq with rfl | rfl <;> exact .inl rfl
    | .bool true, _, q, hq => by rcases hq with rfl | rfl <;> exact .inl rfl
    | .bool false, _, q, hq => by rcases hq with rfl | rfl <;> exact .inl rfl
    | .str s, _, q, hq => safe_strLit s q hq
    | .arr xs, lvl, q, hq => by
      rw [printVal_arr, winRun_cons, punct_step q '[' hq (by decide)]
      exact .inl (closed_printElems ind xs lvl true .s0 (.inl rfl))
    | .obj ms, lvl, q, hq => by
      rw [printVal_obj, winRun_cons, punct_step q '{' hq (by decide)]
      exact .inl (closed_printMems ind ms lvl true .s0 (.inl rfl))
  theorem closed_printElems (ind : Option Nat) :
      ∀ (xs : JList) (lvl : Nat) (first : Bool) (q : WS), Safe q →
        winRun q (printElems escBody ind lvl first xs ++ [']']) = .s0
    | .nil, lvl, first, q, hq => by
      rw [printElems_nil, winRun_append]
      cases first
      · exact punct_step _ ']' (safe_punct _ (nlInd_punct ind lvl) q hq) (by decide)
      · exact punct_step q ']' hq (by decide)
    | .cons h t, lvl, first, q, hq => by
      rw [printElems_cons_append, winRun_append, winRun_append]
      exact closed_printElems ind t lvl false _
        (safe_printVal ind h (lvl + 1) _ (safe_punct _ (lead_punct ind (lvl + 1) first) q hq))
  theorem closed_printMems (ind : Option Nat) :
      ∀ (ms : JMems) (lvl : Nat) (first : Bool) (q : WS), Safe q →
        winRun q (printMems escBody ind lvl first ms ++ ['}']) = .s0
    | .nil, lvl, first, q, hq => by
      rw [printMems_nil, winRun_append]
      cases first
      · exact punct_step _ '}' (safe_punct _ (nlInd_punct ind lvl) q hq) (by decide)
      · exact punct_step q '}' hq (by decide)
    | .cons k v t, lvl, first, q, hq => by
      rw [printMems_cons_append, winRun_append, winRun_append, winRun_append, winRun_append]
      exact closed_printMems ind t lvl false _ (safe_printVal ind v (lvl + 1) _ (safe_punct [':', ' '] (by decide) _
        (safe_strLit k _ (safe_punct _ (lead_punct ind (lvl + 1) first) q hq))))
end

/-- the neutralisation pass is invisible to the matcher: `\/` leaves it where `/` does -/
theorem winRun_neutG (p : Bool) (s : Str) (q : WS) : winRun q (neutG p s) = winRun q s := by
  induction s generalizing p q with
  | nil => rfl
  | cons c r ih =>
    rw [neutG, winRun_append, ih, winRun_cons]
    split
    next h =>
      obtain rfl : c = '/' := eq_of_beq (Bool.and_eq_true_iff.mp h).2
      cases q <;> rfl
    next => rfl

theorem no_win_of_safe {s : Str} (h : Safe (winRun .s0 s)) : ¬ win <:+: s := fun hi => by
  rw [winRun_of_infix s hi] at h
  rcases h with h | h <;> exact WS.noConfusion h

theorem no_win_jsonPrint (ind : Option Nat) (v : Json) : ¬ win <:+: jsonPrint ind v :=
  no_win_of_safe (safe_printVal ind v 0 .s0 (.inl rfl))

theorem no_win_neutralised (ind : Option Nat) (v : Json) : ¬ win <:+: neutralise (jsonPrint ind v) :=
  no_win_of_safe (by rw [neutralise, winRun_neutG]; exact safe_printVal ind v 0 .s0 (.inl rfl))

end HtmlVerif
