/-
Helper lemmas for C12 about the byte-level path algebra of Model/Paths.lean.
-/
import HtmlVerif.Model.Paths

namespace HtmlVerif

theorem hexDigitVal_hexUp : ∀ n, n < 16 → hexDigitVal (hexUp n) = some n := by decide

/-- the bytes `quote` leaves alone are ASCII, and `%` is not among them -/
theorem isSafeN_lt {n : Nat} (h : isSafeN n = true) : n < 128 ∧ n ≠ 0x25 := by
  simp only [isSafeN, isUnreservedN, Bool.or_eq_true, Bool.and_eq_true, decide_eq_true_eq, beq_iff_eq] at h
  omega

theorem toNat_ofNat_ascii {n : Nat} (h : n < 128) : (Char.ofNat n).toNat = n := by
  have hv : n.isValidChar := .inl (by omega)
  simp [Char.ofNat, hv, Char.toNat, Char.ofNatAux]

theorem unquoteB_cons_ne {c : Char} (h : c ≠ '%') (r : Str) :
    unquoteB (c :: r) = utf8Char c ++ unquoteB r := by
  match r with
  | [] => simp [unquoteB, h]
  | [a] => simp [unquoteB, h]
  | a :: b :: r' => simp [unquoteB, h]

theorem unquoteB_pct {a b : Char} {x y : Nat} (hx : hexDigitVal a = some x) (hy : hexDigitVal b = some y)
    (r : Str) : unquoteB ('%' :: a :: b :: r) = (x * 16 + y).toUInt8 :: unquoteB r := by
  simp [unquoteB, hx, hy]

theorem unquoteB_quoteByte (b : UInt8) (r : Str) : unquoteB (quoteByte b ++ r) = b :: unquoteB r := by
  have hb : b.toNat < 256 := UInt8.toNat_lt b
  unfold quoteByte
  split
  · next hs =>
    obtain ⟨hl, hp⟩ := isSafeN_lt hs
    have e := toNat_ofNat_ascii hl
    rw [List.singleton_append, unquoteB_cons_ne fun h => hp (by rw [← e, h]; rfl)]
    simp [utf8Char, e, hl]
  · have h1 := hexDigitVal_hexUp (b.toNat / 16) (by omega)
    have h2 := hexDigitVal_hexUp (b.toNat % 16) (by omega)
    simp only [List.cons_append, List.nil_append]
    rw [unquoteB_pct h1 h2]
    have : b.toNat / 16 * 16 + b.toNat % 16 = b.toNat := by omega
    rw [this]
    simp

theorem quoteB_cons (b : UInt8) (bs : Bytes) : quoteB (b :: bs) = quoteByte b ++ quoteB bs := by
  simp [quoteB]

theorem unquoteB_quoteB (bs : Bytes) (r : Str) : unquoteB (quoteB bs ++ r) = bs ++ unquoteB r := by
  induction bs with
  | nil => simp [quoteB]
  | cons b bs ih => rw [quoteB_cons, List.append_assoc, unquoteB_quoteByte, ih]; simp

def isUnreservedC (c : Char) : Bool := isUnreservedN c.toNat

theorem hexUp_unreserved : ∀ n, n < 16 → isUnreservedN (hexUp n).toNat = true := by decide

theorem quoteByte_inert (b : UInt8) : ∀ c ∈ quoteByte b, isUnreservedC c = true ∨ c = '/' ∨ c = '%' := by
  have hb : b.toNat < 256 := UInt8.toNat_lt b
  intro c hc
  unfold quoteByte at hc
  split at hc
  · next hs =>
    simp at hc; subst hc
    rw [isUnreservedC, toNat_ofNat_ascii (isSafeN_lt hs).1]
    simp only [isSafeN, Bool.or_eq_true, beq_iff_eq] at hs
    exact hs.imp_right fun h => .inl (by rw [h])
  · simp at hc
    rcases hc with h | h | h
    · exact .inr (.inr h)
    · subst h; exact .inl (hexUp_unreserved _ (by omega))
    · subst h; exact .inl (hexUp_unreserved _ (by omega))

theorem utf8_append (a b : Str) : utf8 (a ++ b) = utf8 a ++ utf8 b := by simp [utf8]

theorem utf8_cons (c : Char) (s : Str) : utf8 (c :: s) = utf8Char c ++ utf8 s := by simp [utf8]

theorem utf8Char_slash : utf8Char '/' = [0x2F] := by decide

theorem utf8_slash_cons (s : Str) : utf8 ('/' :: s) = 0x2F :: utf8 s := by
  rw [utf8_cons, utf8Char_slash]; rfl

theorem unquoteB_append_noPct (s t : Str) (h : ∀ c ∈ s, c ≠ '%') :
    unquoteB (s ++ t) = utf8 s ++ unquoteB t := by
  induction s with
  | nil => simp [utf8]
  | cons c s ih =>
    have hc : c ≠ '%' := h c (by simp)
    rw [List.cons_append, unquoteB_cons_ne hc, ih (fun x hx => h x (by simp [hx])), utf8_cons]
    simp

theorem unquoteB_nil : unquoteB [] = [] := by simp [unquoteB]

theorem unquoteB_quote (p : Str) : unquoteB (quote p) = utf8 p := by
  simpa [unquoteB_nil, quote] using unquoteB_quoteB (utf8 p) []

/-- a quoted string that began with `/` would decode to bytes beginning with `/` -/
theorem quoteB_head {bs : Bytes} (h : bs.head? ≠ some 0x2F) : (quoteB bs).head? ≠ some '/' := by
  intro e
  obtain ⟨r, hr⟩ := List.head?_eq_some_iff.mp e
  have hd := unquoteB_quoteB bs []
  rw [List.append_nil, hr, unquoteB_cons_ne (by decide), utf8Char_slash, unquoteB_nil, List.append_nil] at hd
  exact h (by rw [← hd]; rfl)

theorem head_of_bytesHead {p : Str} (h : (utf8 p).head? ≠ some 0x2F) : p.head? ≠ some '/' := by
  intro e
  obtain ⟨r, rfl⟩ := List.head?_eq_some_iff.mp e
  rw [utf8_slash_cons] at h
  exact h rfl

theorem splitSlash_ne_nil (bs : Bytes) : splitSlash bs ≠ [] := by
  induction bs with
  | nil => simp [splitSlash]
  | cons b r ih =>
    unfold splitSlash
    split
    · simp
    · split <;> simp

theorem splitSlash_append_slash (a b : Bytes) :
    splitSlash (a ++ 0x2F :: b) = splitSlash a ++ splitSlash b := by
  induction a with
  | nil => simp [splitSlash]
  | cons x a ih =>
    by_cases hx : x = 0x2F
    · simp [splitSlash, hx, ih]
    · obtain ⟨h, t, hs⟩ := List.exists_cons_of_ne_nil (splitSlash_ne_nil a)
      simp [splitSlash, hx, ih, hs]

theorem segs_append_slash (a b : Bytes) : segs (a ++ 0x2F :: b) = segs a ++ segs b := by
  simp [segs, splitSlash_append_slash]

theorem segs_nil : segs [] = [] := by simp [segs, splitSlash]

theorem splitSlash_noSlash (s : Bytes) (h : ∀ x ∈ s, x ≠ 0x2F) : splitSlash s = [s] := by
  induction s with
  | nil => simp [splitSlash]
  | cons x s ih =>
    have hx : x ≠ 0x2F := h x (by simp)
    simp [splitSlash, hx, ih (fun y hy => h y (by simp [hy]))]

theorem segs_single (s : Bytes) (h : ∀ x ∈ s, x ≠ 0x2F) (hne : s ≠ []) : segs s = [s] := by
  simp [segs, splitSlash_noSlash s h, hne]

theorem posixJoin_abs {a b : Str} (h : b.head? = some '/') : posixJoin a b = b := by
  simp [posixJoin, h]

theorem posixJoin_empty {b : Str} : posixJoin [] b = b := by
  unfold posixJoin; split <;> simp

theorem posixJoin_slash {a b : Str} (hb : b.head? ≠ some '/') (ha : a.getLast? = some '/') :
    posixJoin a b = a ++ b := by
  simp [posixJoin, hb, ha]

theorem posixJoin_plain {a b : Str} (hb : b.head? ≠ some '/') (ha : a ≠ []) (ha' : a.getLast? ≠ some '/') :
    posixJoin a b = a ++ '/' :: b := by
  simp [posixJoin, hb, ha, ha']

theorem segs_utf8_posixJoin (a b : Str) (hb : b.head? ≠ some '/') :
    segs (utf8 (posixJoin a b)) = segs (utf8 a) ++ segs (utf8 b) := by
  by_cases ha : a = []
  · subst ha; simp [posixJoin_empty, utf8, segs_nil]
  by_cases hl : a.getLast? = some '/'
  · rw [posixJoin_slash hb hl]
    obtain ⟨a', rfl⟩ := List.getLast?_eq_some_iff.mp hl
    simp only [List.append_assoc, List.singleton_append, utf8_append, utf8_slash_cons, show utf8 [] = [] from rfl,
      segs_append_slash, segs_nil, List.append_nil]
  · rw [posixJoin_plain hb ha hl, utf8_append, utf8_slash_cons, segs_append_slash]

theorem unquoteB_posixJoin_quote (base p : Str) (hbase : ∀ c ∈ base, c ≠ '%')
    (hp : (utf8 p).head? ≠ some 0x2F) :
    unquoteB (posixJoin base (quote p)) = utf8 (posixJoin base p) := by
  have hq : (quote p).head? ≠ some '/' := quoteB_head hp
  have hp' := head_of_bytesHead hp
  by_cases ha : base = []
  · subst ha; simp [posixJoin_empty, unquoteB_quote]
  by_cases hl : base.getLast? = some '/'
  · rw [posixJoin_slash hq hl, posixJoin_slash hp' hl, unquoteB_append_noPct _ _ hbase, unquoteB_quote, utf8_append]
  · rw [posixJoin_plain hq ha hl, posixJoin_plain hp' ha hl, unquoteB_append_noPct _ _ hbase,
      unquoteB_cons_ne (by decide), utf8Char_slash, unquoteB_quote, utf8_append, utf8_slash_cons]
    simp

end HtmlVerif
