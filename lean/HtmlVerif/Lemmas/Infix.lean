/-
Three facts about list infix `<:+:`.
-/
namespace HtmlVerif

theorem infix_cons_right {α} {a c : List α} (x : α) (h : a <:+: c) : a <:+: x :: c :=
  List.infix_cons h

theorem infix_self_app {α} (a b : List α) : a <:+: a ++ b := ⟨[], b, by simp⟩

theorem infix_mid {α} (a b c : List α) : b <:+: a ++ b ++ c := ⟨a, c, rfl⟩

end HtmlVerif
