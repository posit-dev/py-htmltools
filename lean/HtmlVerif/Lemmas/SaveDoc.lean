/-
Helper lemmas for C12, part 5: from `as_dict`'s URLs to the attributes of the `<link>` / `<script>` tags of
`as_html_tags`, and from there into the head of the rendered document.
-/
import HtmlVerif.Lemmas.Document
import HtmlVerif.Lemmas.Consolidate
import HtmlVerif.Lemmas.Save
import HtmlVerif.Lemmas.DepTags
import HtmlVerif.Model.SaveDoc

namespace HtmlVerif
open HtmlVerif.Doc

/-! ### `Tag(name, **s)` keeps the value of a key that is alone in normalising to its name -/

theorem alookup_mem {β} {k : Str} {s : List (Str × β)} {u : β} (h : alookup k s = some u) : (k, u) ∈ s := by
  induction s with
  | nil => simp [alookup] at h
  | cons e r ih =>
    obtain ⟨k', v⟩ := e
    by_cases hk : k' = k
    · subst hk; simp [alookup] at h; subst h; simp
    · simp [alookup, hk] at h; exact List.mem_cons_of_mem _ (ih h)

theorem normPairs_strs (s : KVs) :
    normPairs (s.map fun kv => (kv.1, AttrArg.str kv.2)) = s.map fun kv => (normNameSpec kv.1, AttrVal.plain kv.2) := by
  simp [normPairs, List.filterMap_map, normValSpec, Function.comp_def]

theorem groupVals_strs (k : Str) (s : KVs) :
    groupVals k (s.map fun kv => (normNameSpec kv.1, AttrVal.plain kv.2))
      = (s.filter fun kv => normAttrName kv.1 == k).map fun kv => AttrVal.plain kv.2 := by
  induction s with
  | nil => rfl
  | cons e r ih =>
    simp only [groupVals, List.map_cons, List.filterMap_cons, List.filter_cons] at ih ⊢
    rw [normAttrName_eq_spec]
    by_cases h : normNameSpec e.1 = k
    · simp [h, ih]
    · simp [h, ih]

theorem soleKey_filter {k : Str} {s : KVs} {u : Str} (hs : SoleKey k s = true) (hk : normAttrName k = k)
    (hl : alookup k s = some u) : (s.filter fun kv => normAttrName kv.1 == k) = [(k, u)] := by
  have hm : (k, u) ∈ s.filter fun kv => normAttrName kv.1 == k := by
    rw [List.mem_filter]; exact ⟨alookup_mem hl, by simp [hk]⟩
  simp only [SoleKey, beq_iff_eq] at hs
  generalize s.filter (fun kv => normAttrName kv.1 == k) = l at hs hm
  match l, hs, hm with
  | [x], _, hm => simp at hm; rw [hm]

theorem mkTag_attr {cfg : Cfg} {name : Str} {s : KVs} {t : Node} (h : mkTag cfg name s = .ok t)
    {k u : Str} (hs : SoleKey k s = true) (hk : normAttrName k = k) (hl : alookup k s = some u) :
    tagAttr name k t = some (.plain u) := by
  unfold mkTag at h
  split at h
  · cases h
  · split at h
    · cases h
    · rename_i a ha
      cases h
      obtain ⟨rfl, _⟩ := tagInitAttrs_ok_inv cfg [] _ a ha
      simp only [tagAttr, if_true, List.flatten_nil, List.nil_append, mergeSpec]
      rw [alookup_mergeSpecN, normPairs_strs, groupVals_strs, soleKey_filter hs hk hl]
      simp [joinVals]

/-! ### `SoleKey` survives the updates `as_dict` makes -/

theorem keys_kvSet (k v : Str) (s : KVs) :
    (kvSet k v s).map Prod.fst = if k ∈ s.map Prod.fst then s.map Prod.fst else s.map Prod.fst ++ [k] := by
  induction s with
  | nil => simp [kvSet]
  | cons e r ih =>
    obtain ⟨k', v'⟩ := e
    by_cases h : k' = k
    · subst h; simp [kvSet]
    · have h' : ¬ k = k' := fun e => h e.symm
      simp only [kvSet, h, if_false, List.map_cons, ih, List.mem_cons, h', false_or]
      split <;> simp

theorem soleKey_keys (k : Str) (s : KVs) :
    SoleKey k s = (((s.map Prod.fst).filter fun x => normAttrName x == k).length == 1) := by
  simp only [SoleKey, List.filter_map, List.length_map]
  rfl

theorem soleKey_kvSet (k k' v : Str) (s : KVs) (h : k' ∈ s.map Prod.fst ∨ normAttrName k' ≠ k) :
    SoleKey k (kvSet k' v s) = SoleKey k s := by
  rw [soleKey_keys, soleKey_keys, keys_kvSet]
  split
  · rfl
  · rename_i hn
    simp [List.filter_append, h.resolve_left hn]

theorem key_mem_of_alookup {β} {k : Str} {s : List (Str × β)} {u : β} (h : alookup k s = some u) :
    k ∈ s.map Prod.fst :=
  List.mem_map.mpr ⟨(k, u), alookup_mem h, rfl⟩

/-! ### the tags of `as_html_tags` carry the URLs of `as_dict` -/

/-- `[Tag("script", **s) for s in d["script"]]`: the `src` of the i-th tag is the URL of the i-th script -/
theorem scriptTags_urls {cfg : Cfg} {base : Str} : ∀ {l r : List KVs} {ts : List Node},
    asDictScripts base l = .ok r → mkTags cfg nScript r = .ok ts → (∀ s ∈ l, SoleKey dtKSrc s = true) →
    ts.map (tagAttr nScript dtKSrc)
      = l.map fun s => (alookup dtKSrc s).map fun p => AttrVal.plain (posixJoin base (quote p)) := by
  intro l
  induction l with
  | nil => intro r ts h1 h2 _; cases h1; cases h2; rfl
  | cons s t ih =>
    intro r ts h1 h2 hs
    obtain ⟨p, r', hp, hr', rfl⟩ := asDictScripts_cons_ok h1
    obtain ⟨tg, ts', htg, hts', rfl⟩ := mkTags_cons_ok h2
    have hsole : SoleKey dtKSrc (kvSet dtKSrc (posixJoin base (quote p)) s) = true := by
      rw [soleKey_kvSet _ _ _ _ (.inl (key_mem_of_alookup hp))]; exact hs s (by simp)
    have := mkTag_attr htg hsole (by decide) (alookup_kvSet ..)
    simp only [List.map_cons, this, hp, Option.map_some, ih hr' hts' (fun x hx => hs x (by simp [hx]))]

/-- `[Tag("link", **s) for s in d["stylesheet"]]`: the `href` of the i-th tag is the URL of the i-th stylesheet -/
theorem sheetTags_urls {cfg : Cfg} {base : Str} : ∀ {l r : List KVs} {ts : List Node},
    asDictSheets base l = .ok r → mkTags cfg nLink r = .ok ts → (∀ s ∈ l, SoleKey dtKHref s = true) →
    ts.map (tagAttr nLink dtKHref)
      = l.map fun s => (alookup dtKHref s).map fun p => AttrVal.plain (posixJoin base (quote p)) := by
  intro l
  induction l with
  | nil => intro r ts h1 h2 _; cases h1; cases h2; rfl
  | cons s t ih =>
    intro r ts h1 h2 hs
    obtain ⟨p, r', hp, hr', rfl⟩ := asDictSheets_cons_ok h1
    obtain ⟨tg, ts', htg, hts', rfl⟩ := mkTags_cons_ok h2
    have hsole : SoleKey dtKHref (kvSet dtKRel vStylesheet (kvSet dtKHref (posixJoin base (quote p)) s)) = true := by
      rw [soleKey_kvSet _ _ _ _ (.inr (by decide)), soleKey_kvSet _ _ _ _ (.inl (key_mem_of_alookup hp))]
      exact hs s (by simp)
    have := mkTag_attr htg hsole (by decide) (by rw [alookup_kvSet_ne _ _ _ _ (by decide), alookup_kvSet])
    simp only [List.map_cons, this, hp, Option.map_some, ih hr' hts' (fun x hx => hs x (by simp [hx]))]

/-- every script / stylesheet dict of the dependency has one key only that becomes `src` / `href` -/
def SoleKeys (d : DepInfo) : Bool := d.script.all (SoleKey dtKSrc) && d.stylesheet.all (SoleKey dtKHref)

/-- **`as_html_tags` writes the URLs of `as_dict`**: meta tags, then one `<link>` per stylesheet whose `href` is
    `urlOf` of its path, then one `<script>` per script whose `src` is `urlOf` of its path, then the head -/
theorem asHtmlTags_urls {cfg : Cfg} {d : DepInfo} {hh : Bool} {head : Nodes} {lp : Option Str} {iv : Bool} {ts : Nodes}
    (h : asHtmlTags cfg d hh head lp iv = .ok ts) (hk : SoleKeys d = true) :
    ∃ metas links scripts : List Node,
      ts = Nodes.ofList (metas ++ links ++ scripts) ++ (if hh then head else .nil) ∧
      (∀ t ∈ metas, ∃ a, t = .tag nMeta true a .nil) ∧ (∀ t ∈ links, ∃ a, t = .tag nLink true a .nil) ∧
      (∀ t ∈ scripts, ∃ a, t = .tag nScript true a .nil) ∧
      links.map (tagAttr nLink dtKHref)
        = d.stylesheet.map (fun s => (alookup dtKHref s).map fun p => AttrVal.plain (urlOf d lp iv p)) ∧
      scripts.map (tagAttr nScript dtKSrc)
        = d.script.map (fun s => (alookup dtKSrc s).map fun p => AttrVal.plain (urlOf d lp iv p)) := by
  simp only [SoleKeys, Bool.and_eq_true, List.all_eq_true] at hk
  obtain ⟨dd, metas, links, scripts, hdd, hm, hl, hs, rfl⟩ := asHtmlTags_ok h
  obtain ⟨_, hsh, hsc⟩ := asDict_ok hdd
  exact ⟨metas, links, scripts, rfl, (mkTags_shape hm).2, (mkTags_shape hl).2, (mkTags_shape hs).2,
    sheetTags_urls hsh hl hk.2, scriptTags_urls hsc hs hk.1⟩

theorem depMarkupAll_mem {cfg : Cfg} {lp : Option Str} {iv : Bool} : ∀ {ds : List Node} {ms : Nodes},
    depMarkupAll cfg lp iv ds = .ok ms → ∀ x ∈ ds,
      ∃ ts pre post, depTags cfg lp iv x = .ok ts ∧ ms = pre ++ ts.expandAll ++ post := by
  intro ds
  induction ds with
  | nil => intro ms _ x hx; cases hx
  | cons d r ih =>
    intro ms h x hx
    cases hd : depTags cfg lp iv d <;> cases hr : depMarkupAll cfg lp iv r <;>
      simp only [depMarkupAll, depMarkup, hd, hr, Except.ok.injEq, reduceCtorEq] at h
    rename_i ts rs
    subst h
    rcases List.mem_cons.mp hx with rfl | hx
    · exact ⟨ts, .nil, rs, hd, by simp⟩
    · obtain ⟨ts', pre, post, h1, h2⟩ := ih hr x hx
      exact ⟨ts', ts.expandAll ++ pre, post, h1, by rw [h2]; simp [Nodes.append_assoc]⟩

theorem expandAll_ofList_childless {ts : List Node} (h : ChildlessTags ts) :
    (Nodes.ofList ts).expandAll = Nodes.ofList ts := (childless_expand h).1

theorem mem_depInfos {d : DepInfo} {hh : Bool} {hd : Nodes} {ds : List Node} (h : Node.dep d hh hd ∈ ds) :
    d ∈ depInfos ds := by
  simp only [depInfos, List.mem_filterMap]
  exact ⟨_, h, rfl⟩

theorem docFs_of_ok {cfg : Cfg} {content : Nodes} {kw : List (Str × AttrArg)} {lp : Option Str} {iv : Bool}
    {r : DocRendered} (h : docRender cfg content kw lp iv = .ok r) :
    docFs cfg content kw lp iv = { html := r.html, deps := depInfos r.deps } := by
  simp [docFs, h]

end HtmlVerif
