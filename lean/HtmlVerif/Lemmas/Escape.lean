/-
`html_escape` as written (guard, then one `str.replace` per table row in order) is the per-character map of its table, for any
table whose replacement texts contain no later key (`seqOk`); hence it distributes over `++`.
-/
import HtmlVerif.Spec.HtmlTbl

namespace HtmlVerif

theorem replaceChar_append (k : Char) (v a b : Str) :
    replaceChar k v (a ++ b) = replaceChar k v a ++ replaceChar k v b := by
  simp [replaceChar]

theorem seqReplace_append (tbl : List (Char × Str)) (a b : Str) :
    seqReplace tbl (a ++ b) = seqReplace tbl a ++ seqReplace tbl b := by
  induction tbl generalizing a b with
  | nil => rfl
  | cons kv r ih => obtain ⟨k, v⟩ := kv; simp [seqReplace, replaceChar_append, ih]

@[simp] theorem seqReplace_nil_str (tbl : List (Char × Str)) : seqReplace tbl [] = [] := by
  induction tbl with
  | nil => rfl
  | cons kv r ih => obtain ⟨k, v⟩ := kv; simp [seqReplace, replaceChar, ih]

theorem replaceChar_of_not_mem (k : Char) (v s : Str) (h : k ∉ s) : replaceChar k v s = s := by
  induction s with
  | nil => rfl
  | cons c cs ih =>
    have hc : c ≠ k := fun e => h (by simp [e])
    have hcs : k ∉ cs := fun e => h (by simp [e])
    simp [replaceChar, hc] at ih ⊢
    exact ih hcs

theorem seqReplace_noKey (tbl : List (Char × Str)) (s : Str)
    (h : ∀ kv ∈ tbl, kv.1 ∉ s) : seqReplace tbl s = s := by
  induction tbl generalizing s with
  | nil => rfl
  | cons kv r ih =>
    obtain ⟨k, v⟩ := kv
    simp only [seqReplace]
    rw [replaceChar_of_not_mem k v s (h (k, v) (by simp))]
    exact ih s (fun kv hk => h kv (by simp [hk]))

theorem needsEscape_false_iff (tbl : List (Char × Str)) (s : Str) :
    needsEscape tbl s = false ↔ ∀ kv ∈ tbl, kv.1 ∉ s := by
  simp only [needsEscape, List.any_eq_false, List.any_eq_true, beq_iff_eq, not_exists, not_and]
  constructor
  · intro h kv hkv hmem; exact h kv.1 hmem kv hkv rfl
  · intro h c hc kv hkv e; exact h kv hkv (e ▸ hc)

/-- the regex guard is only an optimisation: html_escape is the sequential replacement, always -/
theorem htmlEscapeT_eq_seqReplace (tbl : List (Char × Str)) (s : Str) :
    htmlEscapeT tbl s = seqReplace tbl s := by
  unfold htmlEscapeT
  by_cases h : needsEscape tbl s = true
  · simp [h]
  · have h' : needsEscape tbl s = false := by simpa using h
    simp [h', seqReplace_noKey tbl s ((needsEscape_false_iff tbl s).mp h')]

theorem htmlEscapeT_append (tbl : List (Char × Str)) (a b : Str) :
    htmlEscapeT tbl (a ++ b) = htmlEscapeT tbl a ++ htmlEscapeT tbl b := by
  simp [htmlEscapeT_eq_seqReplace, seqReplace_append]

@[simp] theorem htmlEscapeT_nil (tbl : List (Char × Str)) : htmlEscapeT tbl [] = [] := by
  simp [htmlEscapeT_eq_seqReplace]

theorem htmlEscapeT_flatMap (tbl : List (Char × Str)) (s : Str) :
    htmlEscapeT tbl s = s.flatMap (fun c => htmlEscapeT tbl [c]) := by
  induction s with
  | nil => simp
  | cons c cs ih => rw [← List.singleton_append, htmlEscapeT_append, ih]; simp

/-- one character through all passes: the first pass whose key it is replaces it, and the later passes leave the
    replacement alone because it contains none of their keys -/
theorem seqReplace_single (tbl : List (Char × Str)) (h : seqOk tbl = true) (c : Char) :
    seqReplace tbl [c] = escCharT tbl c := by
  induction tbl with
  | nil => simp [seqReplace, escCharT]
  | cons kv r ih =>
    obtain ⟨k, v⟩ := kv
    simp only [seqOk, tblHasKey, Bool.and_eq_true, List.all_eq_true, Bool.not_eq_true', List.any_eq_false,
      beq_iff_eq] at h
    by_cases hc : c = k
    · subst hc
      simp [seqReplace, replaceChar, escCharT, seqReplace_noKey r v fun kv hkv hmem => h.1 _ hmem kv hkv rfl]
    · have : (k == c) = false := by simpa using fun e => hc e.symm
      simp [seqReplace, replaceChar, hc, escCharT, List.find?, this, ih h.2]

theorem htmlEscapeT_perChar (tbl : List (Char × Str)) (h : seqOk tbl = true) (s : Str) :
    htmlEscapeT tbl s = s.flatMap (escCharT tbl) := by
  rw [htmlEscapeT_flatMap]
  congr 1
  funext c
  rw [htmlEscapeT_eq_seqReplace, seqReplace_single tbl h c]

/-- side condition under which the *sequential* passes equal the per-character map: keys pairwise
    distinct, and no replacement text contains a key that is processed later -/
def TblOk : List (Char × Str) → Bool
  | [] => true
  | (k, v) :: r => r.all (fun kv => kv.1 != k && !v.contains kv.1) && TblOk r

theorem seqOk_of_TblOk (tbl : List (Char × Str)) (h : TblOk tbl = true) : seqOk tbl = true := by
  induction tbl with
  | nil => rfl
  | cons kv r ih =>
    obtain ⟨k, v⟩ := kv
    simp only [TblOk, Bool.and_eq_true, List.all_eq_true, Bool.not_eq_true', List.contains_eq_mem,
      decide_eq_false_iff_not] at h
    simp only [seqOk, tblHasKey, Bool.and_eq_true, List.all_eq_true, Bool.not_eq_true', List.any_eq_false,
      beq_iff_eq]
    exact ⟨fun c hc kv hkv e => (h.1 kv hkv).2 (e ▸ hc), ih h.2⟩

end HtmlVerif
