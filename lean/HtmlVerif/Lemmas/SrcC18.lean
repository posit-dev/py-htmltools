/-
Helper lemmas for the source tie of `Tag/TagList.render`, the string views and `head_content` (Props/SrcC18.lean): the
two models of `_resolve_dependencies` agree; the module constants of this area.
-/
import HtmlVerif.Lemmas.SrcC09
import HtmlVerif.Props.SrcEscape

namespace HtmlVerif.SrcTie
open HtmlVerif HtmlVerif.Py HtmlVerif.Generated.Src

/-- a dependency entry of `Tagify.collectDepsKids` as the node it came from -/
def depNodeC18 (e : Tagify.DepEntry) : Node := .dep e.1 e.2.1 e.2.2

mutual
  theorem collect_depEntries_C18 (n : Node) : n.collect = (Tagify.collectDeps n).map depNodeC18 := by
    cases n with
    | tag nm w a k => simp [Node.collect, Tagify.collectDeps, collectKids_depEntries_C18 k]
    | _ => simp [Node.collect, Tagify.collectDeps]
  theorem collectKids_depEntries_C18 (ks : Nodes) : ks.collect = (Tagify.collectDepsKids ks).map depNodeC18 := by
    cases ks with
    | nil => rfl
    | cons h t =>
      have ih := collectKids_depEntries_C18 t
      cases h with
      | tag nm w a k =>
        simp [Nodes.collect, Tagify.collectDepsKids, ih, collect_depEntries_C18 (.tag nm w a k)]
      | dep d hh hd => simp [Nodes.collect, Tagify.collectDepsKids, ih, depNodeC18]
      | _ => simp [Nodes.collect, Tagify.collectDepsKids, ih]
end

/-- the association list `name ↦ dependency` of Model/Deps.lean for the entry list of Model/Tagify.lean -/
def amapOfC18 (es : List Tagify.DepEntry) : List (Str × Node) := es.map fun e => (e.1.name, depNodeC18 e)

theorem resolveStep_insert_C18 (es : List Tagify.DepEntry) (d : Tagify.DepEntry) :
    resolveStep depGt Node.depName (amapOfC18 es) (depNodeC18 d) = amapOfC18 (Tagify.resolveInsert es d) := by
  induction es with
  | nil => simp [resolveStep, amapOfC18, amapGet?, amapSet, Tagify.resolveInsert, depNodeC18, Node.depName]
  | cons e r ih =>
    by_cases hn : e.1.name = d.1.name
    · by_cases hg : d.1.vrank > e.1.vrank <;>
        simp [resolveStep, amapOfC18, amapGet?, amapSet, Tagify.resolveInsert, depNodeC18, Node.depName, hn, depGt, Node.vrank, hg]
    · have hn' : ¬ (e.1.name == d.1.name) = true := by simpa using hn
      simp only [resolveStep, amapOfC18, List.map_cons, amapGet?, depNodeC18, Node.depName, hn, if_false, Tagify.resolveInsert,
        hn', amapSet] at ih ⊢
      cases hg : amapGet? d.1.name (List.map (fun e => (e.1.name, Node.dep e.1 e.2.1 e.2.2)) r) with
      | none => simp only [hg] at ih ⊢; simp [ih]
      | some cur =>
        simp only [hg] at ih ⊢
        by_cases hgt : depGt (Node.dep d.1 d.2.1 d.2.2) cur = true
        · simp only [hgt, if_true] at ih ⊢; simp [ih]
        · simp only [hgt, Bool.false_eq_true, if_false] at ih ⊢; simp [ih]

theorem resolveMap_entries_C18 (ds acc : List Tagify.DepEntry) :
    (ds.map depNodeC18).foldl (resolveStep depGt Node.depName) (amapOfC18 acc) = amapOfC18 (ds.foldl Tagify.resolveInsert acc) := by
  induction ds generalizing acc with
  | nil => rfl
  | cons d t ih => simp only [List.map_cons, List.foldl_cons, resolveStep_insert_C18, ih]

/-- `resolve` (Model/Deps.lean, what Props/SrcC10.lean ties `_resolve_dependencies` to) on the nodes =
    `Tagify.resolveDeps` (Model/Tagify.lean, what `renderOfList` reports) on the entries -/
theorem resolve_entries_C18 (ds : List Tagify.DepEntry) :
    resolve (ds.map depNodeC18) = (Tagify.resolveDeps ds).map depNodeC18 := by
  have := resolveMap_entries_C18 ds []
  simp only [resolve, resolveBy, resolveMap, Tagify.resolveDeps]
  rw [show ([] : List (Str × Node)) = amapOfC18 [] from rfl, this]
  simp [amapOfC18, Function.comp_def]

/-- `globalsOf cfg` with `html_dependency_render_mode` and the SHA-1 digest function as given -/
def globalsC18 (cfg : Cfg) (mode : PVal) (sha : Str → Option Str := fun _ => none) : Globals :=
  { globalsOf cfg with renderModeC18 := mode, sha1HexC18 := sha }

theorem globalsC18_void (cfg : Cfg) (m : PVal) (sha : Str → Option Str) : (globalsC18 cfg m sha).VOID_TAG_NAMES = cfg.void := rfl
theorem globalsC18_noesc (cfg : Cfg) (m : PVal) (sha : Str → Option Str) : (globalsC18 cfg m sha).NO_ESCAPE_TAG_NAMES = cfg.noesc := rfl
theorem globalsC18_mode (cfg : Cfg) (m : PVal) (sha : Str → Option Str) : (globalsC18 cfg m sha).renderModeC18 = m := rfl
theorem globalsC18_sha (cfg : Cfg) (m : PVal) (sha : Str → Option Str) : (globalsC18 cfg m sha).sha1HexC18 = sha := rfl

theorem html_escape_globalsC18 (cfg : Cfg) (m : PVal) (sha : Str → Option Str) :
    html_escape (globalsC18 cfg m sha) = html_escape (globalsOf cfg) := rfl
theorem normalize_text_globalsC18 (cfg : Cfg) (m : PVal) (sha : Str → Option Str) :
    normalize_text (globalsC18 cfg m sha) = normalize_text (globalsOf cfg) := rfl

end HtmlVerif.SrcTie
