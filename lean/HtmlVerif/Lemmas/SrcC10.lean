/-
Helper lemmas and embeddings for the source tie of `_resolve_dependencies`, `Tag/TagList.get_dependencies` and
`Tag/TagList.tagify` (Props/SrcC10.lean, Props/SrcC09.lean).

`render()` hands the same objects to `tagify`, `get_dependencies` and `get_html_string`, and the string views read still
more of a dependency object (what `serialize_to_script_json()` returns).  So the ties are stated for a family of embeddings
that carries everything:

    embC18 xf tv   --  `embT tv` whose dependency objects have the additional fields `xf d hh hd`

(`XfOkC18 xf`: the additional fields bring no `__copy__` / `tagify` of their own).  `embC18 xfNilC18 tv = embT tv`
(`embC18_nil`), and every `embC18 xf tv` shows the renderer what it reads (`renderEmb_embC18`).  The loop lemmas take the embedding of the nodes as a variable: their proofs never look into it.
-/
import HtmlVerif.Generated.Src
import HtmlVerif.Lemmas.SrcRender
import HtmlVerif.Lemmas.Tagify
import HtmlVerif.Model.Deps
import HtmlVerif.Model.Tagify
import HtmlVerif.Spec.Deps

namespace HtmlVerif.SrcTie
open HtmlVerif HtmlVerif.Py HtmlVerif.Generated.Src

/-! ## `_resolve_dependencies`: the dict `name ↦ dependency` against the association list of the model -/

section resolve
variable {α : Type} (e : α → PVal) (nm : α → Str) (rk : α → Int)

def embMap (m : List (Str × α)) : PVal := .dict (m.map fun kv => (kv.1, e kv.2))

theorem dictGet?_embMap (k : Str) (m : List (Str × α)) :
    Py.dictGet? k (m.map fun kv => (kv.1, e kv.2)) = (amapGet? k m).map e := by
  induction m with
  | nil => rfl
  | cons x t ih =>
    obtain ⟨k', v⟩ := x
    simp only [List.map_cons, Py.dictGet?, amapGet?]
    by_cases h : k' = k <;> simp [h, ih]

theorem dictSet_embMap (k : Str) (v : α) (m : List (Str × α)) :
    Py.dictSet k (e v) (m.map fun kv => (kv.1, e kv.2)) = (amapSet k v m).map fun kv => (kv.1, e kv.2) := by
  induction m with
  | nil => rfl
  | cons x t ih =>
    obtain ⟨k', v'⟩ := x
    simp only [List.map_cons, Py.dictSet, amapSet]
    by_cases h : k' = k <;> simp [h, ih]

theorem foldlM_ok {β γ ε : Type} (g : β → γ → β) (l : List γ) (b : β) :
    l.foldlM (m := Except ε) (fun b c => .ok (g b c)) b = .ok (l.foldl g b) := by
  induction l generalizing b with
  | nil => rfl
  | cons a t ih => simp only [List.foldlM_cons, List.foldl_cons, bind, Except.bind]; exact ih _

end resolve

theorem amapSet_vals {α : Type} (k : Str) (v : α) (m : List (Str × α)) :
    ∀ kv ∈ amapSet k v m, kv.2 = v ∨ kv ∈ m := by
  induction m with
  | nil => intro kv h; simp [amapSet] at h; exact Or.inl (by rw [h])
  | cons x t ih =>
    obtain ⟨k', v'⟩ := x
    intro kv h
    simp only [amapSet] at h
    by_cases hk : k' = k
    · simp only [hk, if_true, List.mem_cons] at h
      rcases h with rfl | h
      · exact Or.inl rfl
      · exact Or.inr (by simp [h])
    · simp only [hk, if_false, List.mem_cons] at h
      rcases h with rfl | h
      · exact Or.inr (by simp)
      · rcases ih kv h with h' | h'
        · exact Or.inl h'
        · exact Or.inr (by simp [h'])

theorem amapGet?_vals {α : Type} (k : Str) (v : α) (m : List (Str × α)) (h : amapGet? k m = some v) :
    ∃ kv ∈ m, kv.2 = v := by
  induction m with
  | nil => simp [amapGet?] at h
  | cons x t ih =>
    obtain ⟨k', v'⟩ := x
    simp only [amapGet?] at h
    by_cases hk : k' = k
    · simp only [hk, if_true, Option.some.injEq] at h
      exact ⟨(k', v'), by simp, h⟩
    · simp only [hk, if_false] at h
      obtain ⟨kv, h1, h2⟩ := ih h
      exact ⟨kv, by simp [h1], h2⟩

theorem resolveStep_vals {α : Type} (nm : α → Str) (gt : α → α → Bool) (P : α → Prop) (m : List (Str × α)) (c : α)
    (hm : ∀ kv ∈ m, P kv.2) (hc : P c) : ∀ kv ∈ resolveStep gt nm m c, P kv.2 := by
  intro kv h
  unfold resolveStep at h
  split at h
  · rcases amapSet_vals _ _ _ kv h with h' | h'
    · rw [h']; exact hc
    · exact hm kv h'
  · split at h
    · rcases amapSet_vals _ _ _ kv h with h' | h'
      · rw [h']; exact hc
      · exact hm kv h'
    · exact hm kv h

/-- the loop of `_resolve_dependencies`, whatever its body and whatever other locals its state carries (`get` reads
    the dict out of the state); `k` is the code after the loop -/
theorem resolve_loop_k {α β σ : Type} (get : σ → PVal) (e : α → PVal) (nm : α → Str) (gt : α → α → Bool) (ds : List α)
    (init : σ) (hinit : get init = embMap e [])
    (f : PVal → σ → PyM (ForInStep σ))
    (hstep : ∀ c ∈ ds, ∀ (s : σ) (m : List (Str × α)), get s = embMap e m → (∀ kv ∈ m, kv.2 ∈ ds) →
      ∃ s', f (e c) s = .ok (.yield s') ∧ get s' = embMap e (resolveStep gt nm m c))
    (k : σ → PyM β) (r : PyM β)
    (hk : ∀ s, get s = embMap e (resolveMap gt nm ds) → k s = r) :
    (forIn (ds.map e) init f >>= k) = r := by
  have sim := forIn_sim (fun (s : σ) (m : List (Str × α)) => get s = embMap e m ∧ ∀ kv ∈ m, kv.2 ∈ ds) embErr e ds f
    (fun c m => .ok (resolveStep gt nm m c)) init [] ⟨hinit, by simp⟩
    (by
      intro c hc s m hR
      obtain ⟨s', h1, h2⟩ := hstep c hc s m hR.1 hR.2
      exact ⟨_, h1, s', rfl, h2, resolveStep_vals nm gt (· ∈ ds) m c hR.2 hc⟩)
  rw [foldlM_ok (fun m c => resolveStep gt nm m c)] at sim
  obtain ⟨s, hs, hR⟩ := sim
  rw [hs, ok_bind]
  exact hk s hR.1

theorem pyGt_version (x y : Int) (fa fb : List (String × PVal)) :
    pyGt (.obj "Version" (("rank", .int x) :: fa)) (.obj "Version" (("rank", .int y) :: fb)) = .ok (.bool (decide (x > y))) := by
  simp [pyGt, fieldGet?]

theorem pyIn_embMap {α : Type} (e : α → PVal) (k : Str) (m : List (Str × α)) :
    pyIn (.str k) (embMap e m) = .ok (.bool (amapGet? k m).isSome) := by
  simp [pyIn, embMap, dictGet?_embMap]

theorem pyGetItem_embMap {α : Type} (e : α → PVal) (k : Str) (m : List (Str × α)) (v : α) (h : amapGet? k m = some v) :
    pyGetItem (embMap e m) (.str k) = .ok (e v) := by
  simp [pyGetItem, embMap, dictGet?_embMap, h]

theorem pySetItem_embMap {α : Type} (e : α → PVal) (k : Str) (m : List (Str × α)) (v : α) :
    pySetItem (embMap e m) (.str k) (e v) = .ok (embMap e (amapSet k v m)) := by
  simp [pySetItem, embMap, dictSet_embMap]

theorem values_embMap {α : Type} (e : α → PVal) (m : List (Str × α)) :
    (pyValues (embMap e m) >>= pyList) = .ok (.list ((m.map Prod.snd).map e)) := by
  simp [pyValues, embMap, pyList, pyIter, Function.comp_def]

/-- the fields of an HTMLDependency these functions read — `name`, `version` (a `packaging` Version carrying its rank in
    the order `packaging` reports, and its text) — and `meta`, which holds the marker the harness gives every object
    (the model's notion of which object is which) -/
def embDepFields (d : DepInfo) : List (String × PVal) :=
  [("name", .str d.name),
   ("version", .obj "Version" [("rank", .int d.vrank), ("text", .str d.version)]),
   ("meta", .list (d.metas.map fun m => PVal.dict (m.map fun kv => (kv.1, PVal.str kv.2))))]

mutual
  /-- `tv n` is the value the call `n.tagify()` returns for a tagifiable object `n` of a class
      outside the library (recorded in the instance under `tagify`, read by `pyTagifyObj`). -/
  def embT (tv : Node → PVal) : Node → PVal
    | .tag name ws attrs kids =>
      .obj "Tag" [("name", .str name), ("attrs", embAttrs attrs),
                  ("children", .obj "TagList" [("data", .list (embTs tv kids))]), ("add_ws", .bool ws)]
    | .text s => .str s
    | .html s => .html s
    | .robj s => .obj "ReprObj" [("_repr_html_", .str s)]
    | .mnode n => .obj "MetadataNode" [("id", .int n)]
    | .dep d _ _ => .obj "HTMLDependency" (embDepFields d)
    | .tobjL rh c => .obj "TagifyObj" (("tagify", tv (.tobjL rh c)) :: reprField rh)
    | .tobj1 rh c => .obj "TagifyObj" (("tagify", tv (.tobj1 rh c)) :: reprField rh)
  def embTs (tv : Node → PVal) : Nodes → List PVal
    | .nil => []
    | .cons h t => embT tv h :: embTs tv t
end

def tagListOf (items : List PVal) : PVal := .obj "TagList" [("data", .list items)]

theorem embTs_toList (tv : Node → PVal) (ks : Nodes) : embTs tv ks = ks.toList.map (embT tv) := by
  induction ks with
  | nil => rfl
  | cons h t ih => simp [embTs, Nodes.toList, ih]

/-- additional fields of a dependency object (beyond `embDepFields`): a function of the dependency as it sits in the tree -/
abbrev XfC18 := DepInfo → Bool → Nodes → List (String × PVal)

mutual
  /-- `embT tv` with `xf d hh hd` appended to the `__dict__` of every dependency object -/
  def embC18 (xf : XfC18) (tv : Node → PVal) : Node → PVal
    | .tag name ws attrs kids =>
      .obj "Tag" [("name", .str name), ("attrs", embAttrs attrs),
                  ("children", .obj "TagList" [("data", .list (embsC18 xf tv kids))]), ("add_ws", .bool ws)]
    | .text s => .str s
    | .html s => .html s
    | .robj s => .obj "ReprObj" [("_repr_html_", .str s)]
    | .mnode n => .obj "MetadataNode" [("id", .int n)]
    | .dep d hh hd => .obj "HTMLDependency" (embDepFields d ++ xf d hh hd)
    | .tobjL rh c => .obj "TagifyObj" (("tagify", tv (.tobjL rh c)) :: reprField rh)
    | .tobj1 rh c => .obj "TagifyObj" (("tagify", tv (.tobj1 rh c)) :: reprField rh)
  def embsC18 (xf : XfC18) (tv : Node → PVal) : Nodes → List PVal
    | .nil => []
    | .cons h t => embC18 xf tv h :: embsC18 xf tv t
end

/-- no additional fields: the embedding of Props/SrcC09.lean / SrcC10.lean -/
def xfNilC18 : XfC18 := fun _ _ _ => []

mutual
  theorem embC18_nil (tv : Node → PVal) (c : Node) : embC18 xfNilC18 tv c = embT tv c := by
    cases c with
    | tag n w a k => simp [embC18, embT, embsC18_nil tv k]
    | dep d hh hd => simp [embC18, embT, xfNilC18]
    | _ => simp [embC18, embT]
  theorem embsC18_nil (tv : Node → PVal) (ks : Nodes) : embsC18 xfNilC18 tv ks = embTs tv ks := by
    cases ks with
    | nil => rfl
    | cons c t => simp [embsC18, embTs, embC18_nil tv c, embsC18_nil tv t]
end

/-- the additional fields bring no `__copy__` and no `tagify` of their own (a dependency object stays an ordinary,
    non-tagifiable instance) -/
def XfOkC18 (xf : XfC18) : Prop :=
  ∀ d hh hd, fieldGet? "__copy__" (xf d hh hd) = none ∧ ((xf d hh hd).any fun f => f.1 == "tagify") = false

theorem xfNilC18_ok : XfOkC18 xfNilC18 := fun _ _ _ => ⟨rfl, rfl⟩

theorem embsC18_toList (xf : XfC18) (tv : Node → PVal) (ks : Nodes) : embsC18 xf tv ks = ks.toList.map (embC18 xf tv) := by
  induction ks with
  | nil => rfl
  | cons h t ih => simp [embsC18, Nodes.toList, ih]

theorem renderEmb_embC18 (xf : XfC18) (tv : Node → PVal) : RenderEmb (embC18 xf tv) where
  tag nm ws a k := by rw [embC18, embsC18_toList]
  text _ := rfl
  html _ := rfl
  robj _ := ⟨rfl, rfl, rfl, rfl⟩
  tobjL rh _ := by cases rh <;> exact ⟨rfl, rfl, rfl, rfl⟩
  tobj1 rh _ := by cases rh <;> exact ⟨rfl, rfl, rfl, rfl⟩
  isMeta c := by cases c <;> rfl
  notInline c h := by cases c <;> first | exact ⟨rfl, rfl⟩ | cases h

theorem renderEmb_embT (tv : Node → PVal) : RenderEmb (embT tv) := by
  rw [← funext (embC18_nil tv)]; exact renderEmb_embC18 _ tv

theorem isMeta_embC18 (xf : XfC18) (tv : Node → PVal) (c : Node) :
    isInstance (embC18 xf tv c) ["MetadataNode"] = c.isMeta := by
  cases c <;> simp [embC18, isInstance, builtinClasses, classBases, Node.isMeta]

theorem isDep_embC18 (xf : XfC18) (tv : Node → PVal) (c : Node) :
    isInstance (embC18 xf tv c) ["HTMLDependency"] = c.isDep := by
  cases c <;> simp [embC18, isInstance, builtinClasses, classBases, Node.isDep]

theorem isTag_embC18 (xf : XfC18) (tv : Node → PVal) (c : Node) :
    isInstance (embC18 xf tv c) ["Tag"] = c.isTag := by
  cases c <;> simp [embC18, isInstance, builtinClasses, classBases, Node.isTag]

theorem not_taglist_embC18 (xf : XfC18) (tv : Node → PVal) (c : Node) :
    isInstance (embC18 xf tv c) ["TagList"] = false := by
  cases c <;> simp [embC18, isInstance, builtinClasses, classBases]

theorem isTagifiable_embC18 (xf : XfC18) (hx : XfOkC18 xf) (tv : Node → PVal) (c : Node) :
    isInstance (embC18 xf tv c) ["Tagifiable"] = c.isTagifiable := by
  cases c with
  | dep d hh hd =>
    have := (hx d hh hd).2
    simp [embC18, isInstance, builtinClasses, classBases, Node.isTagifiable, embDepFields, this]
  | _ => simp [embC18, isInstance, builtinClasses, classBases, Node.isTagifiable]

theorem plain_embC18 (xf : XfC18) (tv : Node → PVal) (c : Node) : isPlainTagNode (embC18 xf tv c) = true := by
  cases c <;> simp [embC18, isPlainTagNode, isInstance, classBases]

theorem pyTagchilds_embC18 (xf : XfC18) (tv : Node → PVal) (ns : List Node) :
    pyTagchildsToTagnodes (tagListOf (ns.map (embC18 xf tv))) = .ok (.list (ns.map (embC18 xf tv))) := by
  have : (ns.map (embC18 xf tv)).all isPlainTagNode = true := by simp [plain_embC18]
  simp only [pyTagchildsToTagnodes, tagListOf, userListData?, fieldGet?, if_true, this, pure_eq_ok]

theorem pyCopy_meta_C18 (xf : XfC18) (hx : XfOkC18 xf) (tv : Node → PVal) (c : Node) (h : c.isMeta = true) :
    pyCopy (embC18 xf tv c) = .ok (embC18 xf tv c) := by
  cases c <;> simp [Node.isMeta] at h
  · simp [embC18, pyCopy, fieldGet?]
  · rename_i d hh hd
    have := (hx d hh hd).1
    simp [embC18, pyCopy, fieldGet?, embDepFields, this]

theorem embC18_dep_name (xf : XfC18) (tv : Node → PVal) (d : Node) (h : d.isDep = true) :
    pyGetAttr (embC18 xf tv d) "name" = .ok (.str d.depName) := by
  cases d <;> simp [Node.isDep] at h
  simp [embC18, embDepFields, pyGetAttr, fieldGet?, Node.depName]

theorem embC18_dep_version (xf : XfC18) (tv : Node → PVal) (d : Node) (h : d.isDep = true) :
    ∃ fs, pyGetAttr (embC18 xf tv d) "version" = .ok (.obj "Version" (("rank", .int ((d.vrank : Nat) : Int)) :: fs)) := by
  cases d <;> simp [Node.isDep] at h
  rename_i d _ _
  exact ⟨[("text", .str d.version)], by simp [embC18, embDepFields, pyGetAttr, fieldGet?, Node.vrank]⟩

theorem getattr_tagC18 (xf : XfC18) (tv : Node → PVal) (nm : Str) (ws : Bool) (a : Attrs) (k : Nodes) :
    pyGetAttr (embC18 xf tv (.tag nm ws a k)) "name" = .ok (.str nm)
    ∧ pyGetAttr (embC18 xf tv (.tag nm ws a k)) "attrs" = .ok (embAttrs a)
    ∧ pyGetAttr (embC18 xf tv (.tag nm ws a k)) "children" = .ok (tagListOf (embsC18 xf tv k))
    ∧ pyGetAttr (embC18 xf tv (.tag nm ws a k)) "add_ws" = .ok (.bool ws) := by
  simp [embC18, pyGetAttr, fieldGet?, tagListOf]

theorem isTag_embT (tv : Node → PVal) (c : Node) : isInstance (embT tv c) ["Tag"] = c.isTag := by
  rw [← embC18_nil, isTag_embC18]

/-- what one pass of `for x in self: …` in `TagList.get_dependencies` does to `deps` -/
def depsStep (acc : List Node) (h : Node) : List Node :=
  match h with
  | .dep .. => acc ++ [h]
  | .tag .. => acc ++ h.collect
  | _ => acc

theorem deps_fold (ks : Nodes) (acc : List Node) : ks.toList.foldl depsStep acc = acc ++ ks.collect := by
  induction ks generalizing acc with
  | nil => simp [Nodes.toList, Nodes.collect]
  | cons h t ih =>
    simp only [Nodes.toList, List.foldl_cons]
    rw [ih]
    cases h <;> simp [depsStep, Nodes.collect]

/-- the loop of `TagList.get_dependencies`, whatever its body and whatever the embedding `E` of the nodes; `k` is the
    code after the loop -/
theorem deps_loop_k {β σ : Type} (E : Node → PVal) (get : σ → PVal) (ks : Nodes)
    (init : σ) (hinit : get init = .list [])
    (f : PVal → σ → PyM (ForInStep σ))
    (hstep : ∀ c ∈ ks.toList, ∀ (s : σ) (b : List Node), get s = .list (b.map E) →
      ∃ s', f (E c) s = .ok (.yield s') ∧ get s' = .list ((depsStep b c).map E))
    (k : σ → PyM β) (r : PyM β)
    (hk : ∀ s, get s = .list (ks.collect.map E) → k s = r) :
    (forIn (ks.toList.map E) init f >>= k) = r := by
  have sim := forIn_sim (fun (s : σ) (b : List Node) => get s = .list (b.map E)) embErr E ks.toList f
    (fun c b => .ok (depsStep b c)) init [] (by simpa using hinit)
    (by
      intro c hc s b hR
      obtain ⟨s', h1, h2⟩ := hstep c hc s b hR
      exact ⟨_, h1, s', rfl, h2⟩)
  rw [foldlM_ok depsStep, deps_fold] at sim
  obtain ⟨s, hs, hR⟩ := sim
  rw [hs, ok_bind]
  exact hk s (by simpa using hR)

theorem collect_isDep (ks : Nodes) : ∀ d ∈ ks.collect, d.isDep = true := by
  induction ks using Nodes.rec (motive_1 := fun n => ∀ d ∈ n.collect, d.isDep = true) with
  | nil => simp [Nodes.collect]
  | cons h t ih1 ih2 =>
    intro d hd
    cases h with
    | tag n w a k =>
      simp only [Nodes.collect, List.mem_append] at hd
      rcases hd with hd | hd
      · exact ih1 d hd
      · exact ih2 d hd
    | dep dd hh hdd =>
      simp only [Nodes.collect, List.mem_cons] at hd
      rcases hd with rfl | hd
      · rfl
      · exact ih2 d hd
    | _ => exact ih2 d (by simpa [Nodes.collect] using hd)
  | tag n w a k ih => rename_i d hd; exact ih d (by simpa [Node.collect] using hd)
  | _ => rename_i d hd; simp [Node.collect] at hd

theorem depGt_int : (fun a b : Node => decide ((a.vrank : Int) > (b.vrank : Int))) = depGt := by
  funext a b; simp [depGt]

end HtmlVerif.SrcTie
