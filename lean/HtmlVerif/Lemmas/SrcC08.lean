/-
For the source tie of C08 (Props/SrcC08.lean): the loop rule for a loop that leaves the function on the first failing test
(`forIn_all_k`), what `_equals_impl` computes on an instance given with its `__dict__` (`equalsSpec`), the embedding of the
tree model into the Python objects `==` sees (`embE`), and facts about the stated semantics of `==` (Py/PrimC08.lean).
Also `str.replace("</", "<\\/")` as the model's `neutralise` (`replaceGo_neut_len`, used by Props/SrcC13.lean and
Props/SrcNeutralise.lean).
-/
import HtmlVerif.Lemmas.SrcTie
import HtmlVerif.Lemmas.PyClass
import HtmlVerif.Model.Equality
import HtmlVerif.Lemmas.Equality
import HtmlVerif.Model.Json
import HtmlVerif.Py.PrimC08
import HtmlVerif.Generated.Src
import HtmlVerif.Lemmas.Nodes

namespace HtmlVerif.SrcTie
open HtmlVerif HtmlVerif.Py HtmlVerif.Generated.Src

/-- `all(t(c) for c in l)` in the exception monad: stops at the first `False` or the first exception -/
def allOk {γ : Type} (t : γ → PyM Bool) : List γ → PyM Bool
  | [] => .ok true
  | c :: r =>
    match t c with
    | .ok true => allOk t r
    | .ok false => .ok false
    | .error e => .error e

/-- a loop whose body returns `rf` from the function as soon as the test `t` fails, whatever the body is: the first
    component of the loop state is the "return value" slot, the only part the continuation reads -/
theorem forIn_all_k {α γ τ υ β : Type} (e : γ → α) (l : List γ)
    (f : α → Option τ × υ → PyM (ForInStep (Option τ × υ))) (t : γ → PyM Bool) (rf : τ)
    (init : Option τ × υ) (h0 : init.1 = none)
    (hstep : ∀ c ∈ l, ∀ s : Option τ × υ, s.1 = none →
      match t c with
      | .ok true => ∃ s', f (e c) s = .ok (.yield s') ∧ s'.1 = none
      | .ok false => ∃ s', f (e c) s = .ok (.done s') ∧ s'.1 = some rf
      | .error er => f (e c) s = .error er)
    (k : Option τ × υ → PyM β) (k' : Option τ → PyM β) (hk : ∀ s, k s = k' s.1) :
    (forIn (l.map e) init f >>= k)
      = match allOk t l with
        | .ok true => k' none
        | .ok false => k' (some rf)
        | .error er => .error er := by
  induction l generalizing init with
  | nil => simp only [List.map_nil, List.forIn_nil, allOk, pure_eq_ok, ok_bind, hk, h0]
  | cons c r ih =>
    have hs := hstep c (by simp) init h0
    simp only [List.map_cons, List.forIn_cons, allOk]
    cases htc : t c with
    | error er => rw [htc] at hs; simp only at hs; rw [hs]; rfl
    | ok b =>
      cases b with
      | true =>
        rw [htc] at hs
        obtain ⟨s', h1, h2⟩ := hs
        simp only [h1, ok_bind]
        exact ih s' h2 (fun c' hc' s hs => hstep c' (by simp [hc']) s hs)
      | false =>
        rw [htc] at hs
        obtain ⟨s', h1, h2⟩ := hs
        simp only [h1, ok_bind, pure_eq_ok, hk, h2]

theorem allOk_all {γ : Type} (t : γ → PyM Bool) (p : γ → Bool) (l : List γ) (h : ∀ c ∈ l, t c = .ok (p c)) :
    allOk t l = .ok (l.all p) := by
  induction l with
  | nil => rfl
  | cons c r ih =>
    have hc := h c (by simp)
    have ihr := ih (fun c' hc' => h c' (by simp [hc']))
    simp only [allOk, hc, List.all_cons]
    cases p c <;> simp [ihr]

/-- the dispatch over the translated `__eq__` methods, as the translation of `_equals_impl` passes it to `==` -/
abbrev eqD (G : Globals) (fuel : Nat) : PVal → PVal → PyM PVal :=
  eqDispatch (Tag_eq G fuel) (TagList_eq G fuel) (HTMLDependency_eq G fuel)

/-- `getattr(x, key, None) == getattr(y, key, None)` for the key of one `__dict__` entry of `x` -/
def fieldTest (objEq : PVal → PVal → PyM PVal) (x y : PVal) (kv : String × PVal) : PyM Bool := do
  let a ← pyGetAttrD x (.str kv.1.toList) .none
  let b ← pyGetAttrD y (.str kv.1.toList) .none
  pyEqWith objEq a b

/-- `_equals_impl(x, y)` for `x` an instance of class `c` with `__dict__` `fs` -/
def equalsSpec (objEq : PVal → PVal → PyM PVal) (c : String) (fs : List (String × PVal)) (y : PVal) : PyM PVal :=
  if isInstanceTypeOf y (.obj c fs) then
    if fs.any (fun f => pseudoField f.1) then .error .unsupported
    else match allOk (fieldTest objEq (.obj c fs) y) fs with
      | .ok b => .ok (.bool b)
      | .error e => .error e
  else .ok (.bool false)

theorem fieldGet?_map_nodup {α : Type} (l : List α) (k : α → String) (g : α → PVal) (hk : (l.map k).Nodup) (x : α) (hx : x ∈ l) :
    fieldGet? (k x) (l.map fun y => (k y, g y)) = some (g x) := by
  induction l with
  | nil => cases hx
  | cons y t ih =>
    simp only [List.map_cons, List.nodup_cons] at hk
    simp only [List.map_cons, fieldGet?]
    rcases List.mem_cons.mp hx with rfl | hx
    · rw [if_pos rfl]
    · rw [if_neg (fun e : k y = k x => hk.1 (e ▸ List.mem_map_of_mem hx)), ih hk.2 hx]

theorem allOk_map {γ δ : Type} (t : δ → PyM Bool) (f : γ → δ) (l : List γ) : allOk t (l.map f) = allOk (t ∘ f) l := by
  induction l with
  | nil => rfl
  | cons c r ih => simp only [List.map_cons, allOk, Function.comp, ih]

/-- `_equals_impl` between two instances of one class whose `__dict__`s have the same keys in the same order.  An entry of
    `l` is a key, its value on the left, its value on the right, and what `==` gives for the two. -/
theorem equalsSpec_pairs (o) (c : String) (l : List (String × PVal × PVal × Bool))
    (hk : (l.map (·.1)).Nodup) (hp : (l.any fun x => pseudoField x.1) = false)
    (hcmp : ∀ x ∈ l, pyEqWith o x.2.1 x.2.2.1 = .ok x.2.2.2) :
    equalsSpec o c (l.map fun x => (x.1, x.2.1)) (.obj c (l.map fun x => (x.1, x.2.2.1)))
      = .ok (.bool (l.all (·.2.2.2))) := by
  have hi : isInstanceTypeOf (.obj c (l.map fun x => (x.1, x.2.2.1))) (.obj c (l.map fun x => (x.1, x.2.1))) = true := by
    simp [isInstanceTypeOf, isInstance, pyClassOf]
  have ht : ∀ x ∈ l, fieldTest o (.obj c (l.map fun x => (x.1, x.2.1))) (.obj c (l.map fun x => (x.1, x.2.2.1))) (x.1, x.2.1)
      = .ok x.2.2.2 := by
    intro x hx
    simp only [fieldTest, pyGetAttrD, List.any_map, Function.comp_def, hp, Bool.false_eq_true, if_false, String.ofList_toList,
      fieldGet?_map_nodup l (·.1) _ hk x hx, pure_eq_ok, ok_bind, hcmp x hx]
  simp only [equalsSpec, hi, if_true, List.any_map, Function.comp_def, hp, Bool.false_eq_true, if_false, allOk_map,
    allOk_all _ (·.2.2.2) l ht]

def embEKv (d : List (Str × Str)) : PVal := .dict (d.map fun kv => (kv.1, .str kv.2))
def embEKvs (ds : List (List (Str × Str))) : PVal := .list (ds.map embEKv)

/-- `source=` as stored: None, `{"href": …}`, `{"subdir": …}` or `{"subdir": …, "package": …}` -/
def embESource : DepSource → PVal
  | .none => .none
  | .href h => .dict [("href".toList, .str h)]
  | .subdir none d _ => .dict [("subdir".toList, .str d)]
  | .subdir (some p) d _ => .dict [("subdir".toList, .str d), ("package".toList, .str p)]

/-- a `packaging` Version: its text and its rank in packaging's order -/
def embEVersion (d : DepInfo) : PVal := .obj "Version" [("__str__", .str d.version), ("rank", .int d.vrank)]

def eqTagList (l : List PVal) : PVal := .obj "TagList" [("data", .list l)]

mutual
  /-- a node as the Python object `==` sees: every library object with its whole `__dict__`, in attribute-creation
      order (Tag: name, add_ws, attrs, children, prev_displayhook; TagList: data; HTMLDependency: name, version, source,
      script, stylesheet, meta, all_files, head); the harness's helper objects as instances of their value classes;
      un-expanded tagifiable objects as instances of a foreign class (not covered by the stated semantics of `==`) -/
  def embE : Node → PVal
    | .tag name ws attrs kids =>
      .obj "Tag" [("name", .str name), ("add_ws", .bool ws), ("attrs", embAttrs attrs),
                  ("children", eqTagList (embEs kids)), ("prev_displayhook", .none)]
    | .text s => .str s
    | .html s => .html s
    | .robj s => .obj "EqReprObj" [("s", .str s)]
    | .mnode n => .obj "EqMeta" [("n", .int n)]
    | .dep d hh head =>
      .obj "HTMLDependency" [("name", .str d.name), ("version", embEVersion d), ("source", embESource d.source),
        ("script", embEKvs d.script), ("stylesheet", embEKvs d.stylesheet), ("meta", embEKvs d.metas),
        ("all_files", .bool d.allFiles), ("head", if hh then eqTagList (embEs head) else .none)]
    | .tobjL _ _ => .obj "TagifiableObj" [("tagify", .none)]
    | .tobj1 _ _ => .obj "TagifiableObj" [("tagify", .none)]
  def embEs : Nodes → List PVal
    | .nil => []
    | .cons h t => embE h :: embEs t
end

def Nodes.isNil : Nodes → Bool
  | .nil => true
  | _ => false

mutual
  /-- the trees the tie for `==` speaks about: no un-expanded tagifiable object (those compare by identity, which the
      fragment does not have), and a dependency without `head=` has no head nodes -/
  def eqCov : Node → Bool
    | .tag _ _ _ k => eqCovKids k
    | .dep _ hh k => eqCovKids k && (hh || Nodes.isNil k)
    | .tobjL _ _ => false
    | .tobj1 _ _ => false
    | _ => true
  def eqCovKids : Nodes → Bool
    | .nil => true
    | .cons h t => eqCov h && eqCovKids t
end

mutual
  /-- fuel that suffices for `a == b` with `a` on the left: four levels per nesting level of library objects
      (`__eq__`, `_equals_impl`, `TagList.__eq__`, `_equals_impl`) -/
  def eqFuel : Node → Nat
    | .tag _ _ _ k => eqFuelKids k + 4
    | .dep _ _ k => eqFuelKids k + 4
    | _ => 0
  def eqFuelKids : Nodes → Nat
    | .nil => 0
    | .cons h t => max (eqFuel h) (eqFuelKids t)
end

theorem embEs_length (k : Nodes) : (embEs k).length = k.length := by
  induction k with
  | nil => rfl
  | cons h t ih => simp [embEs, Nodes.length, ih]

theorem pyEqWith_str_str (o) (x y : Str) : pyEqWith o (.str x) (.str y) = .ok (x == y) := rfl
theorem pyEqWith_bool_bool (o) (x y : Bool) : pyEqWith o (.bool x) (.bool y) = .ok (x == y) := by
  cases x <;> cases y <;> rfl
theorem pyEqWith_none_none (o) : pyEqWith o .none .none = .ok true := rfl
theorem pyEqWith_list_list (o) (xs ys : List PVal) :
    pyEqWith o (.list xs) (.list ys) = if xs.length == ys.length then pyEqListWith o xs ys else .ok false := by
  rw [pyEqWith]; rfl
theorem pyEqWith_dict_dict (o) (xs ys : List (Str × PVal)) :
    pyEqWith o (.dict xs) (.dict ys) = if xs.length == ys.length then pyEqDictWith o xs ys else .ok false := by
  rw [pyEqWith]; rfl

theorem pyEqWith_val (o) (v w : AttrVal) : pyEqWith o (embVal v) (embVal w) = .ok (v.str == w.str) := by
  cases v <;> cases w <;> rfl

theorem pyEqDict_map {α : Type} (o) (emb : α → PVal) (eqv : α → α → Bool)
    (h : ∀ v w, pyEqWith o (emb v) (emb w) = .ok (eqv v w)) (a b : List (Str × α)) :
    pyEqDictWith o (a.map fun kv => (kv.1, emb kv.2)) (b.map fun kv => (kv.1, emb kv.2))
      = .ok (a.all fun kv => (alookup kv.1 b).any (eqv kv.2)) := by
  induction a with
  | nil => rfl
  | cons x r ih =>
    obtain ⟨k, v⟩ := x
    simp only [List.map_cons, pyEqDictWith, dictGet_map, List.all_cons]
    cases alookup k b with
    | none => rfl
    | some w =>
      simp only [Option.map_some, h, ok_bind, Option.any_some]
      cases eqv v w
      · rfl
      · simpa using ih

theorem pyEqWith_attrs (o) (a b : Attrs) : pyEqWith o (embAttrs a) (embAttrs b) = .ok (attrsEqv a b) := by
  simp only [embAttrs, pyEqWith_dict_dict, List.length_map, pyEqDict_map o embVal _ (pyEqWith_val o)]
  unfold attrsEqv
  cases a.length == b.length
  · simp
  · simp only [if_true, Bool.true_and]
    congr 2
    funext kv
    cases alookup kv.1 b <;> rfl

theorem pyEqWith_ekv (o) (a b : List (Str × Str)) : pyEqWith o (embEKv a) (embEKv b) = .ok (kvDictEqv a b) := by
  have hm : (fun kv : Str × Str => (alookup kv.1 b).any (kv.2 == ·)) = fun kv => alookup kv.1 b == some kv.2 := by
    funext kv; cases alookup kv.1 b <;> simp [Bool.beq_comm (a := kv.2)]
  simp only [embEKv, pyEqWith_dict_dict, List.length_map, kvDictEqv, pyEqDict_map o PVal.str _ (pyEqWith_str_str o), hm]
  cases a.length == b.length <;> simp

theorem kvDictsEqv_length (a b : List (List (Str × Str))) (h : kvDictsEqv a b = true) : a.length = b.length := by
  induction a generalizing b with
  | nil => cases b <;> simp_all [kvDictsEqv]
  | cons x r ih =>
    cases b with
    | nil => simp [kvDictsEqv] at h
    | cons y u =>
      simp only [kvDictsEqv, Bool.and_eq_true] at h
      simp [ih u h.2]

theorem pyEqList_kvs (o) (a b : List (List (Str × Str))) :
    pyEqListWith o (a.map embEKv) (b.map embEKv) = .ok (kvDictsEqv a b) := by
  induction a generalizing b with
  | nil => cases b <;> rfl
  | cons x r ih =>
    cases b with
    | nil => rfl
    | cons y u =>
      simp only [List.map_cons, pyEqListWith, pyEqWith_ekv, ok_bind, kvDictsEqv]
      cases kvDictEqv x y
      · rfl
      · simpa using ih u

theorem pyEqWith_ekvs (o) (a b : List (List (Str × Str))) : pyEqWith o (embEKvs a) (embEKvs b) = .ok (kvDictsEqv a b) := by
  simp only [embEKvs, pyEqWith_list_list, List.length_map, pyEqList_kvs]
  by_cases h : a.length = b.length
  · simp [h]
  · have : kvDictsEqv a b = false := by
      cases hq : kvDictsEqv a b with
      | false => rfl
      | true => exact absurd (kvDictsEqv_length a b hq) h
    simp [h, this]

theorem pyEqWith_source (o) (a b : DepSource) : pyEqWith o (embESource a) (embESource b) = .ok (sourceEqv a b) := by
  rcases a with _ | h | ⟨_ | p, d, x⟩ <;> rcases b with _ | h' | ⟨_ | p', d', x'⟩ <;>
    first
    | rfl
    | simp [embESource, pyEqWith_dict_dict, pyEqDictWith, Py.dictGet?, sourceEqv, pyEqWith_str_str]
  -- what is left: `if d = d' then … else …` against `d == d'`
  all_goals (repeat' split) <;> simp_all

theorem pyEqWith_flat_obj (o) (c fs b) : pyEqWith o (.obj c fs) b = pyEqFlat o (.obj c fs) b := by
  cases b <;> rfl

/-- an instance of a library class on the left: its `__eq__` decides -/
theorem pyEqWith_lib (o) (c : String) (fs) (b : PVal) (hc : eqLibClass c = true) (hb : eqKind b ≠ .foreign) :
    pyEqWith o (.obj c fs) b = (o (.obj c fs) b >>= asBool) := by
  rw [pyEqWith_flat_obj]
  have ha : eqKind (.obj c fs) = .lib := by simp [eqKind, hc]
  unfold pyEqFlat
  rw [ha]
  cases hkb : eqKind b <;> first | rfl | exact absurd hkb hb

theorem eqKind_embE (b : Node) (h : eqCov b = true) : eqKind (embE b) ≠ .foreign := by
  cases b <;> simp [eqCov] at h <;> simp [embE, eqKind, eqLibClass, eqHelperField]

theorem equalsSpec_not_inst (o) (c fs y) (h : isInstanceTypeOf y (.obj c fs) = false) :
    equalsSpec o c fs y = .ok (.bool false) := by
  simp [equalsSpec, h]

theorem eq_natCast_beq (a b : Nat) : ((a : Int) == (b : Int)) = (a == b) := by
  rw [Bool.eq_iff_iff, beq_iff_eq, beq_iff_eq]; omega

theorem eqKind_obj_ne_builtin (c : String) (fs) : eqKind (.obj c fs) ≠ .builtin := by
  simp only [eqKind]
  split
  · simp
  · split
    · simp
    · split <;> simp

/-- no instance of another class is an instance of `Tag`, `TagList` or `HTMLDependency` (nothing derives from them) -/
theorem not_inst_lib (y : PVal) (c : String) (fs) (hc : eqLibClass c = true) (hy : (c == pyClassOf y) = false) :
    isInstanceTypeOf y (.obj c fs) = false := by
  simp only [eqLibClass, Bool.or_eq_true, beq_iff_eq] at hc
  rcases hc with (rfl | rfl) | rfl <;>
    (simp only [isInstanceTypeOf, pyClassOf]
     rw [isInstance_class _ _ (by simp), hy]
     simp only [Bool.beq_eq_decide_eq, String.reduceEq, decide_false, Bool.false_and, Bool.or_false])

theorem not_inst_builtin (y : PVal) (c : String) (fs) (hy : eqKind y = .builtin) (hc : eqLibClass c = true) :
    isInstanceTypeOf y (.obj c fs) = false := by
  simp only [eqLibClass, Bool.or_eq_true, beq_iff_eq] at hc
  rcases hc with (rfl | rfl) | rfl <;> cases y <;>
    first | rfl | exact absurd hy (eqKind_obj_ne_builtin _ _) | simp [eqKind] at hy

theorem pyEqWith_builtin_lib (o) (a : PVal) (c : String) (fs) (ha : eqKind a = .builtin) (hc : eqLibClass c = true) :
    pyEqWith o a (.obj c fs) = (o (.obj c fs) (unwrapHtml a) >>= asBool) := by
  have hb : eqKind (.obj c fs) = .lib := by simp [eqKind, hc]
  have hf : pyEqWith o a (.obj c fs) = pyEqFlat o a (.obj c fs) := by cases a <;> rfl
  rw [hf]
  unfold pyEqFlat
  rw [ha, hb]

theorem unwrapHtml_builtin (a : PVal) (ha : eqKind a = .builtin) : eqKind (unwrapHtml a) = .builtin := by
  cases a <;> first | exact ha | rfl

theorem pyEqWith_version (o) (d d' : DepInfo) : pyEqWith o (embEVersion d) (embEVersion d') = .ok (d.vrank == d'.vrank) := by
  rw [embEVersion, embEVersion, pyEqWith_flat_obj]
  simp [pyEqFlat, eqKind, eqLibClass, eqHelperField, eqVersion, fieldGet?, eq_natCast_beq]

/-! ### `str.replace("</", "<\\/")` is the model's one-pass `neutralise` -/

/-- by induction on the text, together with the same after a `<` has just been copied -/
theorem replaceGo_neut (s : Str) :
    replaceGo ['<', '/'] ['<', '\\', '/'] 0 s = neutG false s
    ∧ replaceGo ['<', '/'] ['<', '\\', '/'] 0 ('<' :: s) = '<' :: neutG true s := by
  induction s with
  | nil => exact ⟨rfl, rfl⟩
  | cons c r ih =>
    have h1 : replaceGo ['<', '/'] ['<', '\\', '/'] 0 (c :: r) = neutG false (c :: r) := by
      by_cases hc : c = '<'
      · subst hc; rw [ih.2]; simp [neutG]
      · have hc' : ¬ '<' = c := fun e => hc e.symm
        have hb : (c == '<') = false := by simp [hc]
        simp [replaceGo, List.isPrefixOf, hc', neutG, hb, ih.1]
    refine ⟨h1, ?_⟩
    by_cases hd : c = '/'
    · subst hd; simp [replaceGo, neutG, ih.1]
    · have hd' : ¬ '/' = c := fun e => hd e.symm
      have h2 : replaceGo ['<', '/'] ['<', '\\', '/'] 0 ('<' :: c :: r) = '<' :: replaceGo ['<', '/'] ['<', '\\', '/'] 0 (c :: r) := by
        simp [replaceGo, List.isPrefixOf, hd']
      rw [h2, h1]
      simp [neutG, hd]

theorem replaceGo_neut_len (n : Nat) : ∀ s : Str, s.length ≤ n →
    replaceGo ['<', '/'] ['<', '\\', '/'] 0 s = neutG false s :=
  fun s _ => (replaceGo_neut s).1

end HtmlVerif.SrcTie
