/-
Helper lemmas for C12: `copyTo` against its specification, and the sequence of copies made by save_html.
-/
import HtmlVerif.Lemmas.CopyTo

namespace HtmlVerif
open FS

theorem copyTo_noSource {d : DepInfo} (h : isLocal d = false) (path : Str) (iv : Bool) (fs : FS) :
    copyTo d path iv fs = (fs, .ok ()) := by
  unfold isLocal at h
  cases hs : d.source with
  | none => simp [copyTo, sourcePathMap, hs]
  | href u => simp [copyTo, sourcePathMap, hs]
  | subdir a b c => simp [hs] at h

theorem isLocal_cases {d : DepInfo} (h : isLocal d = true) :
    ∃ pkg dir abs, d.source = .subdir pkg dir abs := by
  unfold isLocal at h
  cases hs : d.source with
  | subdir a b c => exact ⟨a, b, c, rfl⟩
  | _ => simp [hs] at h

theorem copyTo_spec (d : DepInfo) (path : Str) (iv : Bool) (fs : FS) (h : CopyReady d path iv fs) :
    ∃ fs', copyTo d path iv fs = (fs', .ok ()) ∧ CopySpec d path iv fs fs' := by
  cases hl : isLocal d with
  | false => exact ⟨fs, copyTo_noSource hl .., by simp [CopySpec, hl]⟩
  | true =>
    obtain ⟨pkg, dir, abs, hs⟩ := isLocal_cases hl
    cases haf : d.allFiles with
    | true => exact copyTo_spec_all hs haf h
    | false => exact copyTo_spec_listed hs haf h

/-- readiness only looks at the source tree and at the way down to the target: it survives any change confined to
    a directory apart from both -/
theorem CopyReady_transfer {d : DepInfo} {path : Str} {iv : Bool} {fs fs1 : FS} {X : Path}
    (hframe : ∀ q, ¬ X <+: q → fs1.read q = fs.read q)
    (hS : Apart (srcDir d) X) (hT : Apart (tgtDir d path iv) X)
    (h : CopyReady d path iv fs) : CopyReady d path iv fs1 := by
  have hsrc : ∀ r, fs1.read (srcDir d ++ r) = fs.read (srcDir d ++ r) := fun r =>
    hframe _ (not_prefix_of_apart hS r)
  have hway : fs1.fileOnPath (tgtDir d path iv) = fs.fileOnPath (tgtDir d path iv) :=
    fileOnPath_congr fun k => hframe _ fun hx => hT.2 (hx.trans (List.take_prefix k _))
  unfold CopyReady at h ⊢
  cases hs : d.source with
  | subdir pkg dir abs =>
    simp only [hs, srcDir] at h hsrc ⊢
    obtain ⟨habs, hST, hpath, hmode⟩ := h
    refine ⟨habs, hST, hway ▸ hpath, ?_⟩
    cases haf : d.allFiles with
    | true => simp only [haf, if_true] at hmode ⊢; exact hmode.congr hsrc
    | false => simpa only [haf, hsrc, Bool.false_eq_true, if_false] using hmode
  | _ => trivial

theorem copyAll_spec (path : Str) (iv : Bool) :
    ∀ (deps : List DepInfo) (fs : FS), (∀ d ∈ deps, isLocal d = true → CopyReady d path iv fs) →
      deps.Pairwise (fun a b => isLocal a = true → isLocal b = true →
        Apart (tgtDir a path iv) (tgtDir b path iv)) →
      (∀ a ∈ deps, ∀ b ∈ deps, isLocal a = true → isLocal b = true → Apart (srcDir a) (tgtDir b path iv)) →
      ∃ fs', copyAll deps path iv fs = (fs', .ok ()) ∧
        (∀ q, (∀ d ∈ deps, isLocal d = true → ¬ tgtDir d path iv <+: q) → fs'.read q = fs.read q) ∧
        (∀ d ∈ deps, isLocal d = true → ∀ r,
          fs'.read (tgtDir d path iv ++ r) = if wantedB d r then fs.read (srcDir d ++ r) else none) := by
  intro deps
  induction deps with
  | nil => intro fs _ _ _; exact ⟨fs, by simp [copyAll], by simp, by simp⟩
  | cons d rest ih =>
    intro fs hready hTT hST
    obtain ⟨hTd, hTT'⟩ := List.pairwise_cons.mp hTT
    have hST' : ∀ a ∈ rest, ∀ b ∈ rest, isLocal a = true → isLocal b = true → Apart (srcDir a) (tgtDir b path iv) :=
      fun a ha b hb => hST a (by simp [ha]) b (by simp [hb])
    cases hl : isLocal d with
    | false =>
      obtain ⟨fs', hl', hF, hS⟩ := ih fs (fun e he => hready e (by simp [he])) hTT' hST'
      refine ⟨fs', by simp [copyAll, copyTo_noSource hl, hl'], fun q hq => hF q fun e he => hq e (by simp [he]),
        fun e he hle r => ?_⟩
      rcases List.mem_cons.mp he with rfl | he
      · rw [hl] at hle; cases hle
      · exact hS e he hle r
    | true =>
      obtain ⟨fs1, hc, hspec⟩ := copyTo_spec d path iv fs (hready d (by simp) hl)
      rw [CopySpec, if_pos hl] at hspec
      obtain ⟨hframe1, htgt1⟩ := hspec
      have hsrc1 : ∀ e ∈ rest, isLocal e = true → ∀ r, fs1.read (srcDir e ++ r) = fs.read (srcDir e ++ r) :=
        fun e he hle r => hframe1 _ (not_prefix_of_apart (hST e (by simp [he]) d (by simp) hle hl) r)
      obtain ⟨fs', hl', hF, hS⟩ := ih fs1
        (fun e he hle => CopyReady_transfer hframe1 (hST e (by simp [he]) d (by simp) hle hl) (hTd e he hl hle).symm
          (hready e (by simp [he]) hle))
        hTT' hST'
      refine ⟨fs', by simp [copyAll, hc, hl'], fun q hq => ?_, fun e he hle r => ?_⟩
      · rw [hF q (fun e he => hq e (by simp [he]))]
        exact hframe1 q (hq d (by simp) hl)
      · rcases List.mem_cons.mp he with rfl | he
        · -- the later copies do not touch this target
          rw [hF _ (fun x hx hlx => not_prefix_of_apart (hTd x hx hl hlx) r)]
          exact htgt1 r
        · rw [hS e he hle r, hsrc1 e he hle r]

end HtmlVerif
