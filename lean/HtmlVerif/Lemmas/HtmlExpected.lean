/-
Layer 3 of C01: the normalising machine `buildN`, run over the tokens of an ordinary tree,
produces `expected`; the layout whitespace is absorbed by trimming.
  buildN_tag / buildN_kids : the machine over the tokens of a tag / of a child list
  parse_pieces             : layers 1, 2 and the fusion of `build` with `normalise`, for any well-formed piece list
-/
import HtmlVerif.Lemmas.HtmlTree
import HtmlVerif.Lemmas.Nodes

namespace HtmlVerif

/-! ### `expKids` as a state transformer (pending text, reversed children) -/

def Nodes.expStep (void : List Str) : Nodes → Str → List PTree → Str × List PTree
  | .nil, acc, cur => (acc, cur)
  | .cons h t, acc, cur =>
    match h with
    | .tag .. => t.expStep void [] (h.expected void :: flushN acc cur)
    | .text s => t.expStep void (acc ++ s) cur
    | .html s => t.expStep void (acc ++ s) cur
    | .robj s => t.expStep void (acc ++ s) cur
    | _ => t.expStep void acc cur

theorem flushN_expStep (void : List Str) (ks : Nodes) (acc : Str) (cur : List PTree) :
    flushN (ks.expStep void acc cur).1 (ks.expStep void acc cur).2
      = (ks.expKids void acc).reverse ++ cur := by
  induction ks generalizing acc cur with
  | nil => simp [Nodes.expStep, Nodes.expKids, flushN, textNode_reverse]
  | cons h t ih =>
    cases h with
    | tag n w a k =>
      simp only [Nodes.expStep, Nodes.expKids, ih]
      simp [flushN, textNode_reverse]
    | _ => exact ih _ _

section
variable (cfg : Cfg)

theorem buildN_wsP (s : Str) (hs : wsOnly s = true) (rest : List Tok) (pd : Str) (cur : List PTree)
    (st : List Frame) :
    buildN (toksOf cfg (wsP s) ++ rest) pd cur st = buildN rest (pd ++ s) cur st := by
  unfold wsP
  by_cases h : s = []
  · simp [h]
  · simp [h, Piece.tok, buildN, ws_decodes_self s hs]

theorem buildN_txt (h1 : TextTblOk cfg.textTbl) (s : Str) (rest : List Tok) (pd : Str) (cur : List PTree)
    (st : List Frame) :
    buildN ((Piece.txt s).tok cfg :: rest) pd cur st = buildN rest (pd ++ s) cur st := by
  simp [Piece.tok, buildN, escText, esc_decodes_self h1 s]

end

mutual
  theorem buildN_tag (cfg : Cfg) (h1 : TextTblOk cfg.textTbl) (h2 : AttrTblOk cfg.attrTbl)
      (t : Node) (ht : t.isTag = true) (ho : t.ordinary cfg.noesc = true)
      (i : Nat) (e : Str) (he : wsOnly e = true)
      (rest : List Tok) (pd : Str) (cur : List PTree) (st : List Frame) :
      buildN (toksOf cfg (t.pieces cfg i e) ++ rest) pd cur st
        = buildN rest [] (t.expected cfg.void :: flushN pd cur) st := by
    cases t with
    | tag name ws attrs kids =>
      simp only [Node.ordinary, Bool.and_eq_true, Bool.not_eq_true'] at ho
      obtain ⟨⟨⟨hn, hne⟩, ha⟩, hk⟩ := ho
      have hda := (rawAttrs_ok cfg h2 attrs ha).2
      have hkids := fun w rest cur st =>
        buildN_kids cfg h1 h2 kids hk (i + 1) e he true w rest [] (fun _ => rfl) cur st
      have hfx := flushN_expStep cfg.void kids [] []
      -- on every path: indentation, opening tag, the child loop (on lines of its own iff `c`), closing tag
      rw [pieces_tag, hne, Node.expected, Bool.and_comm]
      generalize hc : (ws && !kids.oneLine) = c
      have hcg := fun ts cur st => buildN_congr ts _ [] (lstrip_ws _ (wsOnly_ite c he)) cur st
      cases hsc : cfg.void.contains name && kids.visible.isEmpty
      · simp [if_wsP, buildN_wsP cfg, flushN_append_ws, wsOnly_ite, wsOnly_append, wsOnly_indentStr, he,
          buildN, hda, hcg, hkids, hfx]
      · rw [Bool.and_eq_true] at hsc
        have hv0 := List.isEmpty_iff.mp hsc.2
        have hek : kids.expKids cfg.void [] = [] :=
          Nodes.skipMeta_nil (F := fun ks => ks.expKids cfg.void [])
            (fun h t hm => by
              cases h with
              | mnode _ | dep _ _ _ => rfl
              | _ => cases hm) hv0
        subst hc
        simp [Nodes.oneLine, hsc.2, piecesKids_of_visible_nil cfg hv0, buildN_wsP cfg, flushN_append_ws,
          wsOnly_indentStr, buildN, hda, hek]
    | _ => cases ht
  theorem buildN_kids (cfg : Cfg) (h1 : TextTblOk cfg.textTbl) (h2 : AttrTblOk cfg.attrTbl)
      (ks : Nodes) (ho : ks.ordinaryKids cfg.noesc = true)
      (i : Nat) (e : Str) (he : wsOnly e = true) (first prevWs : Bool)
      (rest : List Tok) (acc : Str) (hacc : prevWs = true → acc = []) (cur : List PTree) (st : List Frame) :
      buildN (toksOf cfg (ks.piecesKids cfg i e first prevWs true) ++ rest) acc cur st
        = buildN rest (ks.expStep cfg.void acc cur).1 (ks.expStep cfg.void acc cur).2 st := by
    cases ks with
    | nil => rfl
    | cons h t =>
      simp only [Nodes.ordinaryKids, Bool.and_eq_true] at ho
      obtain ⟨hh, hto⟩ := ho
      have iht := buildN_kids cfg h1 h2 t hto i e he
      cases h with
      | tag n w a k =>
        have hx := fun i' e' he' => buildN_tag cfg h1 h2 (.tag n w a k) rfl hh i' e' he'
        have hw := wsOnly_ite (!first && (prevWs || w)) he
        rw [piecesKids_tag, if_wsP]
        simp only [Nodes.expStep, toksOf_append, List.append_assoc, buildN_wsP cfg _ hw]
        rw [← flushN_append_ws acc _ hw cur]
        split
        · rw [hx i e he]; exact iht false w rest [] (fun _ => rfl) _ st
        · rw [hx 0 [] rfl]; exact iht false w rest [] (fun _ => rfl) _ st
      | text s =>
        rw [piecesKids_leaf cfg t i e first prevWs true rfl rfl]
        simp only [Node.leafPiece, Nodes.expStep, textP, if_true, if_wsP, toksOf_append, List.append_assoc,
          buildN_wsP cfg, wsOnly_ite, wsOnly_indentStr, he, toksOf_cons, List.cons_append, List.nil_append,
          buildN_txt cfg h1]
        rw [← iht false false rest (acc ++ s) nofun cur st]
        cases prevWs
        · simp
        · -- layout whitespace in front of a text child opens the pending run, so trimming removes it
          rw [hacc rfl]
          apply buildN_congr
          simp [lstrip_ws_append, wsOnly_ite, wsOnly_indentStr, he]
      | mnode m => exact iht first prevWs rest acc hacc cur st
      | dep d hd hs => exact iht first prevWs rest acc hacc cur st
      | _ => cases hh
end

theorem parse_pieces (cfg : Cfg) (h1 : TextTblOk cfg.textTbl) (h2 : AttrTblOk cfg.attrTbl)
    (ps : List Piece) (hps : ps.all Piece.okP = true) :
    ((tokenize (realizeAll cfg ps)).bind build).map normalise = buildN (toksOf cfg ps) [] [] [] := by
  have hg := fun p hp => tok_good cfg h1 h2 p (List.all_eq_true.mp hps p hp)
  rw [← serialize_toksOf, tokenize_serialize (toksOf cfg ps) (List.forall_mem_map.mpr fun p hp => (hg p hp).1),
    Option.bind_some, build_mergeText]
  exact buildGo_norm _ [] [] [] closed_nil (List.forall_mem_map.mpr fun p hp => (hg p hp).2)

end HtmlVerif
