/-
For the source tie of C08b (Props/SrcC08b.lean): the embedding of the tree model into the Python objects the copy functions
see (`embC08b`); loop rules for the dict comprehension of `Tag.__copy__` (`dictcomp_loop_C08b`, over the heap
`dictcomp_loopH_C08b`) and the `enumerate` loop of `_copy_tag_nodes` (`forIn_enum_keep_k_C08b`, over the heap
`forIn_copyLoop_C08b`); facts about the primitives of Py/PrimC08b.lean; and, for the translations over the heap, run
lemmas for the monad `HMC08b` and what a heap must hold for a tag (`TagAtC08b`) and for a tree (`ReprC08b` / `ReprsC08b`, with
frame lemmas).

Specification functions defined here because the model has no counterpart: `depReprTextC08b` (the text of
`repr(HTMLDependency)`: the model's views are those of Tag / TagList); `copyFieldsHC08b`, `copyPassC08b`, `copyLoopC08b`
(intermediate forms of the translated loops over the heap, each proved equal to the generated loop).
-/
import HtmlVerif.Lemmas.SrcTie
import HtmlVerif.Lemmas.PyComp
import HtmlVerif.Lemmas.SrcC08
import HtmlVerif.Lemmas.SrcC16
import HtmlVerif.Lemmas.Tagify
import HtmlVerif.Lemmas.Ident
import HtmlVerif.Py.PrimC08b
import HtmlVerif.Generated.Src
import HtmlVerif.Lemmas.Nodes

set_option linter.unusedSimpArgs false

/-! ### the heap monad `HMC08b`, without unfolding `bind` under binders -/

namespace HtmlVerif.Py
open HtmlVerif

instance : LawfulMonad HMC08b := LawfulMonad.mk' HMC08b
  (id_map := by
    intro α x; funext H
    show HMC08b.bind x (fun a => HMC08b.pure a) H = x H
    unfold HMC08b.bind HMC08b.pure
    rcases h : x H with e | ⟨a, H'⟩ <;> rfl)
  (pure_bind := by intro α β a f; rfl)
  (bind_assoc := by
    intro α β γ x f g; funext H
    show HMC08b.bind (HMC08b.bind x f) g H = HMC08b.bind x (fun a => HMC08b.bind (f a) g) H
    unfold HMC08b.bind
    rcases h : x H with e | ⟨a, H'⟩ <;> rfl)

theorem HMC08b.run_pure {α} (a : α) (H : List PVal) : (pure a : HMC08b α) H = .ok (a, H) := rfl
theorem HMC08b.run_bind {α β} (x : HMC08b α) (f : α → HMC08b β) (H : List PVal) :
    (x >>= f) H = match x H with
      | .ok (a, H') => f a H'
      | .error e => .error e := rfl
theorem HMC08b.run_bind_ok {α β} {x : HMC08b α} {f : α → HMC08b β} {H H' : List PVal} {a : α} (h : x H = .ok (a, H')) :
    (x >>= f) H = f a H' := by rw [HMC08b.run_bind, h]
theorem HMC08b.run_bind_error {α β} {x : HMC08b α} {f : α → HMC08b β} {H : List PVal} {e : PyErr} (h : x H = .error e) :
    (x >>= f) H = .error e := by rw [HMC08b.run_bind, h]
@[simp] theorem HMC08b.lift_ok {α} (a : α) : (liftM (Except.ok a : PyM α) : HMC08b α) = pure a := rfl
@[simp] theorem HMC08b.lift_error {α} (e : PyErr) : (liftM (Except.error e : PyM α) : HMC08b α) = throw e := rfl
@[simp] theorem HMC08b.throw_bind {α β} (e : PyErr) (f : α → HMC08b β) : ((throw e : HMC08b α) >>= f) = throw e := rfl
theorem HMC08b.run_throw {α} (e : PyErr) (H : List PVal) : (throw e : HMC08b α) H = .error e := rfl

/-- the dict comprehension of `Tag.__copy__` over the heap: the values are copied in order (each copy may allocate) -/
def copyFieldsHC08b : List (String × PVal) → HMC08b (List (String × PVal))
  | [] => pure []
  | kv :: r => do
    let v ← hCopyFieldC08b kv.2
    let r' ← copyFieldsHC08b r
    pure ((kv.1, v) :: r')
end HtmlVerif.Py

namespace HtmlVerif.SrcTie
open HtmlVerif HtmlVerif.Py HtmlVerif.Generated.Src HtmlVerif.Ident

theorem pyStr_ok_str_C08b (x v : PVal) (h : pyStr x = .ok v) : ∃ s, v = .str s := by
  unfold pyStr at h
  -- every arm returns a `str` or raises; the arm of an instance looks up its `__str__` first
  split at h <;> first | (cases h; exact ⟨_, rfl⟩) | cases h | (split at h <;> cases h; exact ⟨_, rfl⟩)

/-- the text of `repr(dep)`: `<HTMLDependency "name-version">` (specification function: the model has no counterpart) -/
def depReprTextC08b (name version : Str) : Str :=
  ['<', 'H', 'T', 'M', 'L', 'D', 'e', 'p', 'e', 'n', 'd', 'e', 'n', 'c', 'y', ' ', '"'] ++ name ++ ['-'] ++ version ++ ['"', '>']

theorem pyConcat_strs_C08b (l : List Str) : pyConcat (l.map PVal.str) = .ok (.str l.flatten) := by
  induction l with
  | nil => rfl
  | cons a t ih => simp only [List.map_cons, pyConcat, ih, ok_bind, pure_eq_ok, List.flatten_cons]

theorem pyConcat5_C08b (a b c d e : Str) :
    pyConcat [.str a, .str b, .str c, .str d, .str e] = .ok (.str (a ++ b ++ c ++ d ++ e)) := by
  simpa using pyConcat_strs_C08b [a, b, c, d, e]

theorem pyStr_embEVersion_C08b (d : DepInfo) : pyStr (embEVersion d) = .ok (.str d.version) := rfl

mutual
  /-- as `embE` (Lemmas/SrcC08.lean: every library object with its whole `__dict__` in creation order), except that a
      bare metadata node is an instance of `MetadataNode` itself (so that `isinstance(child, MetadataNode)` sees it) and a
      self-rendering object is the fragment's `ReprObj` -/
  def embC08b : Node → PVal
    | .tag name ws attrs kids =>
      .obj "Tag" [("name", .str name), ("add_ws", .bool ws), ("attrs", embAttrs attrs),
                  ("children", eqTagList (embsC08b kids)), ("prev_displayhook", .none)]
    | .text s => .str s
    | .html s => .html s
    | .robj s => .obj "ReprObj" [("_repr_html_", .str s)]
    | .mnode n => .obj "MetadataNode" [("n", .int n)]
    | .dep d hh head =>
      .obj "HTMLDependency" [("name", .str d.name), ("version", embEVersion d), ("source", embESource d.source),
        ("script", embEKvs d.script), ("stylesheet", embEKvs d.stylesheet), ("meta", embEKvs d.metas),
        ("all_files", .bool d.allFiles), ("head", if hh then eqTagList (embsC08b head) else .none)]
    | .tobjL _ _ => .obj "TagifiableObj" [("tagify", .none)]
    | .tobj1 _ _ => .obj "TagifiableObj" [("tagify", .none)]
  def embsC08b : Nodes → List PVal
    | .nil => []
    | .cons h t => embC08b h :: embsC08b t
end

theorem embsC08b_toList (ks : Nodes) : embsC08b ks = ks.toList.map embC08b := by
  induction ks with
  | nil => rfl
  | cons h t ih => simp [embsC08b, Nodes.toList, ih]

mutual
  /-- fuel that suffices for `_copy_tag_nodes` on a child list: one level per Tag nesting (`_copy_tag_nodes` calls itself on
      the children), two per dependency nesting (`HTMLDependency.__copy__`, then `_copy_tag_nodes` on its head) -/
  def cpFuelC08b : Node → Nat
    | .tag _ _ _ k => cpFuelKidsC08b k + 1
    | .dep _ _ k => cpFuelKidsC08b k + 2
    | _ => 0
  def cpFuelKidsC08b : Nodes → Nat
    | .nil => 0
    | .cons h t => max (cpFuelC08b h) (cpFuelKidsC08b t)
end

theorem cpFuel_le_kids_C08b (ks : Nodes) (c : Node) (h : c ∈ ks.toList) : cpFuelC08b c ≤ cpFuelKidsC08b ks := by
  induction ks with
  | nil => simp [Nodes.toList] at h
  | cons x t ih =>
    simp only [Nodes.toList, List.mem_cons] at h
    simp only [cpFuelKidsC08b]
    rcases h with rfl | h
    · omega
    · have := ih h; omega

theorem plainNew_ne_type_C08b (c : String) (h : plainNewC08b c = true) : (c == "type") = false := by
  simp only [plainNewC08b, Bool.or_eq_true, beq_iff_eq] at h
  rcases h with (((rfl | rfl) | rfl) | rfl) | rfl <;> decide

theorem classNameC08b_mk (c : String) : classNameC08b (mkClassC08b c) = some c := by
  simp [classNameC08b, mkClassC08b]

theorem pyNewC08b_mk (c : String) (h : plainNewC08b c = true) : pyNewC08b (mkClassC08b c) (mkClassC08b c) = .ok (.obj c []) := by
  simp [pyNewC08b, classNameC08b_mk, h]

theorem pyClassAttr_obj_C08b (c : String) (fs : List (String × PVal)) (hc : plainNewC08b c = true)
    (hp : (fs.any fun f => pseudoField f.1) = false) : pyClassAttrC08b (.obj c fs) = .ok (mkClassC08b c) := by
  simp [pyClassAttrC08b, plainNew_ne_type_C08b c hc, hp]

/-- field values that `copy()` inside `Tag.__copy__` returns as they are, by value -/
def copyPlainC08b : PVal → Bool
  | .obj c fs => !hasCopyMethodC08b c && (fieldGet? "__copy__" fs).isNone
  | _ => true

theorem pyCopyFieldC08b_plain (v : PVal) (h : copyPlainC08b v = true) : pyCopyFieldC08b v = .ok v := by
  cases v with
  | obj c fs =>
    simp only [copyPlainC08b, Bool.and_eq_true, Bool.not_eq_true', Option.isNone_iff_eq_none] at h
    simp [pyCopyFieldC08b, pyCopy, h.1, h.2]
  | _ => rfl

theorem pyCopyDispC08b_tag (tg dp : PVal → PyM PVal) (fs) : pyCopyDispC08b tg dp (.obj "Tag" fs) = tg (.obj "Tag" fs) := by
  simp [pyCopyDispC08b]
theorem pyCopyDispC08b_dep (tg dp : PVal → PyM PVal) (fs) :
    pyCopyDispC08b tg dp (.obj "HTMLDependency" fs) = dp (.obj "HTMLDependency" fs) := by
  simp [pyCopyDispC08b]
theorem pyCopyDispC08b_taglist (tg dp : PVal → PyM PVal) (l : List PVal) :
    pyCopyDispC08b tg dp (eqTagList l) = .ok (eqTagList l) := by
  simp [pyCopyDispC08b, eqTagList, pyCopy, fieldGet?]
theorem pyCopyDispC08b_mnode (tg dp : PVal → PyM PVal) (n : Int) :
    pyCopyDispC08b tg dp (.obj "MetadataNode" [("n", .int n)]) = .ok (.obj "MetadataNode" [("n", .int n)]) := by
  simp [pyCopyDispC08b, pyCopy, fieldGet?]

theorem dictSet_append_C08b (k : Str) (v : PVal) (acc : List (Str × PVal)) (h : k ∉ acc.map (·.1)) :
    Py.dictSet k v acc = acc ++ [(k, v)] := by
  induction acc with
  | nil => rfl
  | cons x t ih =>
    simp only [List.map_cons, List.mem_cons, not_or] at h
    simp only [Py.dictSet, List.cons_append]
    rw [if_neg (fun e => h.1 e.symm), ih h.2]

theorem fieldSet_append_C08b (k : String) (v : PVal) (acc : List (String × PVal)) (h : k ∉ acc.map (·.1)) :
    fieldSet k v acc = acc ++ [(k, v)] := by
  induction acc with
  | nil => rfl
  | cons x t ih =>
    simp only [List.map_cons, List.mem_cons, not_or] at h
    simp only [fieldSet, List.cons_append]
    rw [if_neg (fun e => h.1 e.symm), ih h.2]

theorem foldl_set_append_C08b {κ : Type} (set : κ → PVal → List (κ × PVal) → List (κ × PVal))
    (hset : ∀ k v acc, k ∉ acc.map (·.1) → set k v acc = acc ++ [(k, v)]) (l acc : List (κ × PVal))
    (hk : (acc.map (·.1) ++ l.map (·.1)).Nodup) : l.foldl (fun a kv => set kv.1 kv.2 a) acc = acc ++ l := by
  induction l generalizing acc with
  | nil => simp
  | cons x t ih =>
    have hx : x.1 ∉ acc.map (·.1) := fun hm => (List.nodup_append.mp hk).2.2 _ hm x.1 (by simp) rfl
    rw [List.foldl_cons, hset _ _ _ hx, ih _ (by simpa [List.append_assoc] using hk)]
    simp

/-- the entries of a `__dict__` as `.items()` yields them -/
abbrev itemsC08b (fs : List (String × PVal)) : List (Str × PVal) := fs.map fun kv => (kv.1.toList, kv.2)

theorem itemsC08b_keys_nodup {fs : List (String × PVal)} (hk : (fs.map (·.1)).Nodup) : ((itemsC08b fs).map (·.1)).Nodup := by
  have := List.Pairwise.map (S := (· ≠ ·)) String.toList (fun _ _ h e => h (String.toList_injective e)) hk
  simpa [itemsC08b, List.map_map, Function.comp_def, List.Nodup] using this

theorem dictcomp_fold_C08b (fs : List (String × PVal)) (hk : (fs.map (·.1)).Nodup) :
    (itemsC08b fs).foldl (fun a kv => Py.dictSet kv.1 kv.2 a) [] = itemsC08b fs := by
  simpa using foldl_set_append_C08b Py.dictSet dictSet_append_C08b (itemsC08b fs) [] (by simpa using itemsC08b_keys_nodup hk)

theorem pyObjDictUpdate_new_C08b (c : String) (fs : List (String × PVal)) (hc : plainNewC08b c = true)
    (hk : (fs.map (·.1)).Nodup) : pyObjDictUpdateC08b (.obj c []) (.dict (itemsC08b fs)) = .ok (.obj c fs) := by
  have := foldl_set_append_C08b fieldSet fieldSet_append_C08b fs [] (by simpa using hk)
  simp [pyObjDictUpdateC08b, plainNew_ne_type_C08b c hc, List.foldl_map, String.ofList_toList, this]

/-- the loop of a dict comprehension `{k: … for k, v in d.items()}`, whatever its body `f` is: only one pass has to be
    examined -/
theorem dictcomp_loop_C08b (kvs acc : List (Str × PVal)) (f : PVal → PVal → PyM (ForInStep PVal))
    (hstep : ∀ kv ∈ kvs, ∀ a : List (Str × PVal),
      f (.tuple [.str kv.1, kv.2]) (.dict a) = .ok (.yield (.dict (Py.dictSet kv.1 kv.2 a)))) :
    forIn (kvs.map fun kv => PVal.tuple [PVal.str kv.1, kv.2]) (PVal.dict acc) f
      = .ok (.dict (kvs.foldl (fun a kv => Py.dictSet kv.1 kv.2 a) acc)) := by
  induction kvs generalizing acc with
  | nil => rfl
  | cons x t ih =>
    simp only [List.map_cons, List.forIn_cons, hstep x (by simp) acc, ok_bind, List.foldl_cons]
    exact ih _ (fun kv hkv a => hstep kv (by simp [hkv]) a)

theorem pyObjDict_obj_C08b (c : String) (fs : List (String × PVal)) (hp : (fs.any fun f => pseudoField f.1) = false) :
    pyObjDict (.obj c fs) = .ok (.dict (itemsC08b fs)) := by
  simp [pyObjDict, hp]

/-- a loop that leaves what the continuation `k` reads unchanged, whatever the loop body and the shape of the loop state
    are: the invariant is stated through `k`, so the state tuple is never destructured -/
theorem forIn_keep_k_C08b {α σ β : Type} (l : List α) (init : σ) (f : α → σ → PyM (ForInStep σ)) (k : σ → PyM β) (r : PyM β)
    (h0 : k init = r)
    (hstep : ∀ a ∈ l, ∀ s, k s = r → ∃ s', f a s = .ok (.yield s') ∧ k s' = r) :
    (forIn l init f >>= k) = r := by
  induction l generalizing init with
  | nil => simpa using h0
  | cons a t ih =>
    obtain ⟨s', h1, h2⟩ := hstep a (by simp) init h0
    simp only [List.forIn_cons, h1, ok_bind]
    exact ih s' h2 (fun b hb s hs => hstep b (by simp [hb]) s hs)

theorem mem_enum_C08b (l : List PVal) (a : PVal)
    (h : a ∈ ((List.range l.length).zip l).map fun p => PVal.tuple [PVal.int (p.1 : Nat), p.2]) :
    ∃ (i : Nat) (x : PVal), l[i]? = some x ∧ a = .tuple [.int (i : Nat), x] := by
  obtain ⟨p, hp, rfl⟩ := List.mem_map.mp h
  obtain ⟨j, hj, hpj⟩ := List.mem_iff_getElem.mp hp
  refine ⟨p.1, p.2, ?_, rfl⟩
  have hj' : j < l.length := by simp at hj; omega
  have : p = (j, l[j]) := by rw [← hpj]; simp
  rw [this]
  simp [hj']

/-- `forIn_keep_k_C08b` for the loop `for i, x in enumerate(l)` -/
theorem forIn_enum_keep_k_C08b {σ β : Type} (l : List PVal) (init : σ) (f : PVal → σ → PyM (ForInStep σ)) (k : σ → PyM β)
    (r : PyM β) (h0 : k init = r)
    (hstep : ∀ (i : Nat) (x : PVal), l[i]? = some x → ∀ s, k s = r →
      ∃ s', f (.tuple [.int (i : Nat), x]) s = .ok (.yield s') ∧ k s' = r) :
    (forIn (((List.range l.length).zip l).map fun p => PVal.tuple [PVal.int (p.1 : Nat), p.2]) init f >>= k) = r := by
  refine forIn_keep_k_C08b _ init f k r h0 ?_
  intro a ha s hs
  obtain ⟨i, x, hix, rfl⟩ := mem_enum_C08b l a ha
  exact hstep i x hix s hs

theorem pyEnumerate_taglist_C08b (l : List PVal) :
    pyEnumerate (eqTagList l)
      = .ok (.list (((List.range l.length).zip l).map fun p => PVal.tuple [PVal.int (p.1 : Nat), p.2])) := rfl

theorem getElem?_lt_C08b {α} {l : List α} {i : Nat} {x : α} (h : l[i]? = some x) : i < l.length :=
  (List.getElem?_eq_some_iff.mp h).1

theorem set_same_C08b {α} (l : List α) (m : Nat) (v : α) (h : l[m]? = some v) : l.set m v = l := by
  obtain ⟨hm, rfl⟩ := List.getElem?_eq_some_iff.mp h
  exact List.set_getElem_self hm

theorem pySetItemU_taglist_C08b (xs : List PVal) (m : Nat) (v : PVal) (hm : m < xs.length) :
    pySetItemU (eqTagList xs) (.int (m : Nat)) v = .ok (eqTagList (xs.set m v)) := by
  have hneg : ¬ ((m : Int) < 0) := by omega
  have hge : ¬ ((m : Int) < 0 ∨ (m : Int).toNat ≥ xs.length) := by simp; omega
  have hge' : ¬ (False ∨ m ≥ xs.length) := by simp; omega
  simp only [pySetItemU, eqTagList, userListData?, fieldGet?, if_true, pySetItem, hneg, if_false, hge, pure_eq_ok, ok_bind,
    Int.toNat_natCast, fieldSet, hge']

theorem pySetItemU_same_C08b (l : List PVal) (i : Nat) (x : PVal) (h : l[i]? = some x) :
    pySetItemU (eqTagList l) (.int (i : Nat)) x = .ok (eqTagList l) := by
  rw [pySetItemU_taglist_C08b l i x (getElem?_lt_C08b h), set_same_C08b l i x h]

theorem plainData_ekv_C08b (d : List (Str × Str)) : plainDataC08b (embEKv d) = true := by
  have : plainDataKvsC08b (d.map fun kv => (kv.1, PVal.str kv.2)) = true := by
    induction d with
    | nil => rfl
    | cons x t ih => simp [plainDataKvsC08b, plainDataC08b, ih]
  simp [embEKv, plainDataC08b, this]

theorem plainData_ekvs_C08b (ds : List (List (Str × Str))) : plainDataC08b (embEKvs ds) = true := by
  have : plainDataListC08b (ds.map embEKv) = true := by
    induction ds with
    | nil => rfl
    | cons x t ih => simp [plainDataListC08b, plainData_ekv_C08b, ih]
  simp [embEKvs, plainDataC08b, this]

theorem plainData_source_C08b (s : DepSource) : plainDataC08b (embESource s) = true := by
  cases s with
  | none => rfl
  | href h => rfl
  | subdir p d x => cases p <;> rfl

theorem pyDeepcopyC08b_plain (v : PVal) (h : plainDataC08b v = true) : pyDeepcopyC08b v = .ok v := by
  simp [pyDeepcopyC08b, h]

theorem isInstance_tag_Tag_C08b (fs) : isInstance (.obj "Tag" fs) ["Tag"] = true := by simp [isInstance]
theorem isInstance_dep_Tag_C08b (fs) : isInstance (.obj "HTMLDependency" fs) ["Tag"] = false := by
  rw [isInstance_class _ _ (by simp)]
  simp only [pyClassOf, Bool.beq_eq_decide_eq, String.reduceEq, decide_false, Bool.false_and, Bool.or_false]
theorem isInstance_dep_Meta_C08b (fs) : isInstance (.obj "HTMLDependency" fs) ["MetadataNode"] = true := by
  simp [isInstance, classBases]

theorem embTag_isTag_C08b (nm ws a k) : isInstance (embC08b (.tag nm ws a k)) ["Tag"] = true := by
  rw [embC08b]; exact isInstance_tag_Tag_C08b _
theorem embTag_disp_C08b (tg dp : PVal → PyM PVal) (nm ws a k) :
    pyCopyDispC08b tg dp (embC08b (.tag nm ws a k)) = tg (embC08b (.tag nm ws a k)) := by
  rw [embC08b]; exact pyCopyDispC08b_tag tg dp _
theorem embTag_children_C08b (nm ws a k) : pyGetAttr (embC08b (.tag nm ws a k)) "children" = .ok (eqTagList (embsC08b k)) := by
  simp [embC08b, pyGetAttr, fieldGet?]
theorem embTag_setChildren_C08b (nm ws a k) :
    pySetAttr (embC08b (.tag nm ws a k)) "children" (eqTagList (embsC08b k)) = .ok (embC08b (.tag nm ws a k)) := by
  simp [embC08b, pySetAttr, fieldSet]
theorem embDep_isTag_C08b (d hh k) : isInstance (embC08b (.dep d hh k)) ["Tag"] = false := by
  rw [embC08b]; exact isInstance_dep_Tag_C08b _
theorem embDep_isMeta_C08b (d hh k) : isInstance (embC08b (.dep d hh k)) ["MetadataNode"] = true := by
  rw [embC08b]; exact isInstance_dep_Meta_C08b _
theorem embDep_disp_C08b (tg dp : PVal → PyM PVal) (d hh k) :
    pyCopyDispC08b tg dp (embC08b (.dep d hh k)) = dp (embC08b (.dep d hh k)) := by
  rw [embC08b]; exact pyCopyDispC08b_dep tg dp _
theorem embMeta_isTag_C08b (m) : isInstance (embC08b (.mnode m)) ["Tag"] = false := by
  rw [isInstance_class _ _ (by simp)]
  simp only [embC08b, pyClassOf, Bool.beq_eq_decide_eq, String.reduceEq, decide_false, Bool.false_and, Bool.or_false]
theorem embMeta_isMeta_C08b (m) : isInstance (embC08b (.mnode m)) ["MetadataNode"] = true := by simp [embC08b, isInstance]
theorem embMeta_disp_C08b (tg dp : PVal → PyM PVal) (m) :
    pyCopyDispC08b tg dp (embC08b (.mnode m)) = .ok (embC08b (.mnode m)) := pyCopyDispC08b_mnode tg dp m

theorem keep_step_C08b {σ β : Type} {x : PyM (ForInStep σ)} {k : σ → PyM β} {r : PyM β} (X : σ)
    (hx : x = .ok (.yield X)) (hk : k X = r) : ∃ s', x = .ok (.yield s') ∧ k s' = r := ⟨X, hx, hk⟩

/-- the nodes `_copy_tag_nodes` keeps as they are -/
def keptC08b (v : PVal) : Bool := !isInstance v ["Tag"] && !isInstance v ["MetadataNode"]

theorem embC08b_cases (c : Node) :
    (∃ nm ws a k, c = .tag nm ws a k) ∨ (∃ d hh k, c = .dep d hh k) ∨ (∃ n, c = .mnode n) ∨ keptC08b (embC08b c) = true := by
  cases c with
  | tag nm ws a k => exact .inl ⟨_, _, _, _, rfl⟩
  | dep d hh k => exact .inr (.inl ⟨_, _, _, rfl⟩)
  | mnode n => exact .inr (.inr (.inl ⟨_, rfl⟩))
  | text s => exact .inr (.inr (.inr rfl))
  | html s => exact .inr (.inr (.inr rfl))
  | robj s => exact .inr (.inr (.inr (by simp [keptC08b, embC08b, isInstance, classBases])))
  | tobjL a b => exact .inr (.inr (.inr (by simp [keptC08b, embC08b, isInstance, classBases])))
  | tobj1 a b => exact .inr (.inr (.inr (by simp [keptC08b, embC08b, isInstance, classBases])))

theorem pySetAttr_same_C08b (c : String) (fs : List (String × PVal)) (k : String) (v : PVal) (h : fieldGet? k fs = some v) :
    pySetAttr (.obj c fs) k v = .ok (.obj c fs) := by simp [pySetAttr, fieldSet_same k v fs h]

theorem refId_mkRef_C08b (c : String) (i : Nat) : refIdC08b (mkRefC08b c i) = some i := by
  simp [refIdC08b, mkRefC08b]

theorem refClass_mkRef_C08b (c : String) (i : Nat) : refClassC08b (mkRefC08b c i) = c := rfl

theorem hDeref_ok_C08b (H : List PVal) (c : String) (i : Nat) (o : PVal) (h : H[i]? = some o) :
    hDerefC08b (mkRefC08b c i) H = .ok (o, H) := by
  simp [hDerefC08b, refId_mkRef_C08b, h]

theorem hAlloc_run_C08b (H : List PVal) (c : String) (o : PVal) : hAllocC08b c o H = .ok (mkRefC08b c H.length, H ++ [o]) := rfl

theorem pyClassAttr_mkRef_C08b (c : String) (i : Nat) (hc : plainNewC08b c = true) :
    pyClassAttrC08b (mkRefC08b c i) = .ok (mkClassC08b c) :=
  pyClassAttr_obj_C08b c _ hc (by simp [pseudoField])

theorem hNew_mk_C08b (c : String) (hc : plainNewC08b c = true) (H : List PVal) :
    hNewC08b (mkClassC08b c) (mkClassC08b c) H = .ok (mkRefC08b c H.length, H ++ [.obj c []]) := by
  unfold hNewC08b
  simp only [pyNewC08b_mk c hc]
  rfl

theorem hStore_ok_C08b (H : List PVal) (c : String) (i : Nat) (o : PVal) (h : i < H.length) :
    hStoreC08b (mkRefC08b c i) o H = .ok (⟨⟩, H.set i o) := by
  simp [hStoreC08b, refId_mkRef_C08b, h]

theorem hObjDict_ok_C08b (H : List PVal) (c c' : String) (i : Nat) (fs : List (String × PVal)) (h : H[i]? = some (.obj c' fs))
    (hp : (fs.any fun f => pseudoField f.1) = false) :
    hObjDictC08b (mkRefC08b c i) H = .ok (.dict (itemsC08b fs), H) := by
  unfold hObjDictC08b
  rw [HMC08b.run_bind_ok (hDeref_ok_C08b H c i _ h)]
  simp only [pyObjDict_obj_C08b c' fs hp]
  rfl

/-- `dictcomp_loop_C08b` over the heap (`done`: the entries copied so far) -/
theorem dictcomp_loopH_C08b (fs done : List (String × PVal)) (hk : (done.map (·.1) ++ fs.map (·.1)).Nodup)
    (f : PVal → PVal → HMC08b (ForInStep PVal))
    (hstep : ∀ kv ∈ itemsC08b fs, ∀ a : List (Str × PVal),
      f (.tuple [.str kv.1, kv.2]) (.dict a) = (hCopyFieldC08b kv.2 >>= fun v => pure (.yield (.dict (Py.dictSet kv.1 v a))))) :
    forIn ((itemsC08b fs).map fun kv => PVal.tuple [PVal.str kv.1, kv.2]) (PVal.dict (itemsC08b done)) f
      = (copyFieldsHC08b fs >>= fun fs' => pure (PVal.dict (itemsC08b (done ++ fs')))) := by
  induction fs generalizing done with
  | nil => simp [copyFieldsHC08b]
  | cons x t ih =>
    have hx : x.1.toList ∉ (itemsC08b done).map (·.1) := fun hm => by
      obtain ⟨y, hy, e⟩ := List.mem_map.mp hm
      obtain ⟨z, hz, rfl⟩ := List.mem_map.mp hy
      exact (List.nodup_append.mp hk).2.2 _ (List.mem_map_of_mem hz) x.1 (by simp) (String.toList_injective e)
    simp only [itemsC08b, List.map_cons, List.forIn_cons, hstep (x.1.toList, x.2) (by simp), bind_assoc, pure_bind,
      copyFieldsHC08b, dictSet_append_C08b _ _ _ hx]
    congr 1
    funext v
    have := ih (done ++ [(x.1, v)]) (by simpa [List.append_assoc] using hk) (fun kv hkv a => hstep kv (by simp [hkv]) a)
    simpa [itemsC08b, List.append_assoc] using this

/-- the `__dict__` of a Tag object whose `attrs` / `children` are the objects `a` / `k` -/
def tagObjC08b (nm : Str) (ws : Bool) (a k : Nat) : PVal :=
  .obj "Tag" [("name", .str nm), ("add_ws", .bool ws), ("attrs", mkRefC08b "TagAttrDict" a),
              ("children", mkRefC08b "TagList" k), ("prev_displayhook", .none)]

/-- the heap holds a tag: its Tag object `i`, its TagAttrDict `a` with the entries `attrs`, its TagList `k` with the items `kids` -/
structure TagAtC08b (H : List PVal) (i a k : Nat) (nm : Str) (ws : Bool) (attrs : List (Str × PVal)) (kids : List PVal) :
    Prop where
  tag : H[i]? = some (tagObjC08b nm ws a k)
  attrs : H[a]? = some (.dict attrs)
  kids : H[k]? = some (.obj "TagList" [("data", .list kids)])

theorem hObjDictUpdate_ok_C08b (H : List PVal) (c : String) (i : Nat) (o d o' : PVal) (h : H[i]? = some o)
    (hu : pyObjDictUpdateC08b o d = .ok o') :
    hObjDictUpdateC08b (mkRefC08b c i) d H = .ok (⟨⟩, H.set i o') := by
  unfold hObjDictUpdateC08b
  rw [HMC08b.run_bind_ok (hDeref_ok_C08b H c i _ h)]
  simp only [hu, HMC08b.lift_ok, pure_bind]
  exact hStore_ok_C08b H c i o' (getElem?_lt_C08b h)

theorem hCopyField_str_C08b (s : Str) : hCopyFieldC08b (.str s) = pure (.str s) := rfl
theorem hCopyField_bool_C08b (b : Bool) : hCopyFieldC08b (.bool b) = pure (.bool b) := rfl
theorem hCopyField_none_C08b : hCopyFieldC08b .none = pure .none := rfl

/-- the objects `copy()` inside `__copy__` duplicates as they are (`hCopyObjC08b`): the dict of a `TagAttrDict` / `dict`,
    a TagList, a bare metadata node -/
def copiedAsIsC08b : String → PVal → Bool
  | "TagAttrDict", .dict _ => true
  | "dict", .dict _ => true
  | "TagList", .obj "TagList" [("data", .list _)] => true
  | "MetadataNode", .obj "MetadataNode" _ => true
  | _, _ => false

theorem hCopyField_ref_C08b (H : List PVal) (c : String) (i : Nat) (o : PVal) (h : H[i]? = some o)
    (hc : copiedAsIsC08b c o = true) : hCopyFieldC08b (mkRefC08b c i) H = .ok (mkRefC08b c H.length, H ++ [o]) := by
  have : hCopyFieldC08b (mkRefC08b c i) = hCopyObjC08b (mkRefC08b c i) := by
    simp [hCopyFieldC08b, mkRefC08b, refIdC08b]
  rw [this]
  unfold hCopyObjC08b
  rw [HMC08b.run_bind_ok (hDeref_ok_C08b H _ i _ h)]
  unfold copiedAsIsC08b at hc
  split at hc <;> first | rfl | cases hc

def attrKvsC08b (a : Attrs) : List (Str × PVal) := a.map fun kv => (kv.1, embVal kv.2)

theorem getElem?_append_some_C08b {H L : List PVal} {j : Nat} {o : PVal} (h : H[j]? = some o) : (H ++ L)[j]? = some o := by
  rw [List.getElem?_append_left (getElem?_lt_C08b h)]; exact h

/-- what one pass of the loop of `_copy_tag_nodes` does (`cp`: the new list, `i`: the position, `child`: the item there) -/
def copyPassC08b (G : Globals) (fuel : Nat) (cp i child : PVal) : HMC08b PUnit :=
  if isInstance child ["Tag"] then do
    let c ← hCopyDispC08b (Tag_copyHC08b G) (HTMLDependency_copyHC08b G fuel) child
    let r ← copy_tag_nodesHC08b G fuel (← hGetAttrC08b child "children")
    hSetAttrC08b c "children" r
    hSetItemUC08b cp i c
  else if isInstance child ["MetadataNode"] then do
    let c ← hCopyDispC08b (Tag_copyHC08b G) (HTMLDependency_copyHC08b G fuel) child
    hSetItemUC08b cp i c
  else pure ⟨⟩

/-- `x` does to the heap what `y` does and yields some loop state -/
def YieldsLikeC08b {σ : Type} (x : Except PyErr (ForInStep σ × List PVal)) (y : Except PyErr (PUnit × List PVal)) : Prop :=
  match y with
  | .ok (_, H') => ∃ s', x = .ok (.yield s', H')
  | .error e => x = .error e

theorem YieldsLikeC08b.bind {σ α : Type} (A : HMC08b α) (k : α → HMC08b (ForInStep σ)) (k' : α → HMC08b PUnit) (H : List PVal)
    (h : ∀ a H', YieldsLikeC08b (k a H') (k' a H')) : YieldsLikeC08b ((A >>= k) H) ((A >>= k') H) := by
  rw [HMC08b.run_bind, HMC08b.run_bind]
  cases hA : A H with
  | error e => exact rfl
  | ok r => obtain ⟨a, H'⟩ := r; exact h a H'

theorem YieldsLikeC08b.last {σ : Type} (D : HMC08b PUnit) (s : σ) (H : List PVal) :
    YieldsLikeC08b ((D >>= fun _ => pure (ForInStep.yield s)) H) (D H) := by
  rw [HMC08b.run_bind]
  cases hD : D H with
  | error e => exact rfl
  | ok r => obtain ⟨u, H'⟩ := r; exact ⟨s, rfl⟩

theorem YieldsLikeC08b.pure {σ : Type} (s : σ) (H : List PVal) :
    YieldsLikeC08b ((pure (ForInStep.yield s) : HMC08b (ForInStep σ)) H) ((pure ⟨⟩ : HMC08b PUnit) H) := ⟨s, rfl⟩

/-- the loop over the items from position `m` on, as the sequence of its passes -/
def copyLoopC08b (G : Globals) (fuel : Nat) (cp : PVal) : Nat → List PVal → HMC08b PUnit
  | _, [] => pure ⟨⟩
  | m, v :: r => do
    copyPassC08b G fuel cp (.int (m : Nat)) v
    copyLoopC08b G fuel cp (m + 1) r

/-- whatever the loop body and the loop state are, as long as every pass does to the heap what `copyPassC08b` does and the
    code `k` after the loop does not read the loop state -/
theorem forIn_copyLoop_C08b {σ α : Type} (G : Globals) (fuel : Nat) (cp : PVal) (f : PVal → σ → HMC08b (ForInStep σ))
    (hf : ∀ (m : Nat) (v : PVal) (s : σ) (H : List PVal),
      YieldsLikeC08b (f (.tuple [.int (m : Nat), v]) s H) (copyPassC08b G fuel cp (.int (m : Nat)) v H))
    (k : HMC08b α) (vs : List PVal) (m : Nat) (init : σ) (H : List PVal) :
    (forIn (pyEnum m vs) init f >>= fun _ => k) H = (copyLoopC08b G fuel cp m vs >>= fun _ => k) H := by
  induction vs generalizing m init H with
  | nil => rfl
  | cons v r ih =>
    simp only [pyEnum, List.forIn_cons, copyLoopC08b, bind_assoc]
    have h := hf m v init H
    rw [HMC08b.run_bind, HMC08b.run_bind]
    cases hp : copyPassC08b G fuel cp (.int (m : Nat)) v H with
    | error e =>
      rw [hp] at h
      simp only [YieldsLikeC08b] at h
      rw [h]
    | ok p =>
      obtain ⟨u, H'⟩ := p
      rw [hp] at h
      obtain ⟨s', hs'⟩ := h
      rw [hs']
      exact ih (m + 1) s' H'

theorem pair_fst_C08b {α β : Type} (a : α) (b : β) : (a, b).fst = a := rfl
theorem pair_snd_C08b {α β : Type} (a : α) (b : β) : (a, b).snd = b := rfl

abbrev tagListObjC08b (xs : List PVal) : PVal := .obj "TagList" [("data", .list xs)]

mutual
  /-- the trees `src_copy_tag_nodes_heap_C08b_partial` covers -/
  def plainTreeC08b : ITree → Bool
    | .tag _ _ _ _ _ _ kids => plainTreesC08b kids
    | .text _ => true
    | .html _ => true
    | .robj _ => true
    | .mnode _ _ => true
    | .dep .. => false
    | .tobjL .. => false
    | .tobj1 .. => false
  def plainTreesC08b : ITrees → Bool
    | .nil => true
    | .cons h t => plainTreeC08b h && plainTreesC08b t
end

mutual
  theorem plainTree_noTobj_C08b (x : ITree) (h : plainTreeC08b x = true) : x.noTobj = true := by
    cases x with
    | tag i a k nm ws at' kids => simpa [ITree.noTobj] using plainTrees_noTobj_C08b kids (by simpa [plainTreeC08b] using h)
    | dep | tobjL | tobj1 => simp [plainTreeC08b] at h
    | _ => rfl
  theorem plainTrees_noTobj_C08b (ks : ITrees) (h : plainTreesC08b ks = true) : ks.noTobjAll = true := by
    cases ks with
    | nil => rfl
    | cons x t =>
      simp only [plainTreesC08b, Bool.and_eq_true] at h
      simp [ITrees.noTobjAll, plainTree_noTobj_C08b x h.1, plainTrees_noTobj_C08b t h.2]
end

mutual
  /-- fuel for `_copy_tag_nodes` over the heap on such trees: one level per Tag nesting -/
  def cpFuelIC08b : ITree → Nat
    | .tag _ _ _ _ _ _ k => cpFuelKidsIC08b k + 1
    | _ => 0
  def cpFuelKidsIC08b : ITrees → Nat
    | .nil => 0
    | .cons h t => max (cpFuelIC08b h) (cpFuelKidsIC08b t)
end

mutual
  /-- the value `v` stands for the tree `x` in the heap `H`: a Tag is a reference to a Tag object whose `attrs` / `children`
      are references to its TagAttrDict / TagList objects (at the model's ids), whose items stand for the children; a bare
      metadata node is a reference to its object; strings, `HTML` and self-rendering objects are values -/
  def ReprC08b (H : List PVal) : ITree → PVal → Prop
    | .text s, v => v = .str s
    | .html s, v => v = .html s
    | .robj s, v => v = .obj "ReprObj" [("_repr_html_", .str s)]
    | .mnode i n, v => v = mkRefC08b "MetadataNode" i ∧ H[i]? = some (.obj "MetadataNode" [("n", .int n)])
    | .tag i a k nm ws at' kids, v =>
      v = mkRefC08b "Tag" i ∧ ∃ vs, TagAtC08b H i a k nm ws (attrKvsC08b at') vs ∧ ReprsC08b H kids vs
    | .dep .., _ => False
    | .tobjL .., _ => False
    | .tobj1 .., _ => False
  def ReprsC08b (H : List PVal) : ITrees → List PVal → Prop
    | .nil, vs => vs = []
    | .cons x xs, vs => ∃ v r, vs = v :: r ∧ ReprC08b H x v ∧ ReprsC08b H xs r
end

mutual
  theorem ReprC08b.frame (H H' : List PVal) (x : ITree) (v : PVal) (h : ReprC08b H x v)
      (hf : ∀ j ∈ x.ids, H'[j]? = H[j]?) : ReprC08b H' x v := by
    cases x with
    | text s | html s | robj s => exact h
    | mnode i n =>
      obtain ⟨rfl, hi⟩ := h
      exact ⟨rfl, by rw [hf i (by simp [ITree.ids])]; exact hi⟩
    | tag i a k nm ws at' kids =>
      obtain ⟨rfl, vs, ht, hk⟩ := h
      refine ⟨rfl, vs, ⟨?_, ?_, ?_⟩, ReprsC08b.frame H H' kids vs hk (fun j hj => hf j (by simp [ITree.ids, hj]))⟩
      · rw [hf i (by simp [ITree.ids])]; exact ht.tag
      · rw [hf a (by simp [ITree.ids])]; exact ht.attrs
      · rw [hf k (by simp [ITree.ids])]; exact ht.kids
    | dep | tobjL | tobj1 => exact h.elim
  theorem ReprsC08b.frame (H H' : List PVal) (ks : ITrees) (vs : List PVal) (h : ReprsC08b H ks vs)
      (hf : ∀ j ∈ ks.idsAll, H'[j]? = H[j]?) : ReprsC08b H' ks vs := by
    cases ks with
    | nil => exact h
    | cons x t =>
      obtain ⟨v, r, rfl, hx, ht⟩ := h
      exact ⟨v, r, rfl, ReprC08b.frame H H' x v hx (fun j hj => hf j (by simp [ITrees.idsAll, hj])),
        ReprsC08b.frame H H' t r ht (fun j hj => hf j (by simp [ITrees.idsAll, hj]))⟩
end

theorem hCopyDisp_tag_C08b (tg dp : PVal → HMC08b PVal) (i : Nat) :
    hCopyDispC08b tg dp (mkRefC08b "Tag" i) = tg (mkRefC08b "Tag" i) := by
  simp [hCopyDispC08b, mkRefC08b, refIdC08b]

theorem hCopyDisp_field_C08b (tg dp : PVal → HMC08b PVal) (c : String) (i : Nat) (h1 : c ≠ "Tag") (h2 : c ≠ "HTMLDependency")
    (h3 : c ≠ "HTMLDocument") : hCopyDispC08b tg dp (mkRefC08b c i) = hCopyFieldC08b (mkRefC08b c i) := by
  unfold hCopyDispC08b mkRefC08b
  split
  · next hh => cases hh; exact absurd rfl h1
  · next hh => cases hh; exact absurd rfl h2
  · next hh => cases hh; exact absurd rfl h3
  · rfl

theorem hCopyDisp_taglist_C08b (tg dp : PVal → HMC08b PVal) (H : List PVal) (k : Nat) (xs : List PVal)
    (h : H[k]? = some (tagListObjC08b xs)) :
    hCopyDispC08b tg dp (mkRefC08b "TagList" k) H = .ok (mkRefC08b "TagList" H.length, H ++ [tagListObjC08b xs]) := by
  rw [hCopyDisp_field_C08b tg dp "TagList" k (by simp) (by simp) (by simp)]
  exact hCopyField_ref_C08b H _ k _ h rfl

theorem hCopyDisp_meta_C08b (tg dp : PVal → HMC08b PVal) (H : List PVal) (i : Nat) (fs : List (String × PVal))
    (h : H[i]? = some (.obj "MetadataNode" fs)) :
    hCopyDispC08b tg dp (mkRefC08b "MetadataNode" i) H
      = .ok (mkRefC08b "MetadataNode" H.length, H ++ [.obj "MetadataNode" fs]) := by
  rw [hCopyDisp_field_C08b tg dp "MetadataNode" i (by simp) (by simp) (by simp)]
  exact hCopyField_ref_C08b H _ i _ h rfl

theorem hGetAttr_ref_C08b (H : List PVal) (c : String) (i : Nat) (o : PVal) (name : String) (v : PVal) (h : H[i]? = some o)
    (hv : pyGetAttr o name = .ok v) : hGetAttrC08b (mkRefC08b c i) name H = .ok (v, H) := by
  unfold hGetAttrC08b
  simp only [refId_mkRef_C08b]
  rw [HMC08b.run_bind_ok (hDeref_ok_C08b H c i o h)]
  simp only [hv, HMC08b.lift_ok]
  rfl

theorem hSetAttr_ok_C08b (H : List PVal) (c c' : String) (i : Nat) (fs : List (String × PVal)) (name : String) (v : PVal)
    (h : H[i]? = some (.obj c' fs)) :
    hSetAttrC08b (mkRefC08b c i) name v H = .ok (⟨⟩, H.set i (.obj c' (fieldSet name v fs))) := by
  unfold hSetAttrC08b
  rw [HMC08b.run_bind_ok (hDeref_ok_C08b H c i _ h)]
  exact hStore_ok_C08b H c i _ (getElem?_lt_C08b h)

theorem hSetAttr_children_C08b (H : List PVal) (i : Nat) (nm : Str) (ws : Bool) (a k k' : Nat)
    (h : H[i]? = some (tagObjC08b nm ws a k)) :
    hSetAttrC08b (mkRefC08b "Tag" i) "children" (mkRefC08b "TagList" k') H = .ok (⟨⟩, H.set i (tagObjC08b nm ws a k')) := by
  rw [hSetAttr_ok_C08b H "Tag" "Tag" i _ "children" _ h]
  simp [tagObjC08b, fieldSet]

theorem hSetItemU_ok_C08b (H : List PVal) (c : String) (i : Nat) (xs : List PVal) (m : Nat) (v : PVal)
    (h : H[i]? = some (tagListObjC08b xs)) (hm : m < xs.length) :
    hSetItemUC08b (mkRefC08b c i) (.int (m : Nat)) v H = .ok (⟨⟩, H.set i (tagListObjC08b (xs.set m v))) := by
  unfold hSetItemUC08b
  rw [HMC08b.run_bind_ok (hDeref_ok_C08b H c i _ h)]
  have := pySetItemU_taglist_C08b xs m v hm
  rw [eqTagList] at this
  simp only [this, HMC08b.lift_ok, pure_bind]
  exact hStore_ok_C08b H c i _ (getElem?_lt_C08b h)

theorem hItems_ok_C08b (H : List PVal) (c : String) (i : Nat) (xs : List PVal) (h : H[i]? = some (tagListObjC08b xs)) :
    hItemsC08b (mkRefC08b c i) H = .ok (xs, H) := by
  unfold hItemsC08b
  rw [HMC08b.run_bind_ok (hDeref_ok_C08b H c i _ h)]
  rfl

end HtmlVerif.SrcTie
