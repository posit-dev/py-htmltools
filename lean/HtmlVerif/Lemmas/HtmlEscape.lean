/-
Escape-table lemmas for C01 (the only bridge from escaping to tokenizing):
  esc_inert              : the stop character never occurs in escaped output
  esc_decodes            : decodeRefs (escaped ++ r) = original ++ decodeRefs r
-/
import HtmlVerif.Lemmas.Escape
import HtmlVerif.Lemmas.HtmlChars

namespace HtmlVerif

theorem tblOk_iff {stop : Char} {tbl : List (Char × Str)} :
    tblOk stop tbl = true ↔ seqOk tbl = true ∧ (∀ kv ∈ tbl, refOk kv = true) ∧ tblHasKey tbl '&' = true
      ∧ tblHasKey tbl stop = true ∧ ∀ kv ∈ tbl, stop ∉ kv.2 := by
  simp only [tblOk, Bool.and_eq_true, List.all_eq_true, and_assoc, Bool.not_eq_true', List.contains_eq_mem,
    decide_eq_false_iff_not]

theorem tblOk_seq {stop : Char} {tbl : List (Char × Str)} (h : tblOk stop tbl = true) : seqOk tbl = true :=
  (tblOk_iff.mp h).1

theorem find_key_mem (tbl : List (Char × Str)) (c : Char) :
    (∃ v, (c, v) ∈ tbl ∧ escCharT tbl c = v) ∨ (tblHasKey tbl c = false ∧ escCharT tbl c = [c]) := by
  cases hf : tbl.find? (fun kv => kv.1 == c) with
  | some kv =>
    obtain rfl : kv.1 = c := by simpa using List.find?_some hf
    exact .inl ⟨kv.2, List.mem_of_find?_eq_some hf, by rw [escCharT, hf]⟩
  | none => exact .inr ⟨List.any_eq_false.mpr (List.find?_eq_none.mp hf), by rw [escCharT, hf]⟩

theorem esc_inert {stop : Char} {tbl : List (Char × Str)} (h : tblOk stop tbl = true) (s : Str) :
    stop ∉ htmlEscapeT tbl s := by
  rw [htmlEscapeT_perChar tbl (tblOk_seq h)]
  obtain ⟨_, _, _, hstop, hno⟩ := tblOk_iff.mp h
  simp only [List.mem_flatMap, not_exists, not_and]
  intro c _ hmem
  rcases find_key_mem tbl c with ⟨v, hv, he⟩ | ⟨hk, he⟩ <;> rw [he] at hmem
  · exact hno _ hv hmem
  · cases List.mem_singleton.1 hmem
    simp [hstop] at hk

theorem decodeGo_skip (a : Str) (c : Char) (r : Str) : decodeGo (a.length + 1) (a ++ c :: r) = decodeGo 0 r := by
  induction a with
  | nil => rfl
  | cons x xs ih => simpa [decodeGo] using ih

theorem refAt_body (body r : Str) (hb : body.all isRefChar = true) :
    refAt (body ++ ';' :: r) = (refBody body).map (fun ch => (ch, body.length + 1)) := by
  have hs := spanP_append_cons isRefChar body ';' r (by simpa using hb) (by decide)
  simp [refAt, hs]

theorem decode_ref (k : Char) (v : Str) (h : refOk (k, v) = true) (r : Str) :
    decodeGo 0 (v ++ r) = k :: decodeGo 0 r := by
  simp only [refOk, Bool.and_eq_true, beq_iff_eq] at h
  obtain ⟨⟨hv, hb⟩, hr⟩ := h
  generalize v.tail.dropLast = body at hv hb hr
  subst hv
  have h1 := refAt_body body r hb
  rw [hr] at h1
  simp [decodeGo, h1, decodeGo_skip body ';' r]

theorem decode_escChar {stop : Char} {tbl : List (Char × Str)} (h : tblOk stop tbl = true) (c : Char) (r : Str) :
    decodeGo 0 (escCharT tbl c ++ r) = c :: decodeGo 0 r := by
  obtain ⟨_, href, hamp, _, _⟩ := tblOk_iff.mp h
  rcases find_key_mem tbl c with ⟨v, hv, he⟩ | ⟨hk, he⟩ <;> rw [he]
  · exact decode_ref c v (href _ hv) r
  · have hne : c ≠ '&' := by
      rintro rfl
      simp [hamp] at hk
    simp [decodeGo, hne]

theorem esc_decodes {stop : Char} {tbl : List (Char × Str)} (h : tblOk stop tbl = true) (s r : Str) :
    decodeRefs (htmlEscapeT tbl s ++ r) = s ++ decodeRefs r := by
  rw [htmlEscapeT_perChar tbl (tblOk_seq h)]
  unfold decodeRefs
  induction s with
  | nil => rfl
  | cons x xs ih =>
    simp only [List.flatMap_cons, List.append_assoc, List.cons_append]
    rw [decode_escChar h, ih]

@[simp] theorem decodeRefs_nil : decodeRefs [] = [] := rfl

theorem esc_decodes_self {stop : Char} {tbl : List (Char × Str)} (h : tblOk stop tbl = true) (s : Str) :
    decodeRefs (htmlEscapeT tbl s) = s := by
  simpa using esc_decodes h s []

theorem ws_decodes (w r : Str) (hw : wsOnly w = true) : decodeRefs (w ++ r) = w ++ decodeRefs r := by
  unfold decodeRefs
  induction w with
  | nil => rfl
  | cons x xs ih =>
    simp only [wsOnly, List.all_cons, Bool.and_eq_true] at hw
    have hx : x ≠ '&' := by
      rintro rfl
      exact absurd hw.1 (by decide)
    simp only [List.cons_append, decodeGo, hx, if_false]
    rw [ih (by simpa [wsOnly] using hw.2)]

theorem ws_decodes_self (w : Str) (hw : wsOnly w = true) : decodeRefs w = w := by
  simpa using ws_decodes w [] hw

end HtmlVerif
