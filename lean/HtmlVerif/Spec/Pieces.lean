/-
"Pieces": the same recursion as the renderer (Model/Render.lean), emitting a list of typed pieces
instead of a string.  `render_eq_pieces` (Lemmas/Pieces.lean) proves that realising the pieces gives
exactly the rendered string, so statements about *where* something is emitted become statements
about the piece list (used by C01, C02, C03, C04, C05).
-/
import HtmlVerif.Model.Render

namespace HtmlVerif

inductive Piece
  | opn (name : Str) (ws : Bool) (attrs : Attrs) (selfClose : Bool)   -- a whole opening tag `<n a="v">` / `<n a="v"/>`
  | cls (name : Str) (ws : Bool)                                     -- `</n>`
  | ws (s : Str)                                                     -- layout whitespace: eol / indentation
  | txt (s : Str)                                                    -- plain-text leaf in an escaping context
  | raw (s : Str)                                                    -- HTML(), _repr_html_() result, text under script/style
  deriving DecidableEq, Repr

def Piece.realize (cfg : Cfg) : Piece → Str
  | .opn n _ a sc => openTag cfg n a ++ (if sc then ['/', '>'] else ['>'])
  | .cls n _ => closeTag n
  | .ws s => s
  | .txt s => escText cfg s
  | .raw s => s

def realizeAll (cfg : Cfg) (ps : List Piece) : Str := ps.flatMap (Piece.realize cfg)

/-- layout whitespace piece, omitted when empty -/
def wsP (s : Str) : List Piece := if s = [] then [] else [.ws s]

def textP (esc : Bool) (s : Str) : Piece := if esc then .txt s else .raw s

mutual
  def Node.pieces (cfg : Cfg) : Node → Nat → Str → List Piece
    | .tag name ws attrs kids, indent, eol =>
      if kids.visible.isEmpty then
        if cfg.void.contains name then wsP (indentStr indent) ++ [.opn name ws attrs true]
        else wsP (indentStr indent) ++ [.opn name ws attrs false, .cls name ws]
      else match inlineChild? kids.visible with
        | some c =>
          wsP (indentStr indent) ++ [.opn name ws attrs false,
            textP (!cfg.noesc.contains name && !c.2) c.1, .cls name ws]
        | none =>
          wsP (indentStr indent) ++ [.opn name ws attrs false] ++ (if ws then wsP eol else [])
            ++ kids.piecesKids cfg (indent + 1) eol true ws (!cfg.noesc.contains name)
            ++ (if ws then wsP (eol ++ indentStr indent) else []) ++ [.cls name ws]
    | _, _, _ => []
  def Nodes.piecesKids (cfg : Cfg) : Nodes → Nat → Str → Bool → Bool → Bool → List Piece
    | .nil, _, _, _, _, _ => []
    | .cons h t, indent, eol, first, prevWs, esc =>
      match h with
      | .mnode _ => t.piecesKids cfg indent eol first prevWs esc
      | .dep .. => t.piecesKids cfg indent eol first prevWs esc
      | .tag _ ws _ _ =>
        let pc := prevWs || ws
        (if !first && pc then wsP eol else [])
          ++ (if pc then h.pieces cfg indent eol else h.pieces cfg 0 [])
          ++ t.piecesKids cfg indent eol false ws esc
      | .text s =>
        (if !first && prevWs then wsP eol else []) ++ (if prevWs then wsP (indentStr indent) else [])
          ++ [textP esc s] ++ t.piecesKids cfg indent eol false false esc
      | .html s =>
        (if !first && prevWs then wsP eol else []) ++ (if prevWs then wsP (indentStr indent) else [])
          ++ [.raw s] ++ t.piecesKids cfg indent eol false false esc
      | .robj s =>
        (if !first && prevWs then wsP eol else []) ++ (if prevWs then wsP (indentStr indent) else [])
          ++ [.raw s] ++ t.piecesKids cfg indent eol false false esc
      | .tobjL rh _ =>
        (if !first && prevWs then wsP eol else []) ++ (if prevWs then wsP (indentStr indent) else [])
          ++ [.raw (rh.getD [])] ++ t.piecesKids cfg indent eol false false esc
      | .tobj1 rh _ =>
        (if !first && prevWs then wsP eol else []) ++ (if prevWs then wsP (indentStr indent) else [])
          ++ [.raw (rh.getD [])] ++ t.piecesKids cfg indent eol false false esc
end

end HtmlVerif
