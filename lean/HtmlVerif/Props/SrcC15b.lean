/-
Source tie (DESIGN §14) for the Tag constructor and the helpers around it (C15 `init_is_merge` / `consolidate_*`, C14
`tag_delegates`, C19 `C19_call`'s `_add_ws` clause): the Lean functions regenerated from the *text* of
`TagAttrDict.__init__`, `Tag.__init__`, `Tag.insert`, `Tag.extend`, `Tag.append` and `consolidate_attrs`
(htmltools/_core.py; Generated/Src.lean, harness/pytr_c15b.py) compute, for every input, what the models compute:

  TagAttrDict.__init__   `attrsUpdate` on the receiver (Model/Attrs.lean); on a new instance `tagInitAttrs`
  Tag.__init__           `tagInitC15b` (Lemmas/SrcC15b.lean) = the `_add_ws` check `tagInitWs` (Model/TagFn.lean), then
                         `tagInitAttrs` on the dict arguments and the keywords, then `TL.init` (Model/Children.lean) on the
                         other arguments — in this order, the first failure decides; `tagInitSplit_eqC15b` / `tagInit_kidsC15b`
                         relate it to `tagInitSplit` (Model/Consolidate.lean) and `TagM.init` (Model/Children.lean)
  Tag.insert/extend/append   `TL.insert / extend / append` on the `children` field, every other field untouched
                         (`TagM.insert / extend / append`)
  consolidate_attrs      `consolidate` (Model/Consolidate.lean) with `checkKids` = "does `TagList(*kids)` raise" (C14's model)

Scope of the statements, made explicit by their hypotheses:
  * `hkw : kwFreeC15b reservedC15b kw`: no keyword is called `self`, `_name` or `_add_ws`.  Python binds such a keyword
    to the parameter of that name of `Tag.__init__` / `TagAttrDict.update` (or raises "multiple values") instead of
    treating it as an attribute; the translation states that binding (`pyKwTakeC15b` / `pyKwRestC15b`), the models do not
    have it.  (`consolidate_attrs(_add_ws=False)` is a call the model of C15 does not describe.)
  * `hk : kidsOkC15b (kidsOf args)`: the non-dict arguments are representable values of the child-list model (`argRep`, as
    in Props/SrcC14.lean) and none of them is a dict (a dict argument is an attribute argument);
  * a `TagAttrDict` instance is carried as a dict; the new `Tag` instance is compared attribute by attribute
    (`projTagC15b`): the order of the assignments in `__init__` is not part of the statement;
  * fuel: the theorems hold for every fuel above the nesting depth of the children (+ the call depth).

No loop body is spelled out: the two comprehensions are taken from the regenerated definitions by unification
(`filter_loop_kC15b`); what is proved about each is its effect on one pass.  Every theorem takes `<fn>_available = true`
for the function and for every translated function it calls and is vacuous (first alternative) when a function has left
the translatable fragment.
-/
import HtmlVerif.Generated.Src
import HtmlVerif.Lemmas.SrcC15b
import HtmlVerif.Props.SrcAttrs
import HtmlVerif.Props.SrcC14

set_option linter.unusedVariables false
set_option linter.unusedSimpArgs false   -- the simp sets cover equivalent spellings of the source, not only the current one

namespace HtmlVerif.SrcTie
open HtmlVerif HtmlVerif.Py HtmlVerif.Generated.Src

/-- `TagAttrDict.__init__(self, *args, **kwargs)` as the source has it (`super().__init__()`, then
    `self.update(*args, **kwargs)`) = `attrsUpdate` on the receiver's items, for every receiver, every tuple of dicts and
    every keyword dict, TypeError for a value of an invalid type included -/
theorem src_TagAttrDict_initC15b (h : TagAttrDict_initC15b_available = true) (h0 : TagAttrDict_update_available = true)
    (h1 : normalize_attr_value_available = true) (h2 : normalize_attr_name_available = true)
    (h3 : html_escape_available = true) (h4 : HTML_add_available = true) (h5 : HTML_radd_available = true)
    (h6 : HTML_as_string_available = true)
    (cfg : Cfg) (hsp : escText cfg [' '] = [' ']) (ht : keysPlain cfg.textTbl = true) (ha : keysPlain cfg.attrTbl = true)
    (cur : Attrs) (args : List (List (Str × AttrArg))) (kw : List (Str × AttrArg))
    (hkw : kwFreeC15b reservedC15b kw = true) :
    TagAttrDict_initC15b (globalsOf cfg) (embAttrs cur) (.tuple (args.map embArgDict)) (embArgDict kw)
      = embRes embAttrs (attrsUpdate cfg cur (if kw.isEmpty then args else args ++ [kw])) := by
  first
  | exact absurd h (by decide)
  | skip
  all_goals (
    unfold TagAttrDict_initC15b
    -- `hkw`: the keywords reach `**kwargs` unchanged, whichever parameters the call binds in which way
    simp (disch := decide) only [pyDictInit0_embC15b, pyIter_tuple, ok_bind, pure_eq_ok, pyKwTake_embC15b _ _ _ hkw,
      pyKwRest_embC15b _ _ _ hkw, src_update h0 h1 h2 h3 h4 h5 h6 cfg hsp ht ha, bind_ok_self])

/-- on a new instance: `TagAttrDict(*dicts, **kw)` = `tagInitAttrs`, the attribute half of `Tag.__init__`
    (what `C15_init_is_merge` / `C15_init_rejects` are about) -/
theorem src_TagAttrDict_newC15b (h : TagAttrDict_initC15b_available = true) (h0 : TagAttrDict_update_available = true)
    (h1 : normalize_attr_value_available = true) (h2 : normalize_attr_name_available = true)
    (h3 : html_escape_available = true) (h4 : HTML_add_available = true) (h5 : HTML_radd_available = true)
    (h6 : HTML_as_string_available = true)
    (cfg : Cfg) (hsp : escText cfg [' '] = [' ']) (ht : keysPlain cfg.textTbl = true) (ha : keysPlain cfg.attrTbl = true)
    (dicts : List (List (Str × AttrArg))) (kw : List (Str × AttrArg)) (hkw : kwFreeC15b reservedC15b kw = true) :
    TagAttrDict_initC15b (globalsOf cfg) (.dict []) (.tuple (dicts.map embArgDict)) (embArgDict kw)
      = embRes embAttrs (tagInitAttrs cfg dicts kw) :=
  src_TagAttrDict_initC15b h h0 h1 h2 h3 h4 h5 h6 cfg hsp ht ha [] dicts kw hkw

/-- `Tag.__init__(self, _name, *args, _add_ws, **kwargs)` as the source has it = `tagInitC15b`: run on an instance with an
    empty `__dict__` (of `Tag` or a subclass `cls`) it raises TypeError for an `_add_ws` that is not a bool, else what
    `TagAttrDict(*dicts, **kwargs)` raises for the dict arguments, else what `TagList(*kids)` raises for the others — and
    otherwise leaves the five attributes the model computes (`name`, `add_ws`, the merged `attrs`, the normalised
    `children`, `prev_displayhook = None`).  The two halves may be built in either order: both raise TypeError only
    (`tagInitAttrs_errC15b`, `TLinit_errC15b`), so the order cannot be observed. -/
theorem src_Tag_initC15b (h : Tag_initC15b_available = true) (hA : TagAttrDict_initC15b_available = true)
    (h0 : TagAttrDict_update_available = true)
    (h1 : normalize_attr_value_available = true) (h2 : normalize_attr_name_available = true)
    (h3 : html_escape_available = true) (h4 : HTML_add_available = true) (h5 : HTML_radd_available = true)
    (h6 : HTML_as_string_available = true)
    (hi : TagList_init_available = true) (ht' : tagchilds_to_tagnodes_available = true)
    (hf' : util_flatten_available = true) (hr' : util_flatten_recurse_available = true) (hn : is_tag_node_available = true)
    (cfg : Cfg) (hsp : escText cfg [' '] = [' ']) (ht : keysPlain cfg.textTbl = true) (ha : keysPlain cfg.attrTbl = true)
    (cls : String) (name : Str) (ws : WsVC15b) (args : List (TagArg Arg)) (kw : List (Str × AttrArg))
    (hkw : kwFreeC15b reservedC15b kw = true) (hk : kidsOkC15b (kidsOf args) = true)
    (fuel : Nat) (hf : argsFdepth (Args.ofList (kidsOf args)) + 4 < fuel) :
    projTagC15b <$> Tag_initC15b (globalsOf cfg) fuel (.obj cls []) (.str name) (.tuple (args.map embTagArgC15b)) ws.emb (embArgDict kw)
      = embRes (embTagMC15b cls) (tagInitC15b cfg name ws.toWs args kw) := by
  first
  | exact absurd h (by decide)
  | skip
  all_goals (
    obtain ⟨f, rfl⟩ : ∃ f, fuel = f + 1 := ⟨fuel - 1, by omega⟩
    rw [Tag_initC15b, map_eq_bindC15b]
    simp only [pySetAttr_objC15b, ok_bind, pure_eq_ok, truthy_bool, pyIter_tuple]
    have hinit : ∀ ds, TagAttrDict_initC15b (globalsOf cfg) (PVal.dict []) (.tuple (ds.map embArgDict)) (embArgDict kw)
        = embRes embAttrs (tagInitAttrs cfg ds kw) :=
      fun ds => src_TagAttrDict_initC15b hA h0 h1 h2 h3 h4 h5 h6 cfg hsp ht ha [] ds kw hkw
    have hkids := src_TagList_init hi ht' hf' hr' hn (globalsOf cfg) (kidsOf args) (kidsOk_repC15b _ hk) f (by omega)
    cases ws with
    | other v hv =>
      simp [WsVC15b.emb, WsVC15b.toWs, hv, tagInitC15b, tagInitWs, embRes, embErr]
    | bool b =>
      have hb : isInstance (PVal.bool b) ["bool"] = true := rfl
      simp only [WsVC15b.emb, WsVC15b.toWs, hb, Bool.not_true, Bool.false_eq_true, if_false, bind_assocC15b, tagInitC15b, tagInitWs]
      -- the two halves, in whichever order the source builds them: each is a comprehension over `args` (whichever loop
      -- it is, the rule whose test its body implements applies) followed by a constructor call
      simp (disch := first | (intro x _ s; cases isInstance x ["dict"] <;> with_unfolding_all rfl) | fail) only
        [filter_loop_kC15b fun v => isInstance v ["dict"], filter_loop_kC15b fun v => !isInstance v ["dict"],
          List.nil_append, filter_dictsC15b args hk, filter_kidsC15b args hk, pyIter_list, ok_bind]
      simp (disch := decide) only [pyKwTake_embC15b _ _ _ hkw, pyKwRest_embC15b _ _ _ hkw, ok_bind, hinit, hkids]
      -- both raise TypeError only, so when both fail the order cannot be observed
      cases ha' : tagInitAttrs cfg (dictsOf args) kw <;> cases hc : TL.init (kidsOf args) <;>
        simp only [embRes, ok_bind, error_bind, pySetAttr_objC15b] <;>
        first
        | rfl
        | (cases tagInitAttrs_errC15b _ _ _ _ ha'; cases TLinit_errC15b _ _ hc; rfl))

/-- the `_add_ws` check comes first: a value that is not a bool is rejected whatever the other arguments are — not even
    iterable ones (C19: `callWrapper r (some .other) = none`) -/
theorem src_Tag_init_addws_rejectC15b (h : Tag_initC15b_available = true) (G : Globals) (fuel : Nat) (cls : String)
    (fs : List (String × PVal)) (nm args kw v : PVal) (hv : isInstance v ["bool"] = false) :
    Tag_initC15b G (fuel + 1) (.obj cls fs) nm args v kw = .error .typeError := by
  first
  | exact absurd h (by decide)
  | skip
  all_goals (
    rw [Tag_initC15b]
    simp only [pySetAttr_objC15b, ok_bind, truthy_bool, hv, Bool.not_false, if_true, throw_eq_error, error_bind])

/-- `Tag.insert(index, x)` as the source has it: `TagList.insert` on the `children` field (= `TL.insert`), every other
    attribute of the receiver untouched; for any instance that has such a field -/
theorem src_Tag_insertC15b (h : Tag_insertC15b_available = true) (hI : TagList_insert_available = true)
    (ht : tagchilds_to_tagnodes_available = true)
    (hf' : util_flatten_available = true) (hr' : util_flatten_recurse_available = true) (hn : is_tag_node_available = true)
    (G : Globals) (cls : String) (fs : List (String × PVal)) (s : TL) (hs : fieldGet? "children" fs = some (embTL s))
    (i : Int) (x : Arg) (hr : argRep x = true) (fuel : Nat) (hf : argFdepth x + 4 < fuel) :
    Tag_insertC15b G fuel (.obj cls fs) (.int i) (embA x) = embKidsOutC15b cls fs (s.insert i x) := by
  first
  | exact absurd h (by decide)
  | skip
  all_goals (
    obtain ⟨f, rfl⟩ : ∃ f, fuel = f + 1 := ⟨fuel - 1, by omega⟩
    rw [Tag_insertC15b]
    simp only [pyGetAttr_objC15b, hs, ok_bind, pure_eq_ok, src_TagList_insert hI ht hf' hr' hn G s i x hr f (by omega), embOut,
      embKidsOutC15b]
    cases (s.insert i x).result with
    | error e => rfl
    | ok u => rfl)

/-- `Tag.extend(x)` as the source has it: `TL.extend` on the `children` field -/
theorem src_Tag_extendC15b (h : Tag_extendC15b_available = true) (hE : TagList_extend_available = true)
    (ht : tagchilds_to_tagnodes_available = true)
    (hf' : util_flatten_available = true) (hr' : util_flatten_recurse_available = true) (hn : is_tag_node_available = true)
    (G : Globals) (cls : String) (fs : List (String × PVal)) (s : TL) (hs : fieldGet? "children" fs = some (embTL s))
    (x : Arg) (hr : argRep x = true) (fuel : Nat) (hf : iterDepth x + 4 < fuel) :
    Tag_extendC15b G fuel (.obj cls fs) (embA x) = embKidsOutC15b cls fs (s.extend x) := by
  first
  | exact absurd h (by decide)
  | skip
  all_goals (
    obtain ⟨f, rfl⟩ : ∃ f, fuel = f + 1 := ⟨fuel - 1, by omega⟩
    rw [Tag_extendC15b]
    simp only [pyGetAttr_objC15b, hs, ok_bind, pure_eq_ok, src_TagList_extend hE ht hf' hr' hn G s x hr f (by omega), embOut,
      embKidsOutC15b]
    cases (s.extend x).result with
    | error e => rfl
    | ok u => rfl)

/-- `Tag.append(*args)` as the source has it: `TL.append` on the `children` field; TypeError when called without an
    argument (`TagList.append` requires `item`) -/
theorem src_Tag_appendC15b (h : Tag_appendC15b_available = true) (hA : TagList_append_available = true)
    (hE : TagList_extend_available = true) (ht : tagchilds_to_tagnodes_available = true)
    (hf' : util_flatten_available = true) (hr' : util_flatten_recurse_available = true) (hn : is_tag_node_available = true)
    (G : Globals) (cls : String) (fs : List (String × PVal)) (s : TL) (hs : fieldGet? "children" fs = some (embTL s))
    (xs : List Arg) (hr : xs.all argRep = true) (fuel : Nat) (hf : argsFdepth (Args.ofList xs) + 5 < fuel) :
    Tag_appendC15b G fuel (.obj cls fs) (.tuple (xs.map embA)) = embKidsOutC15b cls fs (s.append xs) := by
  first
  | exact absurd h (by decide)
  | skip
  all_goals (
    obtain ⟨f, rfl⟩ : ∃ f, fuel = f + 1 := ⟨fuel - 1, by omega⟩
    rw [Tag_appendC15b]
    simp only [pyGetAttr_objC15b, hs, ok_bind, pure_eq_ok, pyIter_tuple]
    cases xs with
    | nil => rfl
    | cons item rest =>
      simp only [List.map_cons, pyPosArg_consC15b, ok_bind, List.drop_succ_cons, List.drop_zero,
        src_TagList_append hA hE ht hf' hr' hn G s item rest hr f (by omega), embOut, embKidsOutC15b]
      cases (s.append (item :: rest)).result with
      | error e => rfl
      | ok u => rfl)

/-- on a Tag as the constructor leaves it these are `TagM.insert / extend / append` (Model/Children.lean; what
    `C14_tag_delegates` is about) -/
theorem src_Tag_insert_tagMC15b (h : Tag_insertC15b_available = true) (hI : TagList_insert_available = true)
    (ht : tagchilds_to_tagnodes_available = true)
    (hf' : util_flatten_available = true) (hr' : util_flatten_recurse_available = true) (hn : is_tag_node_available = true)
    (G : Globals) (cls : String) (t : TagM) (i : Int) (x : Arg) (hr : argRep x = true) (fuel : Nat) (hf : argFdepth x + 4 < fuel) :
    Tag_insertC15b G fuel (embTagMC15b cls t) (.int i) (embA x) = embTagOutC15b cls (t.insert i x) := by
  exact (src_Tag_insertC15b h hI ht hf' hr' hn G cls _ t.children (fieldGet?_children_embTagMC15b t) i x hr fuel hf).trans (embKidsOut_tagMC15b cls t _)

theorem src_Tag_extend_tagMC15b (h : Tag_extendC15b_available = true) (hE : TagList_extend_available = true)
    (ht : tagchilds_to_tagnodes_available = true)
    (hf' : util_flatten_available = true) (hr' : util_flatten_recurse_available = true) (hn : is_tag_node_available = true)
    (G : Globals) (cls : String) (t : TagM) (x : Arg) (hr : argRep x = true) (fuel : Nat) (hf : iterDepth x + 4 < fuel) :
    Tag_extendC15b G fuel (embTagMC15b cls t) (embA x) = embTagOutC15b cls (t.extend x) := by
  exact (src_Tag_extendC15b h hE ht hf' hr' hn G cls _ t.children (fieldGet?_children_embTagMC15b t) x hr fuel hf).trans (embKidsOut_tagMC15b cls t _)

theorem src_Tag_append_tagMC15b (h : Tag_appendC15b_available = true) (hA : TagList_append_available = true)
    (hE : TagList_extend_available = true) (ht : tagchilds_to_tagnodes_available = true)
    (hf' : util_flatten_available = true) (hr' : util_flatten_recurse_available = true) (hn : is_tag_node_available = true)
    (G : Globals) (cls : String) (t : TagM) (xs : List Arg) (hr : xs.all argRep = true) (fuel : Nat)
    (hf : argsFdepth (Args.ofList xs) + 5 < fuel) :
    Tag_appendC15b G fuel (embTagMC15b cls t) (.tuple (xs.map embA)) = embTagOutC15b cls (t.append xs) := by
  exact (src_Tag_appendC15b h hA hE ht hf' hr' hn G cls _ t.children (fieldGet?_children_embTagMC15b t) xs hr fuel hf).trans (embKidsOut_tagMC15b cls t _)

/-- `consolidate_attrs(*args, **kwargs)` as the source has it = `consolidate`: it raises what building
    `Tag("consolidate_attrs", *args, **kwargs)` raises, and otherwise returns the pair of `dict(tag.attrs)` — the merged
    attributes — and the list of the non-dict arguments, unaltered and in order -/
theorem src_consolidate_attrsC15b (h : consolidate_attrsC15b_available = true) (hT : Tag_initC15b_available = true)
    (hA : TagAttrDict_initC15b_available = true) (h0 : TagAttrDict_update_available = true)
    (h1 : normalize_attr_value_available = true) (h2 : normalize_attr_name_available = true)
    (h3 : html_escape_available = true) (h4 : HTML_add_available = true) (h5 : HTML_radd_available = true)
    (h6 : HTML_as_string_available = true)
    (hi : TagList_init_available = true) (ht' : tagchilds_to_tagnodes_available = true)
    (hf' : util_flatten_available = true) (hr' : util_flatten_recurse_available = true) (hn : is_tag_node_available = true)
    (cfg : Cfg) (hsp : escText cfg [' '] = [' ']) (ht : keysPlain cfg.textTbl = true) (ha : keysPlain cfg.attrTbl = true)
    (args : List (TagArg Arg)) (kw : List (Str × AttrArg))
    (hkw : kwFreeC15b reservedC15b kw = true) (hk : kidsOkC15b (kidsOf args) = true)
    (fuel : Nat) (hf : argsFdepth (Args.ofList (kidsOf args)) + 5 < fuel) :
    consolidate_attrsC15b (globalsOf cfg) fuel (.tuple (args.map embTagArgC15b)) (embArgDict kw)
      = embRes (fun r => PVal.tuple [embAttrs r.1, .list (r.2.map embA)]) (consolidate cfg checkKidsC15b args kw) := by
  first
  | exact absurd h (by decide)
  | skip
  all_goals (
    obtain ⟨f, rfl⟩ : ∃ f, fuel = f + 1 := ⟨fuel - 1, by omega⟩
    rw [consolidate_attrsC15b]
    simp (disch := decide) only [pyIter_tuple, ok_bind, pure_eq_ok, pyKwTake_embC15b _ _ _ hkw, pyKwRest_embC15b _ _ _ hkw]
    -- what follows the constructor call, for a continuation `K` that is determined by the five attributes of the new
    -- instance: the constructor's exception, or `K` of the instance the model describes
    have after : ∀ (nm : Str) (K : PVal → PyM PVal) (R : TagM → PyM PVal),
        (∀ v t, projTagC15b v = embTagMC15b "Tag" t → K v = R t) →
        (Tag_initC15b (globalsOf cfg) f (.obj "Tag" []) (.str nm) (.tuple (args.map embTagArgC15b)) (.bool true) (embArgDict kw)
            >>= K)
          = match tagInitC15b cfg nm (.bool true) args kw with
            | .ok t => R t
            | .error e => .error (embErr e) := by
      intro nm K R hK
      have hinit := src_Tag_initC15b hT hA h0 h1 h2 h3 h4 h5 h6 hi ht' hf' hr' hn cfg hsp ht ha "Tag" nm (.bool true) args kw
        hkw hk f (by omega)
      simp only [WsVC15b.toWs, WsVC15b.emb] at hinit
      cases hm : tagInitC15b cfg nm (.bool true) args kw with
      | error e =>
        rw [hm] at hinit
        rw [proj_inv_errorC15b _ _ hinit]; rfl
      | ok t =>
        rw [hm] at hinit
        obtain ⟨v, hv, hp⟩ := proj_inv_okC15b _ _ hinit
        rw [hv, ok_bind]
        exact hK v t hp
    refine (after _ _ (fun t => .ok (PVal.tuple [embAttrs t.attrs, .list ((kidsOf args).map embA)])) ?K).trans ?_
    case K =>
      intro v t hv
      rw [← pyGetAttr_projC15b v "attrs" (by decide), hv, pyGetAttr_embTagM_attrsC15b]
      simp only [ok_bind, pyDictCopy_embC15b, truthy_bool]
      refine (filter_loop_kC15b (fun v => !isInstance v ["dict"]) _ _ _ ?step _).trans ?_
      case step => intro x _ s; cases isInstance x ["dict"] <;> rfl
      simp only [List.nil_append, filter_kidsC15b args hk]
    rw [consolidate, tagInitSplit_eqC15b cfg _ true]
    cases tagInitC15b cfg _ (WsArg.bool true) args kw <;> rfl)

/-! ### for the tables as they are in the source right now -/

theorem src_Tag_init_nowC15b (h : Tag_initC15b_available = true) (hA : TagAttrDict_initC15b_available = true)
    (h0 : TagAttrDict_update_available = true)
    (h1 : normalize_attr_value_available = true) (h2 : normalize_attr_name_available = true)
    (h3 : html_escape_available = true) (h4 : HTML_add_available = true) (h5 : HTML_radd_available = true)
    (h6 : HTML_as_string_available = true)
    (hi : TagList_init_available = true) (ht' : tagchilds_to_tagnodes_available = true)
    (hf' : util_flatten_available = true) (hr' : util_flatten_recurse_available = true) (hn : is_tag_node_available = true)
    (cls : String) (name : Str) (ws : WsVC15b) (args : List (TagArg Arg)) (kw : List (Str × AttrArg))
    (hkw : kwFreeC15b reservedC15b kw = true) (hk : kidsOkC15b (kidsOf args) = true)
    (fuel : Nat) (hf : argsFdepth (Args.ofList (kidsOf args)) + 4 < fuel) :
    projTagC15b <$> Tag_initC15b (globalsOf cfgNow) fuel (.obj cls []) (.str name) (.tuple (args.map embTagArgC15b)) ws.emb (embArgDict kw)
      = embRes (embTagMC15b cls) (tagInitC15b cfgNow name ws.toWs args kw) :=
  src_Tag_initC15b h hA h0 h1 h2 h3 h4 h5 h6 hi ht' hf' hr' hn cfgNow src_tables_ok.2.2 src_tables_ok.1 src_tables_ok.2.1
    cls name ws args kw hkw hk fuel hf

theorem src_consolidate_attrs_nowC15b (h : consolidate_attrsC15b_available = true) (hT : Tag_initC15b_available = true)
    (hA : TagAttrDict_initC15b_available = true) (h0 : TagAttrDict_update_available = true)
    (h1 : normalize_attr_value_available = true) (h2 : normalize_attr_name_available = true)
    (h3 : html_escape_available = true) (h4 : HTML_add_available = true) (h5 : HTML_radd_available = true)
    (h6 : HTML_as_string_available = true)
    (hi : TagList_init_available = true) (ht' : tagchilds_to_tagnodes_available = true)
    (hf' : util_flatten_available = true) (hr' : util_flatten_recurse_available = true) (hn : is_tag_node_available = true)
    (args : List (TagArg Arg)) (kw : List (Str × AttrArg))
    (hkw : kwFreeC15b reservedC15b kw = true) (hk : kidsOkC15b (kidsOf args) = true)
    (fuel : Nat) (hf : argsFdepth (Args.ofList (kidsOf args)) + 5 < fuel) :
    consolidate_attrsC15b (globalsOf cfgNow) fuel (.tuple (args.map embTagArgC15b)) (embArgDict kw)
      = embRes (fun r => PVal.tuple [embAttrs r.1, .list (r.2.map embA)]) (consolidate cfgNow checkKidsC15b args kw) :=
  src_consolidate_attrsC15b h hT hA h0 h1 h2 h3 h4 h5 h6 hi ht' hf' hr' hn cfgNow src_tables_ok.2.2 src_tables_ok.1
    src_tables_ok.2.1 args kw hkw hk fuel hf

/-! ### the hypotheses are satisfiable by non-trivial values -/

/-- `Tag("div", {"class_": "a", "x": None}, "k", [1.5, None], {"class": HTML("b")}, id=3)`: keywords free of the reserved
    names, children representable and no dict among them -/
example : kwFreeC15b reservedC15b [("id".toList, .num "3".toList)] = true
    ∧ kidsOkC15b (kidsOf [TagArg.dict [("class_".toList, AttrArg.str "a".toList), ("x".toList, .none)],
        .child (Arg.node (.text "k".toList)), .child (.list (.cons (.num .float "1.5".toList) (.cons .none .nil))),
        .dict [("class".toList, .html "b".toList)]]) = true := by decide +kernel

/-- a keyword called `_add_ws` is not an attribute -/
example : kwFreeC15b reservedC15b [("_add_ws".toList, .boolF)] = false := by decide +kernel

end HtmlVerif.SrcTie
