/-
Source tie (DESIGN §14) for dependency URLs and head markup: the Lean functions regenerated from the text of
`HTMLDependency.source_path_map`, `HTMLDependency.as_dict` and `HTMLDependency.as_html_tags` (htmltools/_core.py) compute,
for every dependency, prefix and flag, what the model (Model/DepTags.lean: `sourcePathMap`, `asDict`, `asHtmlTags`) computes.
Obligations of C12 (`C12_url_local`, `C12_url_remote`, `C12_dict_*` are about these model functions) and C11 (`C11_dep_tags`).

What the tie covers and what it takes as given:
* the glue logic — which source kind gives which mapping, `name[-version]`, the treatment of `lib_prefix` (None / "" / text),
  which keys of which items are rewritten and in which order, the loops and the exceptions they let through, the keys of the
  returned dict, the order meta / link / script / head of the tag list;
* `posixpath.join` / `urllib.parse.quote` are the model's own `posixJoin` / `quote` (Py/PrimC12.lean) — their agreement with
  the standard library is checked by C12's correspondence check, not here;
* the run-time facts: `os.path.realpath(subdir)` answers the model's `abs` (recorded in the object, `embDep`), `package_dir(pkg)`
  answers `pdir`, and for a packaged source the model's `abs` is `os.path.join(pdir, subdir)` (hypothesis `hpkg`; the package
  name is not empty — `importlib` raises TypeError for "");
* `deepcopy` is the identity on values (they are immutable here), and the in-place update of the copied items is made
  functional by the translator under a syntactic no-aliasing condition (harness/pytr_c12.py).

No loop body is spelled out: `item_loop` / `comp_loop` (Lemmas/SrcC12.lean) take the body from the regenerated definition by
unification; what is proved about a body is its effect on one pass, for any loop state whose first component is the accumulator.
-/
import HtmlVerif.Generated.Src
import HtmlVerif.Lemmas.SrcC12
import HtmlVerif.Props.SrcRender
import HtmlVerif.Props.SrcAttrs

set_option linter.unusedVariables false
set_option linter.unusedSimpArgs false

namespace HtmlVerif.SrcTie
open HtmlVerif HtmlVerif.Py HtmlVerif.Generated.Src

/-- what the tie assumes of the run time for a packaged source: the package name is not empty and the resolved source
    directory the model carries is `os.path.join(package_dir(pkg), subdir)` -/
def PkgFacts (d : DepInfo) (pdir : Str) : Prop :=
  ∀ pkg dir abs, d.source = .subdir (some pkg) dir abs → pkg ≠ [] ∧ abs = posixJoin pdir dir

theorem src_source_path_map (h : HTMLDependency_source_path_map_available = true) (G : Globals)
    (d : DepInfo) (hh : Bool) (head : Nodes) (pdir : Str) (hpkg : PkgFacts d pdir) (lp : Option Str) (iv : Bool) :
    HTMLDependency_source_path_map G (embDep d hh head pdir) (embOptStr lp) (.bool iv)
      = .ok (embPathMap (sourcePathMap d lp iv)) := by
  first
  | exact absurd h (by decide)
  | skip
  all_goals (
    obtain ⟨g1, g2, g3, -, -, -, -⟩ := getattr_dep d hh head pdir
    unfold HTMLDependency_source_path_map
    simp only [ok_bind, pure_eq_ok, truthy_bool, g1, g2, g3, pyStr_version, pyAddBase_str, pyAdd_str]
    -- what follows the computation of `source` (the `href` entry, the returned dict) is the same for both kinds of
    -- `subdir` source: a function `K` of the source directory
    generalize hK : (fun x : PVal => (if iv = true then _ else _ : PyM PVal)) = K
    have hKv : ∀ x : Str, K (.str x) = .ok (embPathMap ⟨x, withPrefix lp (dirName d iv)⟩) := by
      subst hK
      intro x
      cases iv <;> cases lp with
      | none => simp [embPathMap, withPrefix, dirName, embOptStr, truthy, kSource, dtKHref]
      | some l => cases l <;> simp [embPathMap, withPrefix, dirName, embOptStr, truthy, kSource, dtKHref]
    cases hs : d.source with
    | none => simp [embSource, isNone, sourcePathMap, hs, embPathMap, kSource, dtKHref]
    | href u => simp [embSource, isNone, pyIn, Py.dictGet?, pyGetItem, sourcePathMap, hs, embPathMap, kSource, dtKHref]
    | subdir pkg dir abs =>
      cases pkg with
      | none =>
        simp [embSource, isNone, pyIn, Py.dictGet?, pyGetItem, pyDictGet, sourcePathMap, hs, kSource, dtKHref,
              kSubdir, kPackage, osRealpath_dep, absOf, hKv]
      | some p =>
        obtain ⟨hp, hj⟩ := hpkg p dir abs hs
        simp [embSource, isNone, pyIn, Py.dictGet?, pyGetItem, pyDictGet, sourcePathMap, hs, kSource, dtKHref,
              kSubdir, kPackage, pyPackageDir_dep, hp, hj, hKv])

/-- `as_dict(lib_prefix=lp, include_version=iv)` as the source has it = `asDict`: the stylesheet loop, the script loop (KeyError
    for an item without its path key), the rendering of `head` (RuntimeError for an un-expanded object), the returned keys.
    `fuel`: any recursion budget that covers the nesting depth of `head`. -/
theorem src_as_dict (h : HTMLDependency_as_dict_available = true) (h0 : HTMLDependency_source_path_map_available = true)
    (h1 : Tag_get_html_string_available = true) (h2 : TagList_get_html_string_available = true)
    (hn : normalize_text_available = true) (he : html_escape_available = true) (hs : HTML_as_string_available = true)
    (cfg : Cfg) (ht : keysPlain cfg.textTbl = true) (ha : keysPlain cfg.attrTbl = true)
    (d : DepInfo) (hh : Bool) (head : Nodes) (pdir : Str) (hpkg : PkgFacts d pdir) (lp : Option Str) (iv : Bool)
    (fuel : Nat) (hf : 2 * kidsDepth head + 1 ≤ fuel) :
    HTMLDependency_as_dict (globalsOf cfg) (fuel + 1) (embDep d hh head pdir) (embOptStr lp) (.bool iv)
      = embRes (embDepDict d) (asDict cfg d hh head lp iv) := by
  first
  | exact absurd h (by decide)
  | skip
  all_goals (
    obtain ⟨g1, g2, g3, g4, g5, g6, g7⟩ := getattr_dep d hh head pdir
    have hspm := src_source_path_map h0 (globalsOf cfg) d hh head pdir hpkg lp iv
    have hhref := (getitem_pathMap (sourcePathMap d lp iv)).2
    have hrender := src_render_list h1 h2 hn he hs cfg ht ha head fuel hf 0 eolLF true true
    simp only [Int.natCast_zero, Int.cast_ofNat_Int] at hrender
    rw [HTMLDependency_as_dict]
    simp only [ok_bind, pure_eq_ok, truthy_bool, g1, g2, g4, g5, g6, g7, hspm, lit_href, hhref, pyStr_version, pyDeepcopy_list,
      pyIter_list]
    rw [asDict_seq]
    apply Sim.eq_embRes'
    refine Sim.seq (item_loop embKVs embKVs (sheetStep (sourcePathMap d lp iv).href) d.stylesheet _ _ ?sheets) ?afterSheets
    case sheets =>
      intro s _ acc rest
      simp only [ok_bind, pyGetItem_embKVs, accStep, sheetStep, lit_href, lit_rel, lit_stylesheet]
      cases alookup dtKHref s with
      | none => simp [Sim, embErr]
      | some p =>
        simp only [ok_bind, pyQuote_str, pyPosixJoin_str, pyDictUpdate_embKVs2, pyListAppendC12_list]
        exact Sim.yield_ok _ rfl (by simp)
    case afterSheets =>
      intro st sheets hst
      obtain ⟨st1, st2⟩ := st
      simp only at hst; subst hst
      simp only [ok_bind, pyWithItems_list, pyIter_list]
      refine Sim.seq (item_loop embKVs embKVs (scriptStep (sourcePathMap d lp iv).href) d.script _ _ ?scripts) ?afterScripts
      case scripts =>
        intro s _ acc rest
        simp only [ok_bind, pyGetItem_embKVs, accStep, scriptStep, lit_src]
        cases alookup dtKSrc s with
        | none => simp [Sim, embErr]
        | some p =>
          simp only [ok_bind, pyQuote_str, pyPosixJoin_str, pyDictUpdate_embKVs1, pyListAppendC12_list]
          exact Sim.yield_ok _ rfl (by simp)
      case afterScripts =>
        intro st scripts hst
        obtain ⟨st1, st2⟩ := st
        simp only at hst; subst hst
        simp only [ok_bind, pyWithItems_list]
        cases hh with
        | false =>
          simp [embHead, isNone, Sim, embDepDict, embOptStr, kName, kVersion, kScript, kStylesheet, kMeta, kHead, bind, Except.bind]
        | true =>
          have hc : (Char.ofNat 10) = '\n' := rfl
          have hcls : pyClassOf (embHead true head) = "TagList" := rfl
          have hnn : isNone (embHead true head) = false := rfl
          simp only [hnn, hcls, Bool.false_eq_true, if_false]
          simp only [embHead, if_true, hc] at hrender ⊢
          simp only [eolLF] at hrender
          rw [hrender]
          simp only [renderListChecked, eolLF]
          by_cases hk : head.hasTobjKids = true
          · simp [hk, Sim, embErr, Except.map, bind, Except.bind]
          · simp [hk, Sim, Except.map, embDepDict, embOptStr, kName, kVersion, kScript, kStylesheet, kMeta, kHead, bind, Except.bind])

/-- `Tag(name, **m)` for an item dict `m` — the constructor primitive built on the regenerated `TagAttrDict.update`
    (emitted by harness/pytr_c12.py next to the translation of `as_dict`) — is the model's `mkTag`: TypeError for a key that
    collides with a parameter of `Tag.__init__`, otherwise a childless tag whose attributes are `update`'s result -/
theorem src_mkTagKw (hu : TagAttrDict_update_available = true) (u1 : normalize_attr_value_available = true)
    (u2 : normalize_attr_name_available = true) (he : html_escape_available = true)
    (u4 : HTML_add_available = true) (u5 : HTML_radd_available = true) (hs : HTML_as_string_available = true)
    (cfg : Cfg) (hsp : escText cfg [' '] = [' ']) (ht : keysPlain cfg.textTbl = true) (ha : keysPlain cfg.attrTbl = true)
    (name : Str) (m : KVs) :
    mkTagKw (globalsOf cfg) (.str name) (embKVs m) = embRes embNode (mkTag cfg name m) := by
  have hupd : TagAttrDict_update (globalsOf cfg) (embAttrs []) (.tuple (([] : List (List (Str × AttrArg))).map embArgDict))
      (embArgDict (kwOf m)) = embRes embAttrs (tagInitAttrs cfg [] (kwOf m)) :=
    src_update hu u1 u2 he u4 u5 hs cfg hsp ht ha [] [] (kwOf m)
  rw [embArgDict_kwOf] at hupd
  simp only [embAttrs, List.map_nil] at hupd
  unfold mkTagKw mkTag
  simp only [embKVs]
  rw [reserved_embKVs]
  by_cases hA : ((m.map fun p => (p.1, PVal.str p.2)).any fun kv =>
      decide (kv.1 = ['s', 'e', 'l', 'f']) || decide (kv.1 = ['_', 'n', 'a', 'm', 'e'])) = true
  · simp [hA, embRes, embErr]
  · rcases dictGet_embKVs_str ['_', 'a', 'd', 'd', '_', 'w', 's'] m with ⟨v, hv⟩ | hv
    · simp [hA, hv, embRes, embErr]
    · simp only [hA, hv, Bool.false_eq_true, if_false, Option.isSome_none, Bool.or_false]
      simp only [embKVs, kwOf] at hupd
      rw [hupd]
      generalize tagInitAttrs cfg [] _ = y
      cases y with
      | error e => simp [embRes]
      | ok a => simp [embRes, embNode, embNodes, embAttrs]

/-- `as_html_tags(lib_prefix=lp, include_version=iv)` as the source has it = `asHtmlTags`: the dict of `as_dict`, one
    `Tag("meta" / "link" / "script", **item)` per item in that order (the first failing item decides), then
    `TagList(*metas, *links, *scripts, self.head)`.
    Restrictions (of the two constructor primitives, Py/PrimC12.lean and `mkTagKw`): `Tag.__init__` / `TagList.__init__` are
    not translated; `Tag(name, **kw)` is the childless-tag constructor over the translated `TagAttrDict.update`, `TagList(...)`
    keeps tag nodes, drops None and splices tag lists. -/
theorem src_as_html_tags (h : HTMLDependency_as_html_tags_available = true)
    (hd : HTMLDependency_as_dict_available = true) (h0 : HTMLDependency_source_path_map_available = true)
    (h1 : Tag_get_html_string_available = true) (h2 : TagList_get_html_string_available = true)
    (hn : normalize_text_available = true)
    (hu : TagAttrDict_update_available = true) (u1 : normalize_attr_value_available = true)
    (u2 : normalize_attr_name_available = true) (he : html_escape_available = true)
    (u4 : HTML_add_available = true) (u5 : HTML_radd_available = true) (hs : HTML_as_string_available = true)
    (cfg : Cfg) (hsp : escText cfg [' '] = [' ']) (ht : keysPlain cfg.textTbl = true) (ha : keysPlain cfg.attrTbl = true)
    (d : DepInfo) (hh : Bool) (head : Nodes) (pdir : Str) (hpkg : PkgFacts d pdir) (lp : Option Str) (iv : Bool)
    (fuel : Nat) (hf : 2 * kidsDepth head + 1 ≤ fuel) :
    HTMLDependency_as_html_tags (globalsOf cfg) (fuel + 2) (embDep d hh head pdir) (embOptStr lp) (.bool iv)
      = embRes embTagList (asHtmlTags cfg d hh head lp iv) := by
  first
  | exact absurd h (by decide)
  | skip
  all_goals (
    obtain ⟨-, -, -, -, -, -, g7⟩ := getattr_dep d hh head pdir
    have hdict := src_as_dict hd h0 h1 h2 hn he hs cfg ht ha d hh head pdir hpkg lp iv fuel hf
    have hmk := fun name m => src_mkTagKw hu u1 u2 he u4 u5 hs cfg hsp ht ha name m
    rw [HTMLDependency_as_html_tags]
    simp only [ok_bind, pure_eq_ok, truthy_bool, hdict, g7]
    rw [asHtmlTags_seq]
    cases hdd : asDict cfg d hh head lp iv with
    | error e => rfl
    | ok dd =>
      obtain ⟨k1, k2, k3⟩ := getitem_depDict d dd
      simp only [embRes, ok_bind, ok_bindE, k1, k2, k3, pyIter_list]
      apply Sim.eq_embRes'
      have one : ∀ (name : Str) (m : KVs) (acc : List Node),
          Sim (fun (r : ForInStep (List PVal)) (b' : List Node) => ∃ s', r = .yield s' ∧ s' = b'.map embNode) embErr
            (do
              let t ← mkTagKw (globalsOf cfg) (PVal.str name) (embKVs m)
              Except.ok (ForInStep.yield (acc.map embNode ++ [t])) : PyM (ForInStep (List PVal)))
            (accStep (mkTag cfg name) m acc) := by
        intro name m acc
        rw [hmk, accStep]
        cases mkTag cfg name m with
        | error e => exact rfl
        | ok t => exact ⟨_, rfl, _, rfl, by simp⟩
      refine Sim.seq (comp_loop embKVs embNode (mkTag cfg nMeta) dd.metas _ (fun m _ acc => one _ m acc)) ?_
      intro s1 metas hs1; subst hs1
      refine Sim.seq (comp_loop embKVs embNode (mkTag cfg nLink) dd.stylesheet _ (fun m _ acc => one _ m acc)) ?_
      intro s2 links hs2; subst hs2
      refine Sim.seq (comp_loop embKVs embNode (mkTag cfg nScript) dd.script _ (fun m _ acc => one _ m acc)) ?_
      intro s3 scripts hs3; subst hs3
      simp only [ok_bind, pyIter_list, mkTagList]
      have : tagListItems (metas.map embNode ++ links.map embNode ++ scripts.map embNode ++ [embHead hh head])
          = .ok (embNodes (Nodes.ofList (metas ++ links ++ scripts) ++ (if hh then head else .nil))) := by
        rw [← List.map_append, ← List.map_append, tagListItems_nodes, tagListItems_head, embNodes_append, embNodes_ofList]
        rfl
      rw [this]
      exact Sim.of_eq rfl)

/-! ### for the tables as they are in the source right now -/

theorem src_as_dict_now (h : HTMLDependency_as_dict_available = true) (h0 : HTMLDependency_source_path_map_available = true)
    (h1 : Tag_get_html_string_available = true) (h2 : TagList_get_html_string_available = true)
    (hn : normalize_text_available = true) (he : html_escape_available = true) (hs : HTML_as_string_available = true)
    (d : DepInfo) (hh : Bool) (head : Nodes) (pdir : Str) (hpkg : PkgFacts d pdir) (lp : Option Str) (iv : Bool) :
    HTMLDependency_as_dict (globalsOf cfgNow) (2 * kidsDepth head + 2) (embDep d hh head pdir) (embOptStr lp) (.bool iv)
      = embRes (embDepDict d) (asDict cfgNow d hh head lp iv) :=
  src_as_dict h h0 h1 h2 hn he hs cfgNow src_tables_ok.1 src_tables_ok.2.1 d hh head pdir hpkg lp iv _ (Nat.le_refl _)

theorem src_as_html_tags_now (h : HTMLDependency_as_html_tags_available = true)
    (hd : HTMLDependency_as_dict_available = true) (h0 : HTMLDependency_source_path_map_available = true)
    (h1 : Tag_get_html_string_available = true) (h2 : TagList_get_html_string_available = true)
    (hn : normalize_text_available = true)
    (hu : TagAttrDict_update_available = true) (u1 : normalize_attr_value_available = true)
    (u2 : normalize_attr_name_available = true) (he : html_escape_available = true)
    (u4 : HTML_add_available = true) (u5 : HTML_radd_available = true) (hs : HTML_as_string_available = true)
    (d : DepInfo) (hh : Bool) (head : Nodes) (pdir : Str) (hpkg : PkgFacts d pdir) (lp : Option Str) (iv : Bool) :
    HTMLDependency_as_html_tags (globalsOf cfgNow) (2 * kidsDepth head + 3) (embDep d hh head pdir) (embOptStr lp) (.bool iv)
      = embRes embTagList (asHtmlTags cfgNow d hh head lp iv) :=
  src_as_html_tags h hd h0 h1 h2 hn hu u1 u2 he u4 u5 hs cfgNow src_tables_ok.2.2 src_tables_ok.1 src_tables_ok.2.1
    d hh head pdir hpkg lp iv _ (Nat.le_refl _)

end HtmlVerif.SrcTie
