/-
Source tie (DESIGN §14) for C11 — HTMLDocument builds one head/body and hoists every dependency into head.  The Lean
functions regenerated from the *text* of `HTMLDocument._gen_html_tag_tree`, `_hoist_head_content`, `render`, `__init__`,
`append`, `Tag.render`, `Tag.insert / extend / append`, `TagAttrDict.__init__` (htmltools/_core.py; harness/pytr_c11.py)
compute what the model (Model/Document.lean: `genTree`, `hoist`, `genHtmlTagTree`, `docRender`, `docInit`, `docAppend`)
computes, error for error.

  src_TagAttrDict_initC11                 TagAttrDict(*dicts, **kw)                = attrsUpdate        (all inputs)
  src_Tag_insert/extend/appendC11_partial Tag.insert / extend / append             on already-normalised children
  src_gen_html_tag_treeC11                _gen_html_tag_tree up to the call of _hoist_head_content = genTree   (all contents)
  src_hoist_head_contentC11               _hoist_head_content                      = hoist              (all tag trees)
  src_gen_html_tag_tree_fullC11 / _nowC11 the two composed, callee ties discharged = genHtmlTagTree
  src_Tag_renderC11, src_HTMLDocument_renderC11, …_render_fullC11 / _nowC11        = docRender
  src_HTMLDocument_initC11_partial / appendC11_partial                             = docInit / docAppend on normalised children

Conventions
* Trees are embedded by `embT tv` (Lemmas/SrcC10.lean), the embedding of the `tagify` / `get_dependencies` ties, which
  these functions call; the renderer tie is restated on it in Props/SrcRenderC11.lean.
* The ties of the callees of other areas are *hypotheses* stated on the values in play (`UpdateTieC11` = `src_update`,
  `hT` = `src_tagify_tag`, `hD` = `src_get_dependencies_tag`, …); the `_full` / `_now` corollaries discharge them.
* A call of another big regenerated function in tail position (`_hoist_head_content` at the end of `_gen_html_tag_tree`)
  is abstracted as a continuation `K` with `hK : ∀ v, callee … v … = K v` — the statement is about what is handed to it.
  (Otherwise the kernel has to compare a `match` of the model with the unfolded callee.)
* Every theorem that unfolds a regenerated function takes `<fn>_available = true`; when the function has left the fragment
  the first alternative closes the goal and the rest of the proof (in `all_goals (…)`) does not run.
* What is **not** translated in this area and therefore *assumed* (validated against the interpreter by the `srcc11` op on
  every run, Py/PrimC11.lean): `Tag(…)` is the primitive `mkTagC11` (children must already be normalised; the attributes go
  through the translated `TagAttrDict.__init__` / `update`), `d.as_html_tags(…)` is a parameter (`Globals.asHtmlTagsC11`,
  hypothesis `hA`: it answers what the model's `depTags` says), `copy(x)` is the value itself (Py/PrimC10.lean).
* Guard of the statements about keyword arguments: no key collides with a parameter name of `Tag.__init__`
  (`kwAvoidsC11 reservedKw kw`; the model does not describe the resulting TypeError — harness/props/c11.py does not
  generate such names either).
-/
import HtmlVerif.Generated.Src
import HtmlVerif.Lemmas.SrcC11
import HtmlVerif.Props.SrcAttrs
import HtmlVerif.Props.SrcC09
import HtmlVerif.Props.SrcC10
import HtmlVerif.Props.SrcRenderC11

set_option linter.unusedVariables false
set_option linter.unusedSimpArgs false
set_option linter.tactic.unusedName false

namespace HtmlVerif.SrcTie
open HtmlVerif HtmlVerif.Py HtmlVerif.Generated.Src

/-- `TagAttrDict(*args, **kwargs)` as the source has it (`super().__init__(); self.update(*args, **kwargs)`) = `attrsUpdate`
    on the positional dicts followed by the keyword dict when it is non-empty; a keyword named `self` collides with the
    receiver of `update` (TypeError) -/
theorem src_TagAttrDict_initC11 (h : TagAttrDict_initC11_available = true) (G : Globals) (cfg : Cfg)
    (hU : UpdateTieC11 G cfg) (cur : Attrs) (args : List (List (Str × AttrArg))) (kw : List (Str × AttrArg)) :
    TagAttrDict_initC11 G (embAttrs cur) (.tuple (args.map embArgDict)) (embArgDict kw)
      = if kwAvoidsC11 [kSelfC11] kw then embRes embAttrs (attrsUpdate cfg cur (if kw.isEmpty then args else args ++ [kw]))
        else .error .typeError := by
  first
  | exact absurd h (by decide)
  | unfold TagAttrDict_initC11
    have hd : pyDictInit0C11 (embAttrs cur) = .ok (embAttrs cur) := rfl
    have hs : pyStarArgsC11 (.tuple (args.map embArgDict)) = .ok (.tuple (args.map embArgDict)) := rfl
    have hk := pyKwSplat_embC11 kw [kSelfC11]
    simp only [kSelfC11] at hk ⊢
    simp only [pure_eq_ok, ok_bind, hd, hs, hk]
    by_cases hb : kwAvoidsC11 [['s', 'e', 'l', 'f']] kw = true
    · simp only [hb, if_true, ok_bind, hU cur args kw]
      cases attrsUpdate cfg cur (if kw.isEmpty then args else args ++ [kw]) <;> rfl
    · simp only [hb, Bool.false_eq_true, if_false, error_bind]

theorem tad_init_emptyC11 (hi : TagAttrDict_initC11_available = true) (G : Globals) (cfg : Cfg) (hU : UpdateTieC11 G cfg) :
    TagAttrDict_initC11 G (.dict []) (.tuple []) (.dict []) = .ok (.dict []) := by
  have := src_TagAttrDict_initC11 hi G cfg hU [] [] []
  simpa [embAttrs, embArgDict, kwAvoidsC11, attrsUpdate, accumDicts, dictUpdate, embRes] using this

theorem pyEq_len1C11 (n : Nat) : pyEq (.int (n : Nat)) (.int 1) = .ok (.bool (n == 1)) := by
  simp only [pyEq, pure_eq_ok]
  congr 2
  by_cases h : n = 1
  · subst h; rfl
  · have : ((n : Int) == 1) = false := by simp; omega
    simp [this, h]

theorem src_gen_html_tag_treeC11 (h : HTMLDocument_gen_html_tag_treeC11_available = true)
    (hi : TagAttrDict_initC11_available = true)
    (G : Globals) (cfg : Cfg) (tv : Node → PVal) (hU : UpdateTieC11 G cfg) (fuel : Nat)
    (hT : ∀ t : Node, t.isTag = true → 2 * nodeDepth t ≤ fuel → Tag_tagify G fuel (embT tv t) = .ok (embT tv (tagifyTag t)))
    (content : Nodes) (kw : List (Str × AttrArg)) (hkw : kwAvoidsC11 reservedKw kw = true)
    (hf : 2 * kidsDepth content + 2 ≤ fuel) (lp iv : PVal)
    (K : PVal → PyM PVal) (hK : ∀ v, HTMLDocument_hoist_head_contentC11 G fuel v lp iv = K v) :
    HTMLDocument_gen_html_tag_treeC11 G (fuel + 1) (docObjC11 (embTs tv content) (embArgDict kw)) lp iv
      = match Doc.genTree cfg content kw with
        | .error e => .error (embErr e)
        | .ok (x, _) => K (embT tv x) := by
  first
  | exact absurd h (by decide)
  | skip
  all_goals (
    rw [HTMLDocument_gen_html_tag_treeC11]
    -- `jp body`: the code after the `if` that sets `body`, which both of its arms continue with
    extract_lets +lift jp
    have hself : kwAvoidsC11 [kSelfC11] kw = true :=
      kwAvoids_monoC11 reservedKw [kSelfC11] kw (by intro k hk; simp at hk; subst hk; decide) hkw
    have hsp1 := pyKwSplat_embC11 kw [kSelfC11]
    have hsp3 := pyKwSplat_embC11 kw reservedKw
    have hinit := src_TagAttrDict_initC11 hi G cfg hU [] [] kw
    have hempty := tad_init_emptyC11 hi G cfg hU
    simp only [hself, hkw, if_true] at hsp1 hsp3 hinit
    simp only [kSelfC11, reservedKw, embAttrs, List.map_nil] at hsp1 hsp3 hinit
    have tail : ∀ (n : Str) (w : Bool) (a : Attrs) (kids : Nodes),
        Tag_tagify G fuel (embT tv (.tag n w a kids)) = .ok (embT tv (tagifyTag (.tag n w a kids))) →
        jp () (embT tv (.tag n w a kids)) = match Doc.wrapHtml cfg (tagifyTag (.tag n w a kids)) kw with
          | .error e => .error (embErr e)
          | .ok x => K (embT tv x) := by
      intro n w a kids hb
      have hcls : pyClassOf (embT tv (.tag n w a kids)) = "Tag" := rfl
      simp only [jp, hK, pure_eq_ok, hcls, hb, ok_bind, getattr_kwC11, hsp3, hinit, hempty, mkTag_nilC11, Doc.wrapHtml, tagInitAttrs]
      cases attrsUpdate cfg [] (if kw.isEmpty = true then [] else [] ++ [kw]) with
      | error e => rfl
      | ok a =>
        simp only [embRes, ok_bind]
        rw [mkTag_pairC11 _ _ _ _ _ (plain_tagObjC11 _ _ _ _) (plainC11_embT tv _)]
        simp only [ok_bind, bind_ok_self]
        rfl
    clear_value jp
    -- the fragment case: `body = Tag("body", content)`
    have hfrag := tail _ _ _ _ (hT (.tag Doc.nBody true [] content) rfl (by simp only [nodeDepth]; omega))
    simp only [hK, pure_eq_ok, ok_bind, getattr_contentC11, getattr_kwC11, pyLenU_tagListOf, len_embTsC11, pyEq_len1C11, pyAnd_okC11, truthy_bool,
      hempty, mkTag_bodyC11 tv content, hfrag]
    have hwrap : ∀ (b : Node) (c : Nodes), (match Doc.wrapHtml cfg b kw with
          | .error e => (.error (embErr e) : PyM PVal)
          | .ok x => K (embT tv x))
        = match (match Doc.wrapHtml cfg b kw with
                | .error e => (.error e : Except Err (Node × Nodes))
                | .ok h => .ok (h, c)) with
          | .error e => .error (embErr e)
          | .ok (x, _) => K (embT tv x) := by
      intro b c; cases Doc.wrapHtml cfg b kw <;> rfl
    cases content with
    | nil => exact hwrap _ _
    | cons hd tl =>
      cases tl with
      | cons h2 t2 =>
        have hl : ((t2.length + 1 + 1) == 1) = false := by simp
        simp only [Nodes.length, hl, Bool.false_eq_true, if_false, ok_bind, truthy_bool, Doc.genTree]
        exact hwrap _ _
      | nil =>
        simp only [embTs, Nodes.length, pyGetItemU_headC11, isTag_embT, Nat.zero_add, beq_self_eq_true, if_true, ok_bind]
        by_cases htag : hd.isTag = true
        · cases hd <;> simp [Node.isTag] at htag
          rename_i n w a kids
          have hsole := hT (.tag n w a kids) rfl (by simp only [kidsDepth] at hf; omega)
          have hcls : pyClassOf (embT tv (.tag n w a kids)) = "Tag" := rfl
          have hname : pyGetAttr (embT tv (.tag n w a kids)) "name" = .ok (.str n) := getattr_nameC11 _ _ _ _
          simp only [Node.isTag, truthy_bool, if_true, hname, ok_bind, pyEq_strC11, hcls, pyAnd_okC11]
          by_cases hn : n = Doc.nHtml
          · have hn' : (n == ['h', 't', 'm', 'l']) = true := by subst hn; rfl
            simp only [hn', if_true, hsole, ok_bind]
            simp only [tagifyTag, embT_tagC11, getattr_attrsC11, recv_dictC11, hsp1, ok_bind]
            have hu := hU a [] kw
            simp only [List.map_nil, List.nil_append] at hu
            simp only [hu, Doc.genTree, hn, if_true, Doc.updateKw]
            cases attrsUpdate cfg a (if kw.isEmpty = true then [] else [kw]) with
            | error e => rfl
            | ok a' => simp only [embRes, ok_bind, setattr_attrsC11, bind_ok_self, tagifyTag, embT_tagC11]
          · have hn' : (n == ['h', 't', 'm', 'l']) = false := by
              simpa [Doc.nHtml] using hn
            simp only [hn', Bool.false_eq_true, if_false]
            by_cases hbd : n = Doc.nBody
            · subst hbd
              have hbd' : (Doc.nBody == ['b', 'o', 'd', 'y']) = true := rfl
              simp only [hbd', if_true, tail _ _ _ _ hsole, Doc.genTree, hn, if_false]
              exact hwrap _ _
            · have hbd' : (n == ['b', 'o', 'd', 'y']) = false := by
                simpa [Doc.nBody] using hbd
              simp only [hbd', Bool.false_eq_true, if_false, Doc.genTree, hn, hbd]
              exact hwrap _ _
        · have htag' : hd.isTag = false := by simpa using htag
          simp only [htag', pyAnd_okC11, truthy_bool, Bool.false_eq_true, if_false, ok_bind]
          have hg : Doc.genTree cfg (.cons hd .nil) kw
              = match Doc.wrapHtml cfg (tagifyTag (.tag Doc.nBody true [] (.cons hd .nil))) kw with
                | .error e => .error e
                | .ok x => .ok (x, .cons hd .nil) := by
            cases hd <;> first | rfl | simp [Node.isTag] at htag'
          rw [hg]
          exact hwrap _ _)
/-! ### `Tag.insert`, `Tag.extend`, `Tag.append`

Stated at the level of Python values (`tagObjC11`: any instance with the four fields of a Tag), for arguments that are
**already normalised** children — a plain tag node or a TagList of such (`kidItemsC11`).  `_partial`: what is missing is the
normalisation of other children (None is dropped, numbers become strings, nested lists / tuples are flattened, anything
else is a TypeError), which is the subject of `src_TagList_insert / _extend / _append` (Props/SrcC14.lean) on that area's
own embedding of the arguments. -/

theorem src_Tag_insertC11_partial (h : Tag_insertC11_available = true) (hc : CalleesC11) (G : Globals) (fuel : Nat)
    (n a w : PVal) (ds : List PVal) (i : Int) (x : PVal) (hx : (kidItemsC11 x).isSome = true) :
    Tag_insertC11 G (fuel + 6) (tagObjC11 n a ds w) (.int i) x
      = .ok (tagObjC11 n a (ds.take (HtmlVerif.clampIdx ds.length i) ++ kidFlatC11 x ++ ds.drop (HtmlVerif.clampIdx ds.length i)) w) := by
  first
  | exact absurd h (by decide)
  | rw [Tag_insertC11]
    simp only [pure_eq_ok, ok_bind, getattr_childrenC11, recv_taglistC11,
      TagList_insert_kidC11 hc.insert hc.norm G fuel ds i x hx, setattr_childrenC11]

theorem src_Tag_extendC11_partial (h : Tag_extendC11_available = true) (hc : CalleesC11) (G : Globals) (fuel : Nat)
    (n a w : PVal) (ds : List PVal) (X : PVal) (xs : List PVal) (hX : pyIter X = .ok xs) (hs : isInstance X ["str"] = false)
    (hp : ∀ x ∈ xs, (kidItemsC11 x).isSome = true) :
    Tag_extendC11 G (fuel + 6) (tagObjC11 n a ds w) X = .ok (tagObjC11 n a (ds ++ xs.flatMap kidFlatC11) w) := by
  first
  | exact absurd h (by decide)
  | rw [Tag_extendC11]
    simp only [pure_eq_ok, ok_bind, getattr_childrenC11, recv_taglistC11,
      TagList_extend_kidsC11 hc.extend hc.norm G fuel ds X xs hX hs hp, setattr_childrenC11]

theorem src_Tag_appendC11_partial (h : Tag_appendC11_available = true) (hc : CalleesC11) (G : Globals) (fuel : Nat)
    (n a w : PVal) (ds : List PVal) (args : List PVal) (hp : ∀ x ∈ args, (kidItemsC11 x).isSome = true) :
    Tag_appendC11 G (fuel + 7) (tagObjC11 n a ds w) (.tuple args)
      = if args.isEmpty then .error .typeError else .ok (tagObjC11 n a (ds ++ args.flatMap kidFlatC11) w) := by
  first
  | exact absurd h (by decide)
  | rw [Tag_appendC11]
    cases args with
    | nil => simp [getattr_childrenC11, recv_taglistC11, pyStarSplit1C11]
    | cons x rest =>
      have hsp : pyStarSplit1C11 (.tuple (x :: rest)) = .ok (x, .tuple rest) := rfl
      simp only [pure_eq_ok, ok_bind, getattr_childrenC11, recv_taglistC11, hsp,
        TagList_append_kidsC11 hc.append hc.extend hc.norm G fuel ds x rest hp,
        setattr_childrenC11, List.isEmpty_cons, Bool.false_eq_true, if_false]

theorem tad_init_oneC11 (hi : TagAttrDict_initC11_available = true) (G : Globals) (cfg : Cfg) (hU : UpdateTieC11 G cfg)
    (k v : Str) (hk : normAttrName k = k) (hs : (k == kSelfC11) = false) :
    TagAttrDict_initC11 G (.dict []) (.tuple []) (.dict [(k, .str v)]) = .ok (.dict [(k, .str v)]) := by
  have := src_TagAttrDict_initC11 hi G cfg hU [] [] [(k, .str v)]
  have hav : kwAvoidsC11 [kSelfC11] [(k, AttrArg.str v)] = true := by
    simp only [kwAvoidsC11, List.any_cons, List.any_nil, List.contains_cons, List.contains_nil, hs]; rfl
  simp only [hav, if_true, embAttrs, embArgDict, List.map_cons, List.map_nil, embArg] at this
  rw [this]
  simp [attrsUpdate, accumDicts, accumPairs, normAttrValue, hk, alookup, HtmlVerif.dictSet, dictUpdate, embRes, embAttrs]

/-- `HTMLDocument._hoist_head_content(x, lib_prefix, include_version)` as the source has it = `hoist`, for every tag `x`:
    ValueError unless `x` is an `<html>` tag; the first direct `<head>` child (a new one inserted at index 0 if there is
    none) is copied, `<meta charset="utf-8">` goes to its front, the listing script (iff there are dependencies) and the
    tags of every resolved dependency, in order, to its end; the first failing `as_html_tags` propagates.
    `hD`: the tie of `Tag.get_dependencies` on `x` (Props/SrcC10.lean).  `hA`: `as_html_tags` (not translated) answers, for
    each resolved dependency, what the model's `depTags` says. -/
theorem src_hoist_head_contentC11 (h : HTMLDocument_hoist_head_contentC11_available = true)
    (hins : Tag_insertC11_available = true) (hext : Tag_extendC11_available = true) (happ : Tag_appendC11_available = true)
    (hi : TagAttrDict_initC11_available = true) (hc : CalleesC11)
    (G : Globals) (cfg : Cfg) (tv : Node → PVal) (hU : UpdateTieC11 G cfg) (fuel : Nat) (hfu : 7 ≤ fuel)
    (n : Str) (w : Bool) (a : Attrs) (kids : Nodes) (lp : Option Str) (iv : Bool)
    (hD : Tag_get_dependencies G fuel (embT tv (.tag n w a kids)) (.bool true)
            = .ok (.list (((Node.tag n w a kids).getDeps true).map (embT tv))))
    (hA : ∀ d ∈ (Node.tag n w a kids).getDeps true, G.asHtmlTagsC11 (embT tv d) (embLpC11 lp) (.bool iv)
            = embRes (fun ns => tagListOf (embTs tv ns)) (Doc.depTags cfg lp iv d)) :
    HTMLDocument_hoist_head_contentC11 G (fuel + 1) (embT tv (.tag n w a kids)) (embLpC11 lp) (.bool iv)
      = embRes (embT tv) (Doc.hoist cfg (.tag n w a kids) lp iv) := by
  first
  | exact absurd h (by decide)
  | skip
  all_goals (
    rw [HTMLDocument_hoist_head_contentC11]
    -- `rest res head_index`: the code after the `if` that inserts a missing `<head>`, which both of its arms continue with
    extract_lets +lift hi0 _ acc rest hi1 start
    have hname : pyGetAttr (embT tv (.tag n w a kids)) "name" = .ok (.str n) := getattr_nameC11 _ _ _ _
    have hcls : pyClassOf (embT tv (.tag n w a kids)) = "Tag" := rfl
    have hdep := getDeps_isDepC11 n w a kids
    generalize hds : (Node.tag n w a kids).getDeps true = ds at hD hA hdep
    by_cases hn : n = Doc.nHtml
    · subst hn
      obtain ⟨f7, rfl⟩ : ∃ f7, fuel = f7 + 7 := ⟨fuel - 7, by omega⟩
      have hIns := fun n a ds w x hx => src_Tag_insertC11_partial hins hc G (f7 + 1) n a w ds 0 x hx
      have hApp := fun n a ds w args hp => src_Tag_appendC11_partial happ hc G f7 n a w ds args hp
      have hExt := fun n a ds w X xs hX hs hp => src_Tag_extendC11_partial hext hc G (f7 + 1) n a w ds X xs hX hs hp
      simp only [show f7 + 1 + 6 = f7 + 7 from rfl] at hIns hExt
      have hmeta := tad_init_oneC11 hi G cfg hU kCharsetC11 vUtf8C11 (by rfl) (by rfl)
      have htype := tad_init_oneC11 hi G cfg hU kTypeC11 vDepsTypeC11 (by rfl) (by rfl)
      have hempty := tad_init_emptyC11 hi G cfg hU
      simp only [kCharsetC11, vUtf8C11, kTypeC11, vDepsTypeC11] at hmeta htype
      have hApp1 : ∀ (n a : PVal) (ds : List PVal) (w tn ta : PVal) (tk : List PVal) (tw : PVal),
          Tag_appendC11 G (f7 + 7) (tagObjC11 n a ds w) (.tuple [tagObjC11 tn ta tk tw])
            = .ok (tagObjC11 n a (ds ++ [tagObjC11 tn ta tk tw]) w) := by
        intro n a ds w tn ta tk tw
        rw [hApp n a ds w [tagObjC11 tn ta tk tw]
          (by intro x hx; simp at hx; subst hx; exact kidItems_tagObj_someC11 _ _ _ _)]
        simp [kidFlat_tagObjC11]
      -- what `rest` does when `res.children[head_index]` is the tag `hd`: `<meta charset>` goes to the front of a copy of
      -- `hd`, the listing script (if any) and the tags of the dependencies to its end
      have tail : ∀ (P Q : List PVal) (hn ha : PVal) (hks : List PVal) (hw : PVal),
          rest () (tagObjC11 (.str Doc.nHtml) (embAttrs a) (P ++ tagObjC11 hn ha hks hw :: Q) (.bool w)) (.int (P.length : Nat))
            = match ds.mapM (Doc.depTags cfg lp iv) with
              | .error e => .error (embErr e)
              | .ok vs => .ok (tagObjC11 (.str Doc.nHtml) (embAttrs a) (P ++ tagObjC11 hn ha
                  (embT tv Doc.metaCharset :: (hks ++ embTs tv (Doc.listing ds ++ concatNodes vs))) hw :: Q) (.bool w)) := by
        intro P Q hn ha hks hw
        simp only [rest, acc, pure_eq_ok', hcls, hD, pyGetItemU_at, pyCopy_tagObjC11, pySetItemU_at, setattr_childrenC11,
          getattr_childrenC11, recv_tagC11, hmeta, mkTag_nilC11,
          ok_bind', hIns _ _ _ _ _ (kidItems_tagObj_someC11 _ _ _ _), clampIdx_zeroC11, List.take_zero, List.drop_zero,
          kidFlat_tagObjC11, List.nil_append, List.singleton_append, pyLenU_listC11, pyGt_intC11, truthy_bool',
          List.length_map, pyIter_listC11]
        by_cases hde : ds = []
        · subst hde
          -- (`if len(deps) > 0:` or `if deps:`)
          simp only [List.length_nil, List.map_nil, Int.natCast_zero, gt_iff_lt, Int.lt_irrefl, decide_false, truthy_list_nilC11,
            Bool.false_eq_true, if_false]
          simp only [List.forIn_nil, List.mapM_nil, pure, Except.pure, hExt _ _ _ _ _ [] (pyIter_listC11 _)
            (by simp [isInstance, builtinClasses]) (by simp), List.flatMap_nil, List.append_nil, ok_bind',
            Doc.listing, List.isEmpty_nil, if_true, concatNodes, embTs, embT_metaCharsetC11, pySetItemU_at, setattr_childrenC11,
            getattr_childrenC11, recv_tagC11]
          simp [embTs_appendC11, embTs]
        · have hpos := len_posC11 ds hde
          have hne : ds.isEmpty = false := by cases ds <;> first | rfl | exact absurd rfl hde
          have htr : truthy (PVal.list (ds.map (embT tv))) = true := by cases ds <;> first | rfl | exact absurd rfl hde
          simp only [hpos, htr, if_true]
          refine comp_loop_k (fun s => s) (embT tv) (fun d => PVal.str (depListingC11 d)) ds _ ?stl _ _ [] ?kl
          case stl =>
            intro d hd s
            have hdd := hdep d hd
            cases d <;> simp [Node.isDep] at hdd
            simp [embT, embDepFields, pyGetAttr, fieldGet?, pyStrC11, pyAdd_str, depListingC11, Node.depName,
              depVersionC11, List.append_assoc]
          case kl =>
            intro s hs
            have hmm : s = (ds.map depListingC11).map PVal.str := by simpa [Function.comp_def] using hs
            simp only [hmm, pyJoin_strs, ok_bind', htype, mkTag_oneC11 _ _ _ _ (plain_strC11 _), hApp1, pySetItemU_at,
              setattr_childrenC11, getattr_childrenC11, recv_tagC11]
            refine (comp_loop_mapM_k (embT tv) (Doc.depTags cfg lp iv) (fun ns => tagListOf (embTs tv ns)) embErr ds _ ?st _ []).trans ?fin
            case st =>
              intro d hd s
              rw [pyAsHtmlTags_depC11 G tv d (hdep d hd), hA d hd]
              cases Doc.depTags cfg lp iv d <;> rfl
            case fin =>
              cases List.mapM (Doc.depTags cfg lp iv) ds with
              | error e => rfl
              | ok vs =>
                have hvs := flat_taglistsC11 (embTs tv) (plain_embTsC11 tv) rfl (embTs_appendC11 tv) vs
                simp only [List.nil_append, recv_tagC11, ok_bind', hExt _ _ _ _ _ _ (pyIter_listC11 _)
                  (by simp [isInstance, builtinClasses]) hvs.1, hvs.2,
                  Doc.listing, hne, Bool.false_eq_true, if_false, ← listingText_eqC11 ds hdep, embT_metaCharsetC11,
                  pySetItemU_at, setattr_childrenC11, getattr_childrenC11]
                simp [embTs_appendC11, embTs, embT_listingNodeC11]
      clear_value rest
      have hcp : pyCopy (embT tv (.tag Doc.nHtml w a kids)) = .ok (embT tv (.tag Doc.nHtml w a kids)) := by
        simp [embT, pyCopy, fieldGet?]
      have hn' : (Doc.nHtml == ['h', 't', 'm', 'l']) = true := rfl
      simp only [pure_eq_ok, ok_bind, hname, pyEq_strC11, truthy_bool, hn', Bool.not_true, Bool.false_eq_true, if_false, start,
        hi0, hi1, hcp]
      rw [embT_tagC11]
      simp only [getattr_childrenC11, ok_bind', pyEnumerate_tlC11, pyIter_listC11, embTs_toList]
      refine head_loop_kC11 tv kids.toList 0 _ _ ?step _ _ ?k
      case step =>
        intro i c hcm s hs
        obtain ⟨s1, s2, s3⟩ := s
        simp only at hs; subst hs
        simp only [pyUnpack2_tuple, ok_bind, isTag_embT, pyAnd_okC11, truthy_bool]
        cases c with
        | tag nm ws at' kk =>
          have hnm : pyGetAttr (embT tv (.tag nm ws at' kk)) "name" = .ok (.str nm) := getattr_nameC11 _ _ _ _
          simp only [Node.isTag, if_true, hnm, ok_bind, pyEq_strC11, truthy_bool, Doc.isTagNamed, Doc.nHead]
          by_cases hh : (nm == ['h', 'e', 'a', 'd']) = true
          · simp only [hh, if_true]; exact ⟨_, rfl, rfl⟩
          · simp only [hh, Bool.false_eq_true, if_false]; exact ⟨_, rfl, rfl⟩
        | _ => exact ⟨_, rfl, rfl⟩
      case k =>
        intro s hs
        simp only [Nat.zero_add, ← headIndex_findIdxC11] at hs
        rw [hoist_modelC11, hds]
        cases hhi : Doc.headIndex kids with
        | none =>
          rw [hhi] at hs
          simp only [hs, isNone, if_true, hempty, mkTag_nilC11, recv_tagC11, ok_bind',
            hIns _ _ _ _ _ (kidItems_tagObj_someC11 _ _ _ _), clampIdx_zeroC11, List.take_zero, List.drop_zero,
            kidFlat_tagObjC11, List.nil_append, List.singleton_append, Option.getD_none]
          refine (tail [] _ _ _ _ _).trans ?_
          cases List.mapM (Doc.depTags cfg lp iv) ds with
          | error e => rfl
          | ok vs =>
            simp [embRes, Doc.modifyAt, Doc.hoistHead, Doc.emptyHead, embT_tagC11, embTs, embTs_toList, Doc.nHead, embAttrs,
              Nodes.toList]
        | some i =>
          rw [hhi] at hs
          obtain ⟨pre, hd, post, hsplit, hlen, hhd, _⟩ := headIndex_someC11 kids i hhi
          cases hd <;> simp [Doc.isTagNamed] at hhd
          rename_i hdn hw ha hk
          simp only [hs, isNone, Bool.false_eq_true, if_false, hsplit, List.map_append, List.map_cons, embT_tagC11,
            Option.getD_some]
          have := tail (pre.map (embT tv)) (post.map (embT tv)) (.str hdn) (embAttrs ha) (embTs tv hk) (.bool hw)
          rw [List.length_map, hlen] at this
          refine this.trans ?_
          cases List.mapM (Doc.depTags cfg lp iv) ds with
          | error e => rfl
          | ok vs =>
            simp [embRes, ← hlen, embT_tagC11, embTs_toList, modifyAt_splitC11 _ kids pre _ post hsplit, Doc.hoistHead]
    · have hn' : (n == ['h', 't', 'm', 'l']) = false := by simpa [Doc.nHtml] using hn
      have hm : Doc.hoist cfg (.tag n w a kids) lp iv = .error .valueError := by simp [Doc.hoist, hn]
      simp only [pure_eq_ok, ok_bind, hname, pyEq_strC11, truthy_bool, hn', Bool.not_false, if_true, hm]
      rfl)

/-- `TagAttrDict.update` does not consult `asHtmlTagsC11`: its tie (`src_update`) holds for the globals of this file -/
theorem updateTie_ofC11 (h : TagAttrDict_update_available = true) (h1 : normalize_attr_value_available = true)
    (h2 : normalize_attr_name_available = true) (h3 : html_escape_available = true)
    (h4 : HTML_add_available = true) (h5 : HTML_radd_available = true) (h6 : HTML_as_string_available = true)
    (cfg : Cfg) (hsp : escText cfg [' '] = [' ']) (ht : keysPlain cfg.textTbl = true) (ha : keysPlain cfg.attrTbl = true)
    (f : PVal → PVal → PVal → PyM PVal) : UpdateTieC11 (globalsC11 cfg f) cfg := by
  intro cur args kw
  have e : TagAttrDict_update (globalsC11 cfg f) (embAttrs cur) (.tuple (args.map embArgDict)) (embArgDict kw)
      = TagAttrDict_update (globalsOf cfg) (embAttrs cur) (.tuple (args.map embArgDict)) (embArgDict kw) := rfl
  rw [e]
  exact src_update h h1 h2 h3 h4 h5 h6 cfg hsp ht ha cur args kw

theorem genTree_isTagC11 (cfg : Cfg) (content : Nodes) (kw : List (Str × AttrArg)) (x : Node) (after : Nodes)
    (h : Doc.genTree cfg content kw = .ok (x, after)) : x.isTag = true := by
  have wrap : ∀ (b : Node) (c : Nodes), (match Doc.wrapHtml cfg b kw with
      | .error e => (.error e : Except Err (Node × Nodes)) | .ok hh => .ok (hh, c)) = .ok (x, after) → x.isTag = true := by
    intro b c hw
    simp only [Doc.wrapHtml] at hw
    cases hti : tagInitAttrs cfg [] kw with
    | error e => rw [hti] at hw; simp at hw
    | ok a => rw [hti] at hw; simp at hw; rw [← hw.1]; rfl
  unfold Doc.genTree at h
  split at h
  · split at h
    · rename_i n w a kids hn
      cases hu : Doc.updateKw cfg a kw with
      | error e => simp [hu] at h
      | ok a' => simp [hu] at h; rw [← h.1]; rfl
    · exact wrap _ _ h
  · exact wrap _ _ h

/-- `HTMLDocument._gen_html_tag_tree(lib_prefix, include_version)` as the source has it, **with** the call of
    `_hoist_head_content` = `genHtmlTagTree` (`genTree`, then `hoist`), for every stored content, keyword arguments that do
    not collide with parameter names, `lib_prefix` None or a string, any fuel that covers the nesting of the content and of
    the tree handed to `_hoist_head_content`.  `hA`: what the untranslated `as_html_tags` answers (a parameter of `G`) is what
    the model's `depTags` says, for the resolved dependencies of that tree. -/
theorem src_gen_html_tag_tree_fullC11 (h : HTMLDocument_gen_html_tag_treeC11_available = true)
    (hh : HTMLDocument_hoist_head_contentC11_available = true)
    (hins : Tag_insertC11_available = true) (hext : Tag_extendC11_available = true) (happ : Tag_appendC11_available = true)
    (hi : TagAttrDict_initC11_available = true) (hc : CalleesC11)
    (ht1 : Tag_tagify_available = true) (ht2 : TagList_tagify_available = true)
    (hd1 : Tag_get_dependencies_available = true) (hd2 : TagList_get_dependencies_available = true)
    (hr : resolve_dependencies_available = true)
    (G : Globals) (cfg : Cfg) (hU : UpdateTieC11 G cfg) (tv : Node → PVal) (htv : TvOk tv)
    (content : Nodes) (kw : List (Str × AttrArg)) (hkw : kwAvoidsC11 reservedKw kw = true) (lp : Option Str) (iv : Bool)
    (fuel : Nat) (hf : 2 * kidsDepth content + 4 ≤ fuel)
    (hfx : ∀ x after, Doc.genTree cfg content kw = .ok (x, after) → 2 * nodeDepth x + 9 ≤ fuel)
    (hA : ∀ x after, Doc.genTree cfg content kw = .ok (x, after) → ∀ d ∈ x.getDeps true,
      G.asHtmlTagsC11 (embT tv d) (embLpC11 lp) (.bool iv)
        = embRes (fun ns => tagListOf (embTs tv ns)) (Doc.depTags cfg lp iv d)) :
    HTMLDocument_gen_html_tag_treeC11 G fuel (docObjC11 (embTs tv content) (embArgDict kw)) (embLpC11 lp) (.bool iv)
      = embRes (fun p => embT tv p.1) (Doc.genHtmlTagTree cfg content kw lp iv) := by
  obtain ⟨f, rfl⟩ : ∃ f, fuel = f + 2 := ⟨fuel - 2, by omega⟩
  have hT : ∀ t : Node, t.isTag = true → 2 * nodeDepth t ≤ f + 1 →
      Tag_tagify G (f + 1) (embT tv t) = .ok (embT tv (tagifyTag t)) :=
    fun t htag hle => src_tagify_tag ht1 ht2 G tv htv t htag (f + 1) hle
  rw [src_gen_html_tag_treeC11 h hi G cfg tv hU (f + 1) hT content kw hkw (by omega) (embLpC11 lp) (.bool iv)
    (fun v => HTMLDocument_hoist_head_contentC11 G (f + 1) v (embLpC11 lp) (.bool iv)) (fun _ => rfl)]
  unfold Doc.genHtmlTagTree
  cases hg : Doc.genTree cfg content kw with
  | error e => rfl
  | ok p =>
    obtain ⟨x, after⟩ := p
    have htag := genTree_isTagC11 cfg content kw x after hg
    cases x <;> simp [Node.isTag] at htag
    rename_i n w a kids
    have hfx' := hfx _ _ hg
    have hD := src_get_dependencies_tag hd1 hd2 hr G tv (.tag n w a kids) rfl f (by omega) true
    have := src_hoist_head_contentC11 hh hins hext happ hi hc G cfg tv hU f (by omega) n w a kids lp iv hD (hA _ _ hg)
    simp only [this]
    cases Doc.hoist cfg (.tag n w a kids) lp iv <;> rfl

/-- the same for the regenerated tables (`cfgNow`, `src_tables_ok`: Props/SrcEscape.lean), the
    objects' `tagify()` answering what the model says (`tvSpec`), and `as_html_tags` answering `f` -/
theorem src_gen_html_tag_tree_nowC11 (h : HTMLDocument_gen_html_tag_treeC11_available = true)
    (hh : HTMLDocument_hoist_head_contentC11_available = true)
    (hins : Tag_insertC11_available = true) (hext : Tag_extendC11_available = true) (happ : Tag_appendC11_available = true)
    (hi : TagAttrDict_initC11_available = true) (hc : CalleesC11)
    (ht1 : Tag_tagify_available = true) (ht2 : TagList_tagify_available = true)
    (hd1 : Tag_get_dependencies_available = true) (hd2 : TagList_get_dependencies_available = true)
    (hr : resolve_dependencies_available = true)
    (hu : TagAttrDict_update_available = true) (hu1 : normalize_attr_value_available = true)
    (hu2 : normalize_attr_name_available = true) (hu3 : html_escape_available = true)
    (hu4 : HTML_add_available = true) (hu5 : HTML_radd_available = true) (hu6 : HTML_as_string_available = true)
    (f : PVal → PVal → PVal → PyM PVal)
    (content : Nodes) (kw : List (Str × AttrArg)) (hkw : kwAvoidsC11 reservedKw kw = true) (lp : Option Str) (iv : Bool)
    (fuel : Nat) (hf : 2 * kidsDepth content + 4 ≤ fuel)
    (hfx : ∀ x after, Doc.genTree cfgNow content kw = .ok (x, after) → 2 * nodeDepth x + 9 ≤ fuel)
    (hA : ∀ x after, Doc.genTree cfgNow content kw = .ok (x, after) → ∀ d ∈ x.getDeps true,
      f (embT tvSpec d) (embLpC11 lp) (.bool iv)
        = embRes (fun ns => tagListOf (embTs tvSpec ns)) (Doc.depTags cfgNow lp iv d)) :
    HTMLDocument_gen_html_tag_treeC11 (globalsC11 cfgNow f) fuel (docObjC11 (embTs tvSpec content) (embArgDict kw))
        (embLpC11 lp) (.bool iv)
      = embRes (fun p => embT tvSpec p.1) (Doc.genHtmlTagTree cfgNow content kw lp iv) :=
  src_gen_html_tag_tree_fullC11 h hh hins hext happ hi hc ht1 ht2 hd1 hd2 hr (globalsC11 cfgNow f) cfgNow
    (updateTie_ofC11 hu hu1 hu2 hu3 hu4 hu5 hu6 cfgNow src_tables_ok.2.2 src_tables_ok.1 src_tables_ok.2.1 f)
    tvSpec tvSpec_ok content kw hkw lp iv fuel hf hfx hA

def kDepsC11 : Str := ['d', 'e', 'p', 'e', 'n', 'd', 'e', 'n', 'c', 'i', 'e', 's']
def kHtmlC11 : Str := ['h', 't', 'm', 'l']

/-- the dict `render()` returns -/
def renderedObjC11 (deps : List PVal) (html : Str) : PVal :=
  .dict [(kDepsC11, .list deps), (kHtmlC11, .str html)]

/-- `Tag.render()` as the source has it: `cp = self.tagify()`, `cp.get_dependencies()`, `cp.get_html_string()`; the ties of the
    three callees on this tree are hypotheses (`src_tagify_tag`, `src_get_dependencies_tag`, `src_render_tagC11`) -/
theorem src_Tag_renderC11 (h : Tag_renderC11_available = true) (G : Globals) (cfg : Cfg) (tv : Node → PVal) (fuel : Nat)
    (t : Node) (htag : t.isTag = true)
    (hT : Tag_tagify G fuel (embT tv t) = .ok (embT tv (tagifyTag t)))
    (hD : Tag_get_dependencies G fuel (embT tv (tagifyTag t)) (.bool true)
            = .ok (.list (((tagifyTag t).getDeps true).map (embT tv))))
    (hR : Tag_get_html_string G fuel (embT tv (tagifyTag t)) (.int 0) (.str ['\n'])
            = embRes PVal.str (renderTagChecked cfg (tagifyTag t) 0 ['\n'])) :
    Tag_renderC11 G (fuel + 1) (embT tv t)
      = match renderTagChecked cfg (tagifyTag t) 0 ['\n'] with
        | .error e => .error (embErr e)
        | .ok s => .ok (renderedObjC11 (((tagifyTag t).getDeps true).map (embT tv)) s) := by
  first
  | exact absurd h (by decide)
  | skip
  all_goals (
    rw [Tag_renderC11]
    have hc1 := classOf_embT_tagC11 tv t htag
    have htag' : (tagifyTag t).isTag = true := by cases t <;> simp [Node.isTag] at htag; rfl
    have hc2 := classOf_embT_tagC11 tv (tagifyTag t) htag'
    simp only [pure_eq_ok, ok_bind, hc1, hT, hc2, hD, hR]
    cases renderTagChecked cfg (tagifyTag t) 0 ['\n'] <;> rfl)

/-- `HTMLDocument.render(lib_prefix=…, include_version=…)` as the source has it = `docRender`: the tree of
    `_gen_html_tag_tree`, rendered by `Tag.render`, with `"<!DOCTYPE html>\n"` put before the markup in the returned dict.
    `hG`: the tie of `_gen_html_tag_tree` on this document (`src_gen_html_tag_tree_fullC11`); `hTR`: the tie of `Tag.render`
    on the tree it returns (`src_Tag_renderC11`). -/
theorem src_HTMLDocument_renderC11 (h : HTMLDocument_renderC11_available = true) (G : Globals) (cfg : Cfg) (tv : Node → PVal)
    (fuel : Nat) (doc lpv ivv : PVal) (content : Nodes) (kw : List (Str × AttrArg)) (lp : Option Str) (iv : Bool)
    (hG : HTMLDocument_gen_html_tag_treeC11 G fuel doc lpv ivv
            = embRes (fun p => embT tv p.1) (Doc.genHtmlTagTree cfg content kw lp iv))
    (hTR : ∀ t after, Doc.genHtmlTagTree cfg content kw lp iv = .ok (t, after) →
      t.isTag = true ∧ Tag_renderC11 G fuel (embT tv t)
        = match renderTagChecked cfg (tagifyTag t) 0 ['\n'] with
          | .error e => .error (embErr e)
          | .ok s => .ok (renderedObjC11 (((tagifyTag t).getDeps true).map (embT tv)) s)) :
    HTMLDocument_renderC11 G (fuel + 1) doc lpv ivv
      = match Doc.docRender cfg content kw lp iv with
        | .error e => .error (embErr e)
        | .ok r => .ok (renderedObjC11 (r.deps.map (embT tv)) r.html) := by
  first
  | exact absurd h (by decide)
  | skip
  all_goals (
    rw [HTMLDocument_renderC11]
    simp only [pure_eq_ok, ok_bind, hG, Doc.docRender]
    cases hg : Doc.genHtmlTagTree cfg content kw lp iv with
    | error e => rfl
    | ok p =>
      obtain ⟨t, after⟩ := p
      obtain ⟨htag, hr⟩ := hTR t after hg
      have hcls := classOf_embT_tagC11 tv t htag
      simp only [embRes, ok_bind, hcls, hr]
      cases renderTagChecked cfg (tagifyTag t) 0 ['\n'] with
      | error e => rfl
      | ok s => rfl)

/-- `HTMLDocument(*args, **kwargs)` = `docInit`: `_content` is the TagList of the arguments, `_html_attr_args` the keyword dict.
    `_partial`: for arguments that are already normalised children (see `src_Tag_insertC11_partial`). -/
theorem src_HTMLDocument_initC11_partial (h : HTMLDocument_initC11_available = true) (hti : TagList_init_available = true)
    (hc : CalleesC11) (G : Globals) (fuel : Nat) (args : List PVal) (kw : PVal)
    (hp : ∀ x ∈ args, (kidItemsC11 x).isSome = true) :
    HTMLDocument_initC11 G (fuel + 6) (.obj "HTMLDocument" []) (.tuple args) kw
      = .ok (docObjC11 (args.flatMap kidFlatC11) kw) := by
  first
  | exact absurd h (by decide)
  | rw [HTMLDocument_initC11]
    simp only [pure_eq_ok, pyIter_tuple, ok_bind,
      TagList_init_kidsC11 hti hc.norm G fuel args hp]
    simp [pySetAttr, fieldSet, docObjC11]

/-- `doc.append(*args)` = `docAppend` (`self._content.append(*args)`; no argument at all is a TypeError).  `_partial`: as above. -/
theorem src_HTMLDocument_appendC11_partial (h : HTMLDocument_appendC11_available = true) (hc : CalleesC11) (G : Globals)
    (fuel : Nat) (content : List PVal) (kw : PVal) (args : List PVal) (hp : ∀ x ∈ args, (kidItemsC11 x).isSome = true) :
    HTMLDocument_appendC11 G (fuel + 7) (docObjC11 content kw) (.tuple args)
      = if args.isEmpty then .error .typeError else .ok (docObjC11 (content ++ args.flatMap kidFlatC11) kw) := by
  first
  | exact absurd h (by decide)
  | rw [HTMLDocument_appendC11]
    cases args with
    | nil => simp [getattr_contentC11, recv_taglistC11, pyStarSplit1C11]
    | cons x rest =>
      have hsp : pyStarSplit1C11 (.tuple (x :: rest)) = .ok (x, .tuple rest) := rfl
      simp only [pure_eq_ok, ok_bind, getattr_contentC11, recv_taglistC11, hsp,
        TagList_append_kidsC11 hc.append hc.extend hc.norm G fuel content x rest hp,
        List.isEmpty_cons, Bool.false_eq_true, if_false]
      simp [pySetAttr, fieldSet, docObjC11]

theorem hoist_isTagC11 (cfg : Cfg) (x : Node) (lp : Option Str) (iv : Bool) (t : Node)
    (h : Doc.hoist cfg x lp iv = .ok t) : t.isTag = true := by
  cases x with
  | tag n w a kids =>
    simp only [Doc.hoist] at h
    split at h
    · simp at h
    · split at h
      · simp at h
      · simp at h; rw [← h]; rfl
  | _ => simp [Doc.hoist] at h

theorem genHtmlTagTree_isTagC11 (cfg : Cfg) (content : Nodes) (kw : List (Str × AttrArg)) (lp : Option Str) (iv : Bool)
    (t : Node) (after : Nodes) (h : Doc.genHtmlTagTree cfg content kw lp iv = .ok (t, after)) : t.isTag = true := by
  unfold Doc.genHtmlTagTree at h
  cases hg : Doc.genTree cfg content kw with
  | error e => simp [hg] at h
  | ok p =>
    cases hh : Doc.hoist cfg p.1 lp iv with
    | error e => simp [hg, hh] at h
    | ok t' =>
      simp [hg, hh] at h
      exact h.1 ▸ hoist_isTagC11 cfg p.1 lp iv t' hh

/-- `HTMLDocument.render` with every hypothesis discharged from the ties of the functions it reaches: for every stored content,
    keyword arguments that do not collide with parameter names, `lib_prefix` None or a string, any sufficient fuel, the answers
    `af` of the untranslated `as_html_tags` agreeing with the model's `depTags` on the resolved dependencies of the tree. -/
theorem src_HTMLDocument_render_fullC11 (h : HTMLDocument_renderC11_available = true) (htr : Tag_renderC11_available = true)
    (hg : HTMLDocument_gen_html_tag_treeC11_available = true) (hh : HTMLDocument_hoist_head_contentC11_available = true)
    (hins : Tag_insertC11_available = true) (hext : Tag_extendC11_available = true) (happ : Tag_appendC11_available = true)
    (hi : TagAttrDict_initC11_available = true) (hc : CalleesC11)
    (ht1 : Tag_tagify_available = true) (ht2 : TagList_tagify_available = true)
    (hd1 : Tag_get_dependencies_available = true) (hd2 : TagList_get_dependencies_available = true)
    (hr : resolve_dependencies_available = true)
    (hu : TagAttrDict_update_available = true) (hu1 : normalize_attr_value_available = true)
    (hu2 : normalize_attr_name_available = true) (hu3 : html_escape_available = true)
    (hu4 : HTML_add_available = true) (hu5 : HTML_radd_available = true) (hu6 : HTML_as_string_available = true)
    (hs1 : Tag_get_html_string_available = true) (hs2 : TagList_get_html_string_available = true)
    (hnt : normalize_text_available = true)
    (cfg : Cfg) (hsp : escText cfg [' '] = [' ']) (hkt : keysPlain cfg.textTbl = true) (hka : keysPlain cfg.attrTbl = true)
    (af : PVal → PVal → PVal → PyM PVal) (tv : Node → PVal) (htv : TvOk tv)
    (content : Nodes) (kw : List (Str × AttrArg)) (hkw : kwAvoidsC11 reservedKw kw = true) (lp : Option Str) (iv : Bool)
    (fuel : Nat) (hf : 2 * kidsDepth content + 4 ≤ fuel)
    (hfx : ∀ x after, Doc.genTree cfg content kw = .ok (x, after) → 2 * nodeDepth x + 9 ≤ fuel)
    (hfr : ∀ t after, Doc.genHtmlTagTree cfg content kw lp iv = .ok (t, after) →
      2 * nodeDepth t + 1 ≤ fuel ∧ 2 * nodeDepth (tagifyTag t) + 1 ≤ fuel)
    (hA : ∀ x after, Doc.genTree cfg content kw = .ok (x, after) → ∀ d ∈ x.getDeps true,
      af (embT tv d) (embLpC11 lp) (.bool iv) = embRes (fun ns => tagListOf (embTs tv ns)) (Doc.depTags cfg lp iv d)) :
    HTMLDocument_renderC11 (globalsC11 cfg af) (fuel + 1) (docObjC11 (embTs tv content) (embArgDict kw)) (embLpC11 lp) (.bool iv)
      = match Doc.docRender cfg content kw lp iv with
        | .error e => .error (embErr e)
        | .ok r => .ok (renderedObjC11 (r.deps.map (embT tv)) r.html) := by
  have hU := updateTie_ofC11 hu hu1 hu2 hu3 hu4 hu5 hu6 cfg hsp hkt hka af
  have hG := src_gen_html_tag_tree_fullC11 hg hh hins hext happ hi hc ht1 ht2 hd1 hd2 hr (globalsC11 cfg af) cfg hU tv htv
    content kw hkw lp iv fuel hf hfx hA
  refine src_HTMLDocument_renderC11 h (globalsC11 cfg af) cfg tv fuel _ _ _ content kw lp iv hG ?_
  intro t after hgt
  have htag := genHtmlTagTree_isTagC11 cfg content kw lp iv t after hgt
  obtain ⟨hf1, hf2⟩ := hfr t after hgt
  obtain ⟨f, rfl⟩ : ∃ f, fuel = f + 1 := ⟨fuel - 1, by omega⟩
  have htag' : (tagifyTag t).isTag = true := by cases t <;> simp [Node.isTag] at htag; rfl
  refine ⟨htag, src_Tag_renderC11 htr (globalsC11 cfg af) cfg tv f t htag
    (src_tagify_tag ht1 ht2 _ tv htv t htag f (by omega))
    (src_get_dependencies_tag hd1 hd2 hr _ tv (tagifyTag t) htag' f (by omega) true) ?_⟩
  have hren := src_render_tagC11 hs1 hs2 hnt hu3 hu6 cfg af tv hkt hka (tagifyTag t) htag' f (by omega) 0 ['\n']
  rw [show ((0 : Nat) : Int) = 0 from rfl] at hren
  rw [hren]
  unfold renderTagChecked
  cases (tagifyTag t).hasTobj <;> rfl
/-- the same for the regenerated tables (`cfgNow`), `tagify()` of foreign objects answering what the model says -/
theorem src_HTMLDocument_render_nowC11 (h : HTMLDocument_renderC11_available = true) (htr : Tag_renderC11_available = true)
    (hg : HTMLDocument_gen_html_tag_treeC11_available = true) (hh : HTMLDocument_hoist_head_contentC11_available = true)
    (hins : Tag_insertC11_available = true) (hext : Tag_extendC11_available = true) (happ : Tag_appendC11_available = true)
    (hi : TagAttrDict_initC11_available = true) (hc : CalleesC11)
    (ht1 : Tag_tagify_available = true) (ht2 : TagList_tagify_available = true)
    (hd1 : Tag_get_dependencies_available = true) (hd2 : TagList_get_dependencies_available = true)
    (hr : resolve_dependencies_available = true)
    (hu : TagAttrDict_update_available = true) (hu1 : normalize_attr_value_available = true)
    (hu2 : normalize_attr_name_available = true) (hu3 : html_escape_available = true)
    (hu4 : HTML_add_available = true) (hu5 : HTML_radd_available = true) (hu6 : HTML_as_string_available = true)
    (hs1 : Tag_get_html_string_available = true) (hs2 : TagList_get_html_string_available = true)
    (hnt : normalize_text_available = true)
    (af : PVal → PVal → PVal → PyM PVal)
    (content : Nodes) (kw : List (Str × AttrArg)) (hkw : kwAvoidsC11 reservedKw kw = true) (lp : Option Str) (iv : Bool)
    (fuel : Nat) (hf : 2 * kidsDepth content + 4 ≤ fuel)
    (hfx : ∀ x after, Doc.genTree cfgNow content kw = .ok (x, after) → 2 * nodeDepth x + 9 ≤ fuel)
    (hfr : ∀ t after, Doc.genHtmlTagTree cfgNow content kw lp iv = .ok (t, after) →
      2 * nodeDepth t + 1 ≤ fuel ∧ 2 * nodeDepth (tagifyTag t) + 1 ≤ fuel)
    (hA : ∀ x after, Doc.genTree cfgNow content kw = .ok (x, after) → ∀ d ∈ x.getDeps true,
      af (embT tvSpec d) (embLpC11 lp) (.bool iv)
        = embRes (fun ns => tagListOf (embTs tvSpec ns)) (Doc.depTags cfgNow lp iv d)) :
    HTMLDocument_renderC11 (globalsC11 cfgNow af) (fuel + 1) (docObjC11 (embTs tvSpec content) (embArgDict kw))
        (embLpC11 lp) (.bool iv)
      = match Doc.docRender cfgNow content kw lp iv with
        | .error e => .error (embErr e)
        | .ok r => .ok (renderedObjC11 (r.deps.map (embT tvSpec)) r.html) :=
  src_HTMLDocument_render_fullC11 h htr hg hh hins hext happ hi hc ht1 ht2 hd1 hd2 hr hu hu1 hu2 hu3 hu4 hu5 hu6 hs1 hs2 hnt
    cfgNow src_tables_ok.2.2 src_tables_ok.1 src_tables_ok.2.1 af tvSpec tvSpec_ok content kw hkw lp iv fuel hf hfx hfr hA

/-- the guard on the keyword arguments is satisfiable by a non-trivial instance, and excludes the parameter names -/
example : kwAvoidsC11 reservedKw [("lang".toList, .str "en".toList), ("class_".toList, .html "a".toList)] = true := by decide
example : kwAvoidsC11 reservedKw [("_add_ws".toList, .boolF)] = false := by decide

end HtmlVerif.SrcTie
