/-
C03 — Attribute values are inert, single-line, and decode to the original.
(The merge clause — several values for one name, including HTML() ones — is in `C03_merge*` below and
relies on `mergeVal` of Model/Attrs.lean.)
-/
import HtmlVerif.Lemmas.Refs
import HtmlVerif.Lemmas.Decode
import HtmlVerif.Lemmas.Leaves
import HtmlVerif.Lemmas.AttrMerge

namespace HtmlVerif.C03
open HtmlVerif

def cfg : Cfg :=
  { void := Generated.voidNames, noesc := Generated.noescNames,
    textTbl := Generated.textTbl, attrTbl := Generated.attrTbl }

theorem C03_attrTbl_ok : TblOk Generated.attrTbl = true := attrTbl_ok

/-- `html_escape(s, attr=True)` as written is the seven-character map of the statement -/
theorem C03_esc_attr_as_written (s : Str) : htmlEscapeT Generated.attrTbl s = s.flatMap escAttrChar :=
  escapeAttr_eq s

/-- every character other than & < > " ' CR LF is unchanged -/
theorem C03_esc_attr_rest (c : Char)
    (h : c ≠ '&' ∧ c ≠ '<' ∧ c ≠ '>' ∧ c ≠ '"' ∧ c ≠ '\'' ∧ c ≠ '\r' ∧ c ≠ '\n') : escAttrChar c = [c] := by
  obtain ⟨h1, h2, h3, h4, h5, h6, h7⟩ := h
  simp [escAttrChar, h1, h2, h3, h4, h5, h6, h7]

/-- what is written between the quotes for a plain value is that map -/
theorem C03_emit_plain (s : Str) : emitAttrVal cfg (.plain s) = s.flatMap escAttrChar := escapeAttr_eq s

/-- what is written between the quotes for a plain value decodes to exactly the stored value -/
theorem C03_decode (s : Str) : decodeCharRefs (emitAttrVal cfg (.plain s)) = s := by
  rw [C03_emit_plain]; exact decode_escAttr s

/-- it can never terminate the value (`"`), add an attribute or close the tag (`"`, `'`, `<`, `>`), or break
    the opening tag across lines (CR, LF) -/
theorem C03_inert (s : Str) (d : Char)
    (hd : d = '<' ∨ d = '>' ∨ d = '"' ∨ d = '\'' ∨ d = '\r' ∨ d = '\n') :
    d ∉ emitAttrVal cfg (.plain s) := by
  rw [C03_emit_plain]; exact escAttr_inert s d hd

/-- nor forge a character reference: every `&` written begins one of the seven references -/
theorem C03_amps (s : Str) : ampsOk attrRefs (emitAttrVal cfg (.plain s)) = true := by
  rw [C03_emit_plain]; exact escAttr_ampsOk s

/-- the attribute writer: one ` name="value"` per stored attribute, in stored order, value through `emitAttrVal` -/
theorem C03_writer (cfg : Cfg) (as : Attrs) :
    renderAttrs cfg as = as.flatMap fun kv => ' ' :: kv.1 ++ '=' :: '"' :: emitAttrVal cfg kv.2 ++ ['"'] := by
  induction as with
  | nil => rfl
  | cons kv r ih => obtain ⟨k, v⟩ := kv; simp [renderAttrs, ih]

/-- value normalisation: True ↦ empty value, None/False ↦ attribute omitted, numbers ↦ their text, str/HTML kept -/
theorem C03_norm :
    normAttrValue .boolT = .ok (some (.plain [])) ∧ normAttrValue .none = .ok none ∧
    normAttrValue .boolF = .ok none ∧ (∀ t, normAttrValue (.num t) = .ok (some (.plain t))) ∧
    (∀ s, normAttrValue (.str s) = .ok (some (.plain s))) ∧ (∀ s, normAttrValue (.html s) = .ok (some (.html s))) ∧
    normAttrValue .bad = .error .typeError := by
  simp [normAttrValue]

/-! ### every tag, in every position, writes its attributes through that writer -/

def Piece.opn? : Piece → Option (Str × Attrs)
  | .opn n _ a _ => some (n, a)
  | _ => none

mutual
  /-- (name, attributes) of every tag the renderer reaches, document order -/
  def opens : Node → List (Str × Attrs)
    | .tag name _ attrs kids => (name, attrs) :: opensKids kids
    | _ => []
  def opensKids : Nodes → List (Str × Attrs)
    | .nil => []
    | .cons h t => opens h ++ opensKids t
end

theorem C03_opn_realize (cfg : Cfg) (n : Str) (w : Bool) (a : Attrs) (sc : Bool) :
    (Piece.opn n w a sc).realize cfg = '<' :: n ++ renderAttrs cfg a ++ (if sc then ['/', '>'] else ['>']) := rfl

end HtmlVerif.C03

namespace HtmlVerif.C03
open HtmlVerif

@[simp] theorem opn?_opn (n : Str) (w : Bool) (a : Attrs) (sc : Bool) : Piece.opn? (.opn n w a sc) = some (n, a) := rfl
@[simp] theorem opn?_cls (n : Str) (w : Bool) : Piece.opn? (.cls n w) = none := rfl
@[simp] theorem opn?_ws (s : Str) : Piece.opn? (.ws s) = none := rfl
@[simp] theorem opn?_txt (s : Str) : Piece.opn? (.txt s) = none := rfl
@[simp] theorem opn?_raw (s : Str) : Piece.opn? (.raw s) = none := rfl
mutual
  /-- every attribute position: each tag the renderer reaches — at any depth, on every path — writes exactly
      one opening-tag piece carrying its own stored attributes, in document order; by `C03_opn_realize` and
      `C03_writer` that piece is `<name` + one ` k="emit v"` per attribute + `>` -/
  theorem C03_every_tag (cfg : Cfg) (n : Node) (i : Nat) (e : Str) :
      (n.pieces cfg i e).filterMap Piece.opn? = opens n := by
    cases n with
    | tag name ws attrs kids =>
      obtain ⟨sc, w, h⟩ := filterMap_pieces_tag Piece.opn? (fun _ => rfl) cfg name ws attrs kids i e
      rw [h, C03_every_tag_kids]
      simp [opens, List.filterMap_cons, apply_ite (List.filterMap Piece.opn?)]
    | _ => rfl
  theorem C03_every_tag_kids (cfg : Cfg) (ks : Nodes) (i : Nat) (e : Str) (first prevWs esc : Bool) :
      (ks.piecesKids cfg i e first prevWs esc).filterMap Piece.opn? = opensKids ks := by
    cases ks with
    | nil => rfl
    | cons h t =>
      obtain ⟨i', e', f', w', hc⟩ :=
        filterMap_piecesKids_cons Piece.opn? (fun _ => rfl) cfg h t i e first prevWs esc
      rw [hc, C03_every_tag_kids cfg t, opensKids]
      congr 1
      cases h with
      | tag n w a k => exact C03_every_tag cfg (.tag n w a k) i' e'
      | text s => cases esc <;> rfl
      | _ => rfl
end

end HtmlVerif.C03

namespace HtmlVerif.C03
open HtmlVerif

/-- all values given for one name in one call, merged left to right as `update` does -/
def mergeAll (cfg : Cfg) (v : AttrVal) (vs : List AttrVal) : AttrVal := vs.foldl (mergeVal cfg) v

/-- several values for one name — any mix of plain and HTML() — are written as the operands' own emissions
    joined by single spaces: each plain operand through the seven-character map, HTML() operands verbatim -/
theorem C03_merge (cfg : Cfg) (hsp : htmlEscapeT cfg.attrTbl [' '] = [' ']) (v : AttrVal) (vs : List AttrVal) :
    emitAttrVal cfg (mergeAll cfg v vs) = joinStr [' '] ((v :: vs).map (emitAttrVal cfg)) := by
  have h := emit_joinVals cfg (escDistrib_of_space cfg hsp) v vs
  rwa [funext (emitOperand_eq cfg)] at h

/-- the side condition holds for the table in the source -/
theorem C03_space_not_key : htmlEscapeT Generated.attrTbl [' '] = [' '] := by decide +kernel

theorem not_mem_joinStr {c : Char} {sep : Str} {l : List Str} (hs : c ∉ sep) (hl : ∀ x ∈ l, c ∉ x) :
    c ∉ joinStr sep l := by
  induction l with
  | nil => simp [joinStr]
  | cons x xs ih =>
    cases xs with
    | nil => simpa [joinStr] using hl
    | cons y ys =>
      simp only [joinStr, List.mem_append, not_or]
      exact ⟨⟨hl x (by simp), hs⟩, ih fun z hz => hl z (by simp [hz])⟩

/-- … so for the real tables a merged value whose operands are all plain can never terminate the attribute
    either (HTML() operands are written verbatim, so nothing is claimed for them) -/
theorem C03_merge_inert (v : AttrVal) (vs : List AttrVal) (hplain : ∀ x ∈ v :: vs, ∃ s, x = .plain s) :
    '"' ∉ emitAttrVal cfg (mergeAll cfg v vs) := by
  rw [C03_merge cfg C03_space_not_key]
  refine not_mem_joinStr (by decide) fun x hx => ?_
  obtain ⟨w, hw, rfl⟩ := List.mem_map.1 hx
  obtain ⟨s, rfl⟩ := hplain w hw
  exact C03_inert s '"' (by simp)

example : mergeAll cfg (.plain ['a', '"']) [.html ['x']] = .html ['a', '&', 'q', 'u', 'o', 't', ';', ' ', 'x'] := by
  decide +kernel

end HtmlVerif.C03

namespace HtmlVerif.C03
open HtmlVerif

/-- the statement in its own words for a plain attribute value: each of & < > " ' CR LF appears as a character
    reference that decodes to it, every other character unchanged (the predicate evaluated on the real output) -/
theorem C03_statement (s : Str) : validEscape attrSpecials s (emitAttrVal cfg (.plain s)) = true := by
  rw [C03_emit_plain]; exact validEscape_attr s

end HtmlVerif.C03
