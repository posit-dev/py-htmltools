/-
C11 / C13 — what `HTMLTextDocument.render()` inserts at the placeholder is what `HTMLDocument` appends to `<head>`.

`Props/C13.lean` proves `C13_same_as_document_partial` relative to the one fact about the document model it
needs (`hoisted = headNodes asTags`).  Here that fact is proved for the document model of `Model/Document.lean`
(`hoist` appends `listing deps ++ depTagsAll deps` to the head: `Lemmas/Document.lean: hoist_eq`), with
`asTags` instantiated by the `as_html_tags` model of `Model/DepTags.lean`, which gives the full statement.

A dependency recovered from serialised JSON (`SDep`: the record and its head as text) is the dependency node
whose head is `TagList(HTML(head))` (`HTMLDependency.__init__`, _core.py:1645-1651).
-/
import HtmlVerif.Lemmas.DocumentText
import HtmlVerif.Props.C13

namespace HtmlVerif.C11
open HtmlVerif HtmlVerif.Doc

/-- **`HTMLTextDocument.render()` inserts exactly what `HTMLDocument` hoists** (`C13_same_as_document_partial` with
    its hypothesis discharged):
    for an `<html>` tag `x` whose resolved dependencies are the text document's, `_hoist_head_content(x)` completes
    the head with `extra`, and the text document replaces the first placeholder by the rendering of the same `extra` -/
theorem C11_same_as_text_document (cfg : Cfg) (lp : Option Str) (iv : Bool) (html ph : Str) (deps : List SDep)
    (w : Bool) (a : Attrs) (ks : Nodes) (hdeps : resolve ks.collect = deps.map sdepNode) (t : Node)
    (ht : hoist cfg (.tag nHtml w a ks) lp iv = .ok t) :
    ∃ extra, t = .tag nHtml w a (withHead extra ks) ∧
      textDocRender cfg (sdepTags cfg lp iv) html deps (some ph)
        = .ok (replaceFirst ph (renderList cfg extra 0 ['\n'] true true) html) := by
  rw [hoist_eq, hdeps] at ht
  cases hok : depTagsAll cfg lp iv (deps.map sdepNode) <;> rw [hok] at ht <;> cases ht
  refine ⟨_, rfl, ?_⟩
  -- the fact `C13_same_as_document_partial` is relative to: what was appended is `headNodes` of the same list
  rw [listing_sdep, ← depTagsAll_sdep hok]
  exact C13.C13_same_as_document_partial cfg _ _ (fun _ => rfl) html ph deps

def tdCfg0 : Cfg := { void := [nMeta], noesc := [nScript], textTbl := [], attrTbl := [] }

def tdSdep0 : SDep :=
  { info := { name := ['n'], version := ['1'], vrank := 0, source := .none,
              script := [[(['s', 'r', 'c'], ['s', '.', 'j', 's'])]], stylesheet := [], metas := [], allFiles := false },
    head := some ['<', 'x', '>'] }

/-- non-vacuity: one recovered dependency with a head and a script under an `<html>` tag -/
example :
    (match hoist tdCfg0 (.tag nHtml true [] (.cons (sdepNode tdSdep0) .nil)) none true with
      | .ok _ => true
      | .error _ => false) = true ∧
    resolve (Nodes.cons (sdepNode tdSdep0) .nil).collect = [tdSdep0].map sdepNode :=
  ⟨by decide +kernel, rfl⟩

end HtmlVerif.C11
