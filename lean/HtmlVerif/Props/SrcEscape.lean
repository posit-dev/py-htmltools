/-
Source tie (DESIGN §14) for the escaping functions: the Lean functions that `harness/pytranslate.py` regenerates
from the *text* of `html_escape`, `_normalize_text`, `HTML.as_string`, `HTML.__add__`, `HTML.__radd__`
(Generated/Src.lean) compute, for every input, what the hand-written model computes.
Obligations of C02, C03 and C04.

Every theorem takes `<fn>_available = true`: when the translator cannot express a function any more (a refactoring
left the fragment) the flag is `false`, the theorem is vacuous and proved by `absurd`, and the evidence records
that the tie is unavailable.  When the flag is `true` the proof is about the regenerated definition.
-/
import HtmlVerif.Generated.Src
import HtmlVerif.Generated.Tables
import HtmlVerif.Lemmas.PyLoop
import HtmlVerif.Lemmas.SrcTie
import HtmlVerif.Model.Html

namespace HtmlVerif.SrcTie
open HtmlVerif HtmlVerif.Py HtmlVerif.Generated.Src

/-- `src_html_escape` below, for any module constants `G` whose two escape tables are those of `cfg` -/
theorem src_html_escape_of (h : html_escape_available = true) (G : Globals) (cfg : Cfg)
    (hT : G.HTML_ESCAPE_TABLE = embTbl cfg.textTbl) (hA : G.HTML_ATTRS_ESCAPE_TABLE = embTbl cfg.attrTbl)
    (ht : keysPlain cfg.textTbl = true) (ha : keysPlain cfg.attrTbl = true) (s : Str) (attr : Bool) :
    html_escape G (.str s) (.bool attr) = .ok (.str (htmlEscapeT (if attr then cfg.attrTbl else cfg.textTbl) s)) := by
  first
  | exact absurd h (by decide)
  | skip
  all_goals (
    -- everything after the choice of the table, for any table, whatever the loop body is and whatever else the loop
    -- state carries besides `text` (its first component)
    have key : ∀ (ρ : Type) (r0 : ρ) (t : List (Char × Str)), keysPlain t = true →
        ∀ body : PVal → PVal × ρ → PyM (ForInStep (PVal × ρ)),
        (∀ (c : Char) (r x : Str) (rest : ρ), ∃ rest', body (.tuple [.str [c], .str r]) (.str x, rest)
            = .ok (.yield (.str (replaceChar c r x), rest'))) →
        (do
          let j ← pyJoin (PVal.str ['|']) (embTbl t)
          let r ← reSearch j (PVal.str s)
          if (!truthy r) = true then Except.ok (PVal.str s)
          else do
            let items ← pyItems (embTbl t)
            let l ← pyIter items
            let st ← forIn l (PVal.str s, r0) body
            Except.ok st.1 : PyM PVal) = .ok (.str (htmlEscapeT t s)) := by
      intro ρ r0 t hk body hb
      simp only [pyJoin_tbl, reSearch_tbl t hk, ok_bind, truthy_bool]
      by_cases he : t = []
      · subst he; simp [embTbl, htmlEscapeT, needsEscape]
      · simp only [he, if_false]
        by_cases hn : needsEscape t s = true
        · simp only [hn, Bool.not_true, Bool.false_eq_true, if_false, embTbl, pyItems_dict, ok_bind, pyIter_list, List.map_map]
          have sim := forIn_sim (fun (st : PVal × ρ) (b : Str) => st.1 = .str b) embErr
            ((fun kv : Str × PVal => PVal.tuple [PVal.str kv.1, kv.2]) ∘ fun kv : Char × Str => ([kv.1], PVal.str kv.2)) t body
            (fun kv b => (.ok (replaceChar kv.1 kv.2 b) : Except Err Str)) (PVal.str s, r0) s rfl
            (by
              intro kv _ st b hR
              obtain ⟨s1, s2⟩ := st
              simp only at hR; subst hR
              obtain ⟨rest', hr⟩ := hb kv.1 kv.2 b s2
              exact Sim.yield_ok _ hr rfl)
          rw [seqReplace_foldlM] at sim
          obtain ⟨st, hst, hR⟩ := sim
          rw [hst]
          simp [hR, htmlEscapeT, hn]
        · simp at hn
          simp [hn, htmlEscapeT]
    unfold html_escape
    simp only [ok_bind, pure_eq_ok, truthy_bool]
    cases attr
    · simp only [Bool.false_eq_true, if_false, hT]
      exact key _ _ cfg.textTbl ht _ (by intro c r x rest; obtain ⟨k, v⟩ := rest; exact ⟨_, by simp; rfl⟩)
    · simp only [if_true, hA]
      exact key _ _ cfg.attrTbl ha _ (by intro c r x rest; obtain ⟨k, v⟩ := rest; exact ⟨_, by simp; rfl⟩))

/-- `keysPlain`: every key of the table is a single character without a meaning in a regular expression -/
theorem src_html_escape (h : html_escape_available = true) (cfg : Cfg)
    (ht : keysPlain cfg.textTbl = true) (ha : keysPlain cfg.attrTbl = true) (s : Str) (attr : Bool) :
    html_escape (globalsOf cfg) (.str s) (.bool attr)
      = .ok (.str (htmlEscapeT (if attr then cfg.attrTbl else cfg.textTbl) s)) :=
  src_html_escape_of h (globalsOf cfg) cfg rfl rfl ht ha s attr

theorem src_HTML_as_string (h : HTML_as_string_available = true) (G : Globals) (s : Str) :
    HTML_as_string G (.html s) = .ok (.str s) := by
  first
  | exact absurd h (by decide)
  | simp [HTML_as_string]

/-- `src_normalize_text` below, for any `G` with the tables of `cfg` -/
theorem src_normalize_text_of (h : normalize_text_available = true) (h1 : html_escape_available = true)
    (h2 : HTML_as_string_available = true) (G : Globals) (cfg : Cfg)
    (hT : G.HTML_ESCAPE_TABLE = embTbl cfg.textTbl) (hA : G.HTML_ATTRS_ESCAPE_TABLE = embTbl cfg.attrTbl)
    (ht : keysPlain cfg.textTbl = true) (ha : keysPlain cfg.attrTbl = true) (s : Str) (isHtml : Bool) :
    normalize_text G (if isHtml then .html s else .str s) = .ok (.str (if isHtml then s else escText cfg s)) := by
  first
  | exact absurd h (by decide)
  | (cases isHtml
     · simp [normalize_text, isInstance, builtinClasses, src_html_escape_of h1 G cfg hT hA ht ha, escText]
     · simp [normalize_text, isInstance, builtinClasses, src_HTML_as_string h2])

theorem src_normalize_text (h : normalize_text_available = true) (h1 : html_escape_available = true)
    (h2 : HTML_as_string_available = true) (cfg : Cfg)
    (ht : keysPlain cfg.textTbl = true) (ha : keysPlain cfg.attrTbl = true) (s : Str) (isHtml : Bool) :
    normalize_text (globalsOf cfg) (if isHtml then .html s else .str s)
      = .ok (.str (if isHtml then s else escText cfg s)) :=
  src_normalize_text_of h h1 h2 (globalsOf cfg) cfg rfl rfl ht ha s isHtml

/-- `src_add` below, for any `G` with the tables of `cfg` -/
theorem src_add_of (h : HTML_add_available = true) (h' : HTML_radd_available = true) (h1 : html_escape_available = true)
    (h2 : HTML_as_string_available = true) (G : Globals) (cfg : Cfg)
    (hT : G.HTML_ESCAPE_TABLE = embTbl cfg.textTbl) (hA : G.HTML_ATTRS_ESCAPE_TABLE = embTbl cfg.attrTbl)
    (ht : keysPlain cfg.textTbl = true) (ha : keysPlain cfg.attrTbl = true) (a b : HVal) :
    pyAdd G (embH a) (embH b) = embRes embH (addVal cfg a b) := by
  first
  | exact absurd h (by decide)
  | exact absurd h' (by decide)
  | (have e := fun s => src_html_escape_of h1 G cfg hT hA ht ha s false
     have as := src_HTML_as_string h2 G
     simp only [Bool.false_eq_true, if_false] at e
     have hi : ∀ x : HVal, isInstance (embH x) ["HTML"] = (x matches .html _) := by intro x; cases x <;> rfl
     have hstr : ∀ x : HVal, pyStr (embH x) = .ok (.str (match x with | .plain s | .html s | .ob s => s)) := by
       intro x; cases x <;> rfl
     cases a <;> cases b
     -- neither operand is `HTML`: the built-in `+`
     case plain.plain | plain.ob | ob.plain | ob.ob => rfl
     all_goals
       simp only [pyAdd, HTML_add, HTML_radd, hi, hstr]
       simp [embH, addVal, embRes, e, as, escText])

/-- Python's `+` between `str`, `HTML` and other objects, as `HTML.__add__` / `HTML.__radd__` in the source have it,
    is the model's `addVal` -/
theorem src_add (h : HTML_add_available = true) (h' : HTML_radd_available = true) (h1 : html_escape_available = true)
    (h2 : HTML_as_string_available = true) (cfg : Cfg)
    (ht : keysPlain cfg.textTbl = true) (ha : keysPlain cfg.attrTbl = true) (a b : HVal) :
    pyAdd (globalsOf cfg) (embH a) (embH b) = embRes embH (addVal cfg a b) :=
  src_add_of h h' h1 h2 (globalsOf cfg) cfg rfl rfl ht ha a b

/-- the renderer's tables as regenerated from the source -/
def cfgNow : Cfg :=
  { void := Generated.voidNames, noesc := Generated.noescNames,
    textTbl := Generated.textTbl, attrTbl := Generated.attrTbl }

/-- side conditions of the tie, for the regenerated tables: every key is one character without a meaning in a regular
    expression, and a space is not escaped -/
theorem src_tables_ok :
    keysPlain cfgNow.textTbl = true ∧ keysPlain cfgNow.attrTbl = true ∧ escText cfgNow [' '] = [' '] := by
  decide +kernel

theorem src_html_escape_now (h : html_escape_available = true) (s : Str) (attr : Bool) :
    html_escape (globalsOf cfgNow) (.str s) (.bool attr)
      = .ok (.str (htmlEscapeT (if attr then Generated.attrTbl else Generated.textTbl) s)) :=
  src_html_escape h cfgNow src_tables_ok.1 src_tables_ok.2.1 s attr

theorem src_add_now (h : HTML_add_available = true) (h' : HTML_radd_available = true)
    (h1 : html_escape_available = true) (h2 : HTML_as_string_available = true) (a b : HVal) :
    pyAdd (globalsOf cfgNow) (embH a) (embH b) = embRes embH (addVal cfgNow a b) :=
  src_add h h' h1 h2 cfgNow src_tables_ok.1 src_tables_ok.2.1 a b

end HtmlVerif.SrcTie
