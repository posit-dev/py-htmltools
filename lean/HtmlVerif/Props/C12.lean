/-
C12 — Dependency URLs and copied files agree.   (file-system half: PARTIAL — the operating system is modelled)

Model: Model/Paths.lean (bytes, quote/unquote, posixpath.join), Model/DepTags.lean (source_path_map, as_dict,
as_html_tags), Model/FS.lean (abstract file system, copy_to, save_html).  Guards: Spec/Paths.lean.
Model/SaveDoc.lean (save_html of HTMLDocument / Tag / TagList over `Doc.docRender`).
Helper lemmas: Lemmas/{Paths,Guards,FS,Copy,CopyTo,CopyAll,Save,SaveDoc}.lean; the head of the document: Props/C11.lean.

Finding F-C12.  Clause 1 of the statement fixes the URL as `prefix/name[-version]/percent-encoded relative path`:
only the relative path is encoded.  Clause 2 ("percent-decoded, names a copied file") therefore fails when the prefix
(libdir), the name or the version contains `%XX`, `#`, `?` (or a `:` in the first component): the guards `CleanDirOpt`
and `SafeSeg` exclude exactly these among printable ASCII, `C12_urls_resolve_full_is_false` proves that they cannot be
dropped, and the dynamic check (harness/props/c12.py) reports the class as KNOWN-FINDING.
-/
import HtmlVerif.Lemmas.Guards
import HtmlVerif.Lemmas.CopyAll
import HtmlVerif.Lemmas.DepTags
import HtmlVerif.Lemmas.Save
import HtmlVerif.Lemmas.SaveDoc
import HtmlVerif.Props.C11

namespace HtmlVerif.C12
open HtmlVerif FS

/-! ## 1. percent-encoding -/

/-- percent-decoding undoes `quote`, for every byte string -/
theorem C12_quote_roundtrip (bs : Bytes) : unquoteB (quoteB bs) = bs := by
  simpa [unquoteB_nil] using unquoteB_quoteB bs []

/-- … hence for every string: decoding the quoted path gives back its UTF-8 bytes -/
theorem C12_quote_roundtrip_str (s : Str) : unquoteB (quote s) = utf8 s :=
  C12_quote_roundtrip (utf8 s)

/-- `quote` emits only unreserved characters, `/` and `%`: in particular none of `? # " & < > '` or a space,
    so neither URL parsing nor HTML attribute escaping changes or cuts the path -/
theorem C12_quote_inert (bs : Bytes) :
    ∀ c ∈ quoteB bs, isUnreservedC c = true ∨ c = '/' ∨ c = '%' := by
  intro c hc
  simp only [quoteB, List.mem_flatMap] at hc
  obtain ⟨b, _, hb⟩ := hc
  exact quoteByte_inert b c hb

/-! ## 2. the URLs of `source_path_map` / `as_dict` -/

/-- local source: `source` is the resolved directory and the base URL is `[lib_prefix/]name[-version]` -/
theorem C12_url_local (d : DepInfo) (pkg : Option Str) (dir abs : Str) (hsrc : d.source = .subdir pkg dir abs)
    (lp : Option Str) (iv : Bool) (p : Str) (hdn : (dirName d iv).head? ≠ some '/') :
    (sourcePathMap d lp iv).source = abs
    ∧ (sourcePathMap d lp iv).href = hrefBaseSpec lp (dirName d iv)
    ∧ dirName d iv = d.name ++ (if iv then '-' :: d.version else [])
    ∧ urlOf d lp iv p = posixJoin (hrefBaseSpec lp (dirName d iv)) (quote p) := by
  have hh : (sourcePathMap d lp iv).href = hrefBaseSpec lp (dirName d iv) := by
    rw [sourcePathMap_subdir hsrc]
    exact withPrefix_eq_hrefBaseSpec lp hdn
  exact ⟨by rw [sourcePathMap_subdir hsrc], hh, rfl, by simp [urlOf, hh]⟩

/-- local source, the directory name a single component (any characters), the path clean:
    exactly `base "/" quote(path)` — prefix, name and version are written as they are, only the path is encoded -/
theorem C12_url_local_closed (d : DepInfo) (pkg : Option Str) (dir abs : Str)
    (hsrc : d.source = .subdir pkg dir abs) (lp : Option Str) (iv : Bool) (p : Str)
    (hn : WideSeg (dirName d iv) = true) (hp : CleanRel p = true) :
    urlOf d lp iv p = hrefBaseSpec lp (dirName d iv) ++ '/' :: quote p := by
  rw [(C12_url_local d pkg dir abs hsrc lp iv p (wideSeg_head hn)).2.2.2, hrefBaseSpec_eq_join lp (wideSeg_head hn)]
  refine posixJoin_plain (quoteB_head (cleanRel_bytesHead hp)) (posixJoin_ne_nil (wideSeg_ne_nil hn)) ?_
  rw [posixJoin_getLast (wideSeg_ne_nil hn)]
  exact wideSeg_last hn

/-- URL source: `posixpath.join(href, quote(path))` — for a non-empty href and a clean path, exactly one separator
    whether or not the href ends in one — and neither `lib_prefix` nor `include_version` plays any part -/
theorem C12_url_remote (d : DepInfo) (h : Str) (hsrc : d.source = .href h) (lp : Option Str) (iv : Bool) (p : Str) :
    sourcePathMap d lp iv = { source := [], href := h }
    ∧ urlOf d lp iv p = posixJoin h (quote p)
    ∧ (h ≠ [] → CleanRel p = true →
        urlOf d lp iv p = if h.getLast? = some '/' then h ++ quote p else h ++ '/' :: quote p) := by
  have hm : sourcePathMap d lp iv = { source := [], href := h } := by simp [sourcePathMap, hsrc]
  refine ⟨hm, by simp [urlOf, hm], fun hne hp => ?_⟩
  have hq : (quote p).head? ≠ some '/' := quoteB_head (cleanRel_bytesHead hp)
  simp [urlOf, hm, posixJoin, hq, hne]

/-- `as_dict` writes exactly these URLs: the `src` of every script is the script's path, quoted and joined to `base`
    (`urlOf`, when `base` is the href of `sourcePathMap`) -/
theorem C12_dict_scripts (base : Str) (l l' : List KVs) (h : asDictScripts base l = .ok l') :
    l'.map (alookup dtKSrc) = l.map (fun s => (alookup dtKSrc s).map fun p => posixJoin base (quote p)) := by
  induction l generalizing l' with
  | nil => simp [asDictScripts] at h; subst h; rfl
  | cons s r ih =>
    obtain ⟨p, r', hs, hr, rfl⟩ := asDictScripts_cons_ok h
    simp [alookup_kvSet, hs, ih r' hr]

/-- … and the `href` of every stylesheet, whose `rel` is forced to `stylesheet` -/
theorem C12_dict_sheets (base : Str) (l l' : List KVs) (h : asDictSheets base l = .ok l') :
    l'.map (alookup dtKHref) = l.map (fun s => (alookup dtKHref s).map fun p => posixJoin base (quote p))
    ∧ ∀ s ∈ l', alookup dtKRel s = some vStylesheet := by
  induction l generalizing l' with
  | nil => simp [asDictSheets] at h; subst h; simp
  | cons s r ih =>
    obtain ⟨p, r', hs, hr, rfl⟩ := asDictSheets_cons_ok h
    obtain ⟨i1, i2⟩ := ih r' hr
    exact ⟨by simp [alookup_kvSet_ne _ _ _ _ (show dtKHref ≠ dtKRel by decide), alookup_kvSet, hs, i1],
      List.forall_mem_cons.mpr ⟨alookup_kvSet .., i2⟩⟩

/-! ## 3. the writer of the HTML and the copier of the files agree -/

/-- the destination of the dependencies is `dirname(file)` when `libdir` is `None` or `""`, else `dirname(file)/libdir` -/
theorem C12_save_destdir (fileAbs : Str) (libdir : Option Str) (hl : CleanDirOpt libdir = true) :
    pathResolve (destDir fileAbs libdir) = pathResolve (dirname fileAbs) ++ segsOpt libdir := by
  rcases libdir with _ | _ | ⟨c, l⟩
  · simp [destDir, destDir.withPrefix', segsOpt]
  · simp [destDir, destDir.withPrefix', segsOpt, utf8, segs_nil]
  · exact resolve_posixJoin _ (c :: l) (cleanDir_head (cleanDir_of_opt hl (List.cons_ne_nil c l)))

/-- the directory the files of `d` are copied to by `save_html(file, libdir, iv)`, in components:
    `dirname(file) / libdir / name[-version]` -/
theorem C12_target (d : DepInfo) (fileAbs : Str) (libdir : Option Str) (iv : Bool)
    (hl : CleanDirOpt libdir = true) (hn : SafeSeg (dirName d iv) = true) :
    tgtDir d (destDir fileAbs libdir) iv
      = pathResolve (dirname fileAbs) ++ segsOpt libdir ++ [utf8 (dirName d iv)] := by
  unfold tgtDir
  rw [resolve_posixJoin _ _ (safeSeg_head hn), C12_save_destdir fileAbs libdir hl, safeSeg_segs hn]

/-- **agreement**: for a clean relative path, a clean `libdir` and a URL-inert directory name, the URL written into
    the HTML (with `lib_prefix = libdir`) is a plain relative reference which, percent-decoded and resolved against
    the directory of the HTML file, is exactly the path `copy_to` writes the file to. -/
theorem C12_agree (d : DepInfo) (pkg : Option Str) (dir abs : Str) (hsrc : d.source = .subdir pkg dir abs)
    (fileAbs : Str) (libdir : Option Str) (iv : Bool) (p : Str)
    (hp : CleanRel p = true) (hl : CleanDirOpt libdir = true) (hn : SafeSeg (dirName d iv) = true) :
    relRefOk (urlOf d libdir iv p) = true
    ∧ segs (unquoteB (urlOf d libdir iv p)) = segsOpt libdir ++ [utf8 (dirName d iv)] ++ segs (utf8 p)
    ∧ pathResolve (posixJoin (posixJoin (destDir fileAbs libdir) (dirName d iv)) p)
        = pathResolve (dirname fileAbs) ++ segsOpt libdir ++ [utf8 (dirName d iv)] ++ segs (utf8 p)
    ∧ resolveRef (pathResolve (dirname fileAbs)) (urlOf d libdir iv p)
        = pathResolve (posixJoin (posixJoin (destDir fileAbs libdir) (dirName d iv)) p) := by
  have hloc := (C12_url_local d pkg dir abs hsrc libdir iv p (safeSeg_head hn)).2.2.2
  have hbase := hrefBaseSpec_plain hl hn
  have hsegs : segs (unquoteB (urlOf d libdir iv p))
      = segsOpt libdir ++ [utf8 (dirName d iv)] ++ segs (utf8 p) := by
    rw [hloc, unquoteB_posixJoin_quote _ _ (fun c hc => (hbase c hc).1) (cleanRel_bytesHead hp),
      segs_utf8_posixJoin _ _ (cleanRel_head hp), segs_hrefBaseSpec hn]
  have hcopy : pathResolve (posixJoin (posixJoin (destDir fileAbs libdir) (dirName d iv)) p)
      = pathResolve (dirname fileAbs) ++ segsOpt libdir ++ [utf8 (dirName d iv)] ++ segs (utf8 p) := by
    rw [resolve_posixJoin _ p (cleanRel_head hp)]
    exact congrArg (· ++ _) (C12_target d fileAbs libdir iv hl hn)
  refine ⟨relRefOk_of (fun c hc => ?_) ?_, hsegs, hcopy, ?_⟩
  · -- the base contributes URL-inert characters and `/`, the join a `/`, `quote` unreserved characters, `/` and `%`
    rw [hloc] at hc
    rcases mem_posixJoin hc with h | rfl | h
    · exact (hbase c h).2
    · exact urlPlain_slash
    · rcases C12_quote_inert _ c h with h | rfl | rfl
      · exact unreservedC_plain h
      · exact urlPlain_slash
      · exact urlPlain_pct
  · rw [hloc]
    exact posixJoin_head_ne (hrefBaseSpec_head hl hn) (quoteB_head (cleanRel_bytesHead hp))
  · rw [resolveRef, hsegs, hcopy]
    simp [List.append_assoc]

/-! ## 4. copy_to over the abstract file system -/

/-- every listed path is clean and present as a regular file, source and target directory are apart, no file lies on
    the way to the target ⇒ `copy_to` succeeds; afterwards the target directory holds
    **exactly** the listed files, byte-identical to their sources (whatever was there before is gone), and nothing
    outside the target directory has changed. -/
theorem C12_copy_ok (d : DepInfo) (pkg : Option Str) (dir abs : Str) (hsrc : d.source = .subdir pkg dir abs)
    (habs : abs ≠ []) (haf : d.allFiles = false) (fl : List Str) (hfl : listedFiles d = .ok fl)
    (path : Str) (iv : Bool) (fs : FS)
    (hclean : ∀ f ∈ fl, CleanRel f = true)
    (hfiles : ∀ f ∈ fl, (fs.read (pathResolve abs ++ segs (utf8 f))).isSome = true)
    (hST : Apart (pathResolve abs) (tgtDir d path iv)) (hpath : fs.fileOnPath (tgtDir d path iv) = false) :
    ∃ fs', copyTo d path iv fs = (fs', .ok ())
      ∧ (∀ q, fs'.read (tgtDir d path iv ++ q)
          = if q ∈ fl.map (fun f => segs (utf8 f)) then fs.read (pathResolve abs ++ q) else none)
      ∧ (∀ q, ¬ tgtDir d path iv <+: q → fs'.read q = fs.read q) := by
  obtain ⟨fs', h1, h2⟩ := copyTo_spec d path iv fs (by
    simp only [CopyReady, hsrc, haf]
    exact ⟨habs, hST, hpath, fl, hfl, fun f hf => ⟨cleanRel_head (hclean f hf), hfiles f hf⟩⟩)
  simp only [CopySpec, isLocal, hsrc, srcDir, wantedB, haf, hfl, if_true, Bool.false_eq_true, if_false,
    List.contains_iff_mem] at h2
  exact ⟨fs', h1, h2.2, h2.1⟩

/-- `all_files`, under the same guards (`SrcWF` for the source tree): the whole source directory arrives,
    byte-identical, nothing else is in the target, and nothing outside the target directory has changed -/
theorem C12_copy_ok_all (d : DepInfo) (pkg : Option Str) (dir abs : Str) (hsrc : d.source = .subdir pkg dir abs)
    (habs : abs ≠ []) (haf : d.allFiles = true) (path : Str) (iv : Bool) (fs : FS)
    (hwf : SrcWF fs (pathResolve abs))
    (hST : Apart (pathResolve abs) (tgtDir d path iv)) (hpath : fs.fileOnPath (tgtDir d path iv) = false) :
    ∃ fs', copyTo d path iv fs = (fs', .ok ())
      ∧ (∀ q, q ≠ [] → fs'.read (tgtDir d path iv ++ q) = fs.read (pathResolve abs ++ q))
      ∧ (∀ q, ¬ tgtDir d path iv <+: q → fs'.read q = fs.read q) := by
  obtain ⟨fs', h1, h2⟩ := copyTo_spec d path iv fs (by
    simp only [CopyReady, hsrc, haf]
    exact ⟨habs, hST, hpath, hwf⟩)
  simp only [CopySpec, isLocal, hsrc, srcDir, wantedB, haf, if_true] at h2
  exact ⟨fs', h1, fun q hq => by simpa [hq] using h2.2 q, h2.1⟩
/-- a file the dependency lists explicitly is missing ⇒ `copy_to` raises `Exception` and the returned file system
    **is the initial one**: neither the target directory nor anything else was touched -/
theorem C12_copy_missing (d : DepInfo) (pkg : Option Str) (dir abs : Str) (hsrc : d.source = .subdir pkg dir abs)
    (habs : abs ≠ []) (haf : d.allFiles = false) (fl : List Str) (hfl : listedFiles d = .ok fl)
    (path : Str) (iv : Bool) (fs : FS)
    (f : Str) (hf : f ∈ fl) (hmiss : fs.exists (pathResolve (posixJoin abs f)) = false) :
    copyTo d path iv fs = (fs, .error .exception) := by
  have hall : ¬ ∀ x ∈ fl, fs.exists (pathResolve (posixJoin abs x)) = true := fun h => by rw [h f hf] at hmiss; cases hmiss
  simp [copyTo, sourcePathMap_subdir hsrc, withPrefix, habs, copyItems, haf, hfl, hall]

/-- a script / stylesheet entry without its path key ⇒ `KeyError`, nothing touched -/
theorem C12_copy_keyerror (d : DepInfo) (pkg : Option Str) (dir abs : Str) (hsrc : d.source = .subdir pkg dir abs)
    (habs : abs ≠ []) (haf : d.allFiles = false) (e : Err) (hfl : listedFiles d = .error e)
    (path : Str) (iv : Bool) (fs : FS) : copyTo d path iv fs = (fs, .error e) := by
  simp [copyTo, sourcePathMap_subdir hsrc, withPrefix, habs, copyItems, haf, hfl]

/-- URL-sourced and source-less dependencies copy nothing -/
theorem C12_no_copy (d : DepInfo) (h : d.source = .none ∨ ∃ u, d.source = .href u) (path : Str) (iv : Bool)
    (fs : FS) : copyTo d path iv fs = (fs, .ok ()) := by
  apply copyTo_noSource
  rcases h with h | ⟨u, h⟩ <;> simp [isLocal, h]

/-! ## 5. save_html -/

/-- **copies and URLs, for any rendering.**  Let `libdir` be clean and `deps` be the dependencies of the rendering, with
    URL-inert, pairwise different directory names, each ready to be copied, sources apart from all targets, and the HTML
    file apart from all targets and creatable.  Then `save_html` succeeds and returns `file`; the file holds the
    rendering; **every local URL of a wanted file, percent-decoded and resolved against the file's directory, names a
    copy byte-identical to its source**; every target directory holds nothing but wanted files (stale content gone);
    everything else is unchanged. -/
theorem C12_save_urls (render : Option Str → Bool → FsRendered) (file fileAbs : Str) (libdir : Option Str)
    (iv : Bool) (fs : FS)
    (hl : CleanDirOpt libdir = true)
    (hnames : ∀ d ∈ (render libdir iv).deps, isLocal d = true → SafeSeg (dirName d iv) = true)
    (hdistinct : (render libdir iv).deps.Pairwise (fun a b => dirName a iv ≠ dirName b iv))
    (hready : ∀ d ∈ (render libdir iv).deps, CopyReady d (destDir fileAbs libdir) iv fs)
    (hST : ∀ a ∈ (render libdir iv).deps, ∀ b ∈ (render libdir iv).deps, isLocal a = true → isLocal b = true →
      Apart (srcDir a) (tgtDir b (destDir fileAbs libdir) iv))
    (hF : ∀ d ∈ (render libdir iv).deps, isLocal d = true →
      Apart (pathResolve fileAbs) (tgtDir d (destDir fileAbs libdir) iv))
    (hFd : fs.isDir (pathResolve fileAbs) = false) (hFp : fs.fileOnPath (pathResolve fileAbs).dropLast = false) :
    ∃ fs', saveHtml render file fileAbs libdir iv fs = (fs', .ok file)
      ∧ fs'.read (pathResolve fileAbs) = some (utf8 (render libdir iv).html)
      ∧ (∀ d ∈ (render libdir iv).deps, isLocal d = true → ∀ p, CleanRel p = true →
          wantedB d (segs (utf8 p)) = true →
          relRefOk (urlOf d libdir iv p) = true ∧
          fs'.read (resolveRef (pathResolve (dirname fileAbs)) (urlOf d libdir iv p))
            = fs.read (srcDir d ++ segs (utf8 p)))
      ∧ (∀ d ∈ (render libdir iv).deps, isLocal d = true → ∀ r, wantedB d r = false →
          fs'.read (tgtDir d (destDir fileAbs libdir) iv ++ r) = none)
      ∧ (∀ q, q ≠ pathResolve fileAbs →
          (∀ d ∈ (render libdir iv).deps, isLocal d = true → ¬ tgtDir d (destDir fileAbs libdir) iv <+: q) →
          fs'.read q = fs.read q) := by
  have hTT : (render libdir iv).deps.Pairwise (fun a b => isLocal a = true → isLocal b = true →
      Apart (tgtDir a (destDir fileAbs libdir) iv) (tgtDir b (destDir fileAbs libdir) iv)) := by
    refine hdistinct.imp_of_mem fun {a b} ha hb hne hla hlb => ?_
    rw [C12_target a fileAbs libdir iv hl (hnames a ha hla), C12_target b fileAbs libdir iv hl (hnames b hb hlb)]
    exact apart_of_ne_last _ fun e =>
      hne (utf8_inert_inj _ _ (safeSeg_inert (hnames a ha hla)) (safeSeg_inert (hnames b hb hlb)) e)
  obtain ⟨fs', hsave, hfile, hspec, hframe⟩ := saveHtml_spec render file fileAbs libdir iv fs rfl
    (fun d hd _ => hready d hd) hTT hST hF hFd hFp
  refine ⟨fs', hsave, hfile, fun d hd hld p hp hwant => ?_, fun d hd hld r hwant => ?_, hframe⟩
  · obtain ⟨pkg, dir, abs, hsrc⟩ := isLocal_cases hld
    have hag := C12_agree d pkg dir abs hsrc fileAbs libdir iv p hp hl (hnames d hd hld)
    refine ⟨hag.1, ?_⟩
    rw [hag.2.2.2, resolve_posixJoin _ p (cleanRel_head hp)]
    exact (hspec d hd hld _).trans (if_pos hwant)
  · rw [hspec d hd hld r, hwant]
    rfl

/-! ## 6. save_html of a document, a tag, a list: what is written names what is copied -/

open HtmlVerif.Doc in
/-- **the markup that is written carries the URLs of `as_dict`.**  The rendering made with `lib_prefix = libdir`
    is the doctype and the markup of a tree whose one head holds (after `<meta charset>` and the user's head children)
    the listing and the block `ms`; for **every dependency of the resolved list** whose script / stylesheet dicts have
    one key only that becomes `src` / `href` (`SoleKeys`), `ms` contains, in place, that dependency's block: its
    `<meta>` tags, one `<link>` per stylesheet whose `href` attribute is exactly `urlOf d libdir iv path`, one
    `<script>` per script whose `src` attribute is exactly `urlOf d libdir iv path`, then the dependency's own head
    nodes.  (Attribute values are written attribute-escaped: C03.) -/
theorem C12_head_urls {cfg : Cfg} {content : Nodes} {kw : List (Str × AttrArg)} {libdir : Option Str} {iv : Bool}
    {r : DocRendered} (h : docRender cfg content kw libdir iv = .ok r) :
    ∃ n w a ks ms,
      r.html = doctype ++ (Node.tag n w a (withHead (listing (docDeps content) ++ ms) ks)).render cfg 0 ['\n'] ∧
      ∀ d hh hd, Node.dep d hh hd ∈ docDeps content → SoleKeys d = true →
        ∃ metas links scripts pre post,
          ms = pre ++ (Nodes.ofList (metas ++ links ++ scripts) ++ (if hh then hd.expandAll else .nil)) ++ post ∧
          (∀ t ∈ metas, ∃ a, t = .tag nMeta true a .nil) ∧ (∀ t ∈ links, ∃ a, t = .tag nLink true a .nil) ∧
          (∀ t ∈ scripts, ∃ a, t = .tag nScript true a .nil) ∧
          links.map (tagAttr nLink dtKHref)
            = d.stylesheet.map (fun s => (alookup dtKHref s).map fun p => AttrVal.plain (urlOf d libdir iv p)) ∧
          scripts.map (tagAttr nScript dtKSrc)
            = d.script.map (fun s => (alookup dtKSrc s).map fun p => AttrVal.plain (urlOf d libdir iv p)) := by
  obtain ⟨t, ht, hhtml, _⟩ := C11.C11_doctype_prefix h
  obtain ⟨n, w, a, ks, ms, _, hm, rfl, _, _⟩ := C11.C11_head ht
  refine ⟨n, w, a, ks, ms, hhtml, ?_⟩
  intro d hh hd hmem hk
  obtain ⟨ts, pre, post, hts, rfl⟩ := depMarkupAll_mem hm _ hmem
  obtain ⟨metas, links, scripts, rfl, hmeta, hlk, hsc, hl, hs⟩ := asHtmlTags_urls (by simpa [depTags] using hts) hk
  refine ⟨metas, links, scripts, pre, post, ?_, hmeta, hlk, hsc, hl, hs⟩
  rw [Nodes.expandAll_append, (childless_expand (childless_of_shapes hmeta hlk hsc)).1]
  cases hh <;> simp [Nodes.expandAll]

/-- what `save_html` copies are the dependencies `render()` returns; under C11's guard that is the resolved list -/
theorem C12_saved_deps_resolved {cfg : Cfg} {content : Nodes} {kw : List (Str × AttrArg)} {libdir : Option Str}
    {iv : Bool} {r : Doc.DocRendered} (guard : Doc.noDepInDepHead content = true)
    (h : Doc.docRender cfg content kw libdir iv = .ok r) :
    (docFs cfg content kw libdir iv).deps = depInfos (Doc.docDeps content)
    ∧ ∀ d hh hd, Node.dep d hh hd ∈ Doc.docDeps content → d ∈ (docFs cfg content kw libdir iv).deps := by
  have e : (docFs cfg content kw libdir iv).deps = depInfos (Doc.docDeps content) := by
    rw [docFs_of_ok h, C11.C11_returned guard h]
  exact ⟨e, fun d hh hd hm => e ▸ mem_depInfos hm⟩

/-- **save_html, end to end, on a document, a tag or a list.**  Let `r` be the rendering of the saving document
    (`HTMLDocument(self)` for a tag / list) with `lib_prefix = libdir`, and let the dependencies it returns satisfy the
    guards of `C12_save_urls`.  Then `save_html` **returns the `file` argument**, the file at that path holds exactly
    `r.html` (whose head carries `urlOf d libdir iv p` for every resolved dependency: `C12_head_urls`), and for every
    returned local dependency `d` and every wanted clean path `p`: the URL `urlOf d libdir iv p` is a plain relative
    reference which, resolved against the file's directory and percent-decoded, names a file **byte-identical to the
    source** `srcDir d / p`; the target directories hold nothing else (stale content gone); nothing else changed. -/
theorem C12_save_doc (cfg : Cfg) (recv : Receiver) (file fileAbs : Str) (libdir : Option Str) (iv : Bool) (fs : FS)
    (r : Doc.DocRendered) (h : Doc.docRender cfg recv.doc.1 recv.doc.2 libdir iv = .ok r)
    (hl : CleanDirOpt libdir = true)
    (hnames : ∀ d ∈ depInfos r.deps, isLocal d = true → SafeSeg (dirName d iv) = true)
    (hdistinct : (depInfos r.deps).Pairwise (fun a b => dirName a iv ≠ dirName b iv))
    (hready : ∀ d ∈ depInfos r.deps, CopyReady d (destDir fileAbs libdir) iv fs)
    (hST : ∀ a ∈ depInfos r.deps, ∀ b ∈ depInfos r.deps, isLocal a = true → isLocal b = true →
      Apart (srcDir a) (tgtDir b (destDir fileAbs libdir) iv))
    (hF : ∀ d ∈ depInfos r.deps, isLocal d = true →
      Apart (pathResolve fileAbs) (tgtDir d (destDir fileAbs libdir) iv))
    (hFd : fs.isDir (pathResolve fileAbs) = false) (hFp : fs.fileOnPath (pathResolve fileAbs).dropLast = false) :
    ∃ fs', saveOn cfg recv file fileAbs libdir iv fs = (fs', .ok file)
      ∧ fs'.read (pathResolve fileAbs) = some (utf8 r.html)
      ∧ (∀ d ∈ depInfos r.deps, isLocal d = true → ∀ p, CleanRel p = true →
          wantedB d (segs (utf8 p)) = true →
          relRefOk (urlOf d libdir iv p) = true ∧
          fs'.read (resolveRef (pathResolve (dirname fileAbs)) (urlOf d libdir iv p))
            = fs.read (srcDir d ++ segs (utf8 p)))
      ∧ (∀ d ∈ depInfos r.deps, isLocal d = true → ∀ q, wantedB d q = false →
          fs'.read (tgtDir d (destDir fileAbs libdir) iv ++ q) = none)
      ∧ (∀ q, q ≠ pathResolve fileAbs →
          (∀ d ∈ depInfos r.deps, isLocal d = true → ¬ tgtDir d (destDir fileAbs libdir) iv <+: q) →
          fs'.read q = fs.read q) := by
  obtain ⟨fs', h1, h2⟩ := C12_save_urls (fun _ _ => ⟨r.html, depInfos r.deps⟩) file fileAbs libdir iv fs hl
    hnames hdistinct hready hST hF hFd hFp
  refine ⟨fs', ?_, h2⟩
  simp only [saveOn, saveDoc, h, saveHtml, docFs_of_ok h] at h1 ⊢
  exact h1

/-- a listed file of a returned dependency is missing (or any other copy fails) ⇒ `save_html` raises that error, the
    state is the one the copies made so far left (the failing dependency's target untouched: `C12_copy_missing`), and
    **the HTML file is not written**: its old content, if any, is still what the copies left; a `render()` that
    raises leaves the file system as it was -/
theorem C12_save_fail (cfg : Cfg) (recv : Receiver) (file fileAbs : Str) (libdir : Option Str) (iv : Bool)
    (fs : FS) :
    (∀ e, Doc.docRender cfg recv.doc.1 recv.doc.2 libdir iv = .error e →
      saveOn cfg recv file fileAbs libdir iv fs = (fs, .error e))
    ∧ (∀ r fs1 e, Doc.docRender cfg recv.doc.1 recv.doc.2 libdir iv = .ok r →
        copyAll (depInfos r.deps) (destDir fileAbs libdir) iv fs = (fs1, .error e) →
        saveOn cfg recv file fileAbs libdir iv fs = (fs1, .error e)) := by
  constructor
  · intro e h; simp [saveOn, saveDoc, h]
  · intro r fs1 e h hc
    simp only [saveOn, saveDoc, h]
    exact saveHtml_of_copyAll_error (by rw [docFs_of_ok h]; exact hc)

/-! ### the concrete instance used below and in the non-vacuity examples -/

/-- `HTMLDependency("my-dep", "1.0+x", source={"subdir": "/s"}, script={"src": "a b/100%é.js"}, stylesheet={"href": "q#?.css"})` -/
def exDep : DepInfo :=
  { name := ['m', 'y', '-', 'd', 'e', 'p'], version := ['1', '.', '0', '+', 'x'], vrank := 0,
    source := .subdir none ['/', 's'] ['/', 's'],
    script := [[(dtKSrc, ['a', ' ', 'b', '/', '1', '0', '0', '%', 'é', '.', 'j', 's'])]],
    stylesheet := [[(dtKHref, ['q', '#', '?', '.', 'c', 's', 's']), (dtKRel, vStylesheet)]],
    metas := [], allFiles := false }

def exJs : Path := [[0x61, 0x20, 0x62], [0x31, 0x30, 0x30, 0x25, 0xC3, 0xA9, 0x2E, 0x6A, 0x73]]
def exCss : Path := [[0x71, 0x23, 0x3F, 0x2E, 0x63, 0x73, 0x73]]

/-- sources under `/s`, stale content and a sentinel in the target `/o/lib/my-dep-1.0+x`, an unrelated file -/
def exFS : FS :=
  ⟨[([[0x73]] ++ exJs, [1, 2, 3]), ([[0x73]] ++ exCss, [4]),
    ([[0x6F], [0x6C, 0x69, 0x62], utf8 (dirName exDep true), [0x6F, 0x6C, 0x64]], [9]),
    ([[0x75]], [7])]⟩

def exFile : Str := ['/', 'o', '/', 'i', '.', 'h', 't', 'm', 'l']
def exLib : Option Str := some ['l', 'i', 'b']

/-! ## 7. finding F-C12: the character guards cannot be dropped -/

/-- **the statement's clause 2 is false without the character guards** (the code writes prefix, name and version
    unencoded, as clause 1 prescribes): for every clean path, *any* relative `libdir` without dot segments and *any*
    single-component directory name, the URL would have to be a plain relative reference that, percent-decoded and
    resolved against the file's directory, is the path `copy_to` writes to.  Witnesses: `libdir = "my%20lib"` (decodes to
    `my lib`, the files are in `my%20lib`), `libdir = "a#b"` (cut at the fragment), name `a%41` (decodes to `aA`). -/
theorem C12_urls_resolve_full_is_false :
    ¬ ∀ (d : DepInfo) (fileAbs : Str) (libdir : Option Str) (iv : Bool) (p : Str),
        isLocal d = true → CleanRel p = true → WideDirOpt libdir = true → WideSeg (dirName d iv) = true →
        relRefOk (urlOf d libdir iv p) = true
        ∧ resolveRef (pathResolve (dirname fileAbs)) (urlOf d libdir iv p)
            = pathResolve (posixJoin (posixJoin (destDir fileAbs libdir) (dirName d iv)) p) := by
  intro h
  have h1 := h exDep exFile (some ['m', 'y', '%', '2', '0', 'l', 'i', 'b']) true ['a', '.', 'j', 's']
    (by decide) (by decide) (by decide) (by decide)
  revert h1
  decide +kernel

/-- the same for the other two shapes of the class: a fragment character in the prefix makes the URL no plain
    relative reference; a `%XX` in the *name* decodes to another directory -/
theorem C12_urls_resolve_full_is_false_more :
    relRefOk (urlOf exDep (some ['a', '#', 'b']) true ['a', '.', 'j', 's']) = false
    ∧ resolveRef (pathResolve (dirname exFile)) (urlOf { exDep with name := ['a', '%', '4', '1'] } none false ['a', '.', 'j', 's'])
        ≠ pathResolve (posixJoin (posixJoin (destDir exFile none) ['a', '%', '4', '1']) ['a', '.', 'j', 's'])
    ∧ urlSpecial ['m', 'y', '%', '2', '0', 'l', 'i', 'b'] = true ∧ urlSpecial ['a', '#', 'b'] = true
    ∧ urlSpecial ['a', '%', '4', '1'] = true := by
  decide +kernel

/-- conversely, under the guards nothing of the class is left: a guarded base URL has no special character -/
theorem C12_guards_exclude_special (libdir : Option Str) (dn : Str)
    (hl : CleanDirOpt libdir = true) (hn : SafeSeg dn = true) : urlSpecial (hrefBaseSpec libdir dn) = false := by
  have hplain := hrefBaseSpec_plain hl hn
  simp only [urlSpecial, Bool.or_eq_false_iff, List.any_eq_false, urlSpecialC, Bool.or_eq_true, beq_iff_eq, not_or]
  exact ⟨fun c hc => ⟨⟨(hplain c hc).1, (hplain c hc).2.2.1⟩, (hplain c hc).2.1⟩,
    firstSeg_noColon fun hm => (hplain _ hm).2.2.2 rfl⟩

/-! ## non-vacuity: a concrete instance satisfying every guard used above -/

example : SafeSeg (dirName exDep true) = true ∧ CleanDirOpt exLib = true
    ∧ (∀ f ∈ [['a', ' ', 'b', '/', '1', '0', '0', '%', 'é', '.', 'j', 's'], ['q', '#', '?', '.', 'c', 's', 's']],
        CleanRel f = true) := by decide +kernel

example : listedFiles exDep = .ok [['a', ' ', 'b', '/', '1', '0', '0', '%', 'é', '.', 'j', 's'],
    ['q', '#', '?', '.', 'c', 's', 's']] := by rfl

/-- the guards of `C12_copy_ok` / `C12_save_urls` hold of the instance … -/
example : Apart (srcDir exDep) (tgtDir exDep (destDir exFile exLib) true)
    ∧ exFS.fileOnPath (tgtDir exDep (destDir exFile exLib) true) = false
    ∧ (exFS.read (srcDir exDep ++ exJs)).isSome = true ∧ (exFS.read (srcDir exDep ++ exCss)).isSome = true
    ∧ segs (utf8 ['a', ' ', 'b', '/', '1', '0', '0', '%', 'é', '.', 'j', 's']) = exJs := by
  unfold Apart; decide +kernel

/-- … and the model computes what the theorems say: the URL is `lib/my-dep-1.0+x/a%20b/100%25%C3%A9.js`, it resolves to
    the copied file, the stale file is gone, the unrelated file is still there -/
example :
    urlOf exDep exLib true ['a', ' ', 'b', '/', '1', '0', '0', '%', 'é', '.', 'j', 's']
      = ['l', 'i', 'b', '/', 'm', 'y', '-', 'd', 'e', 'p', '-', '1', '.', '0', '+', 'x', '/',
         'a', '%', '2', '0', 'b', '/', '1', '0', '0', '%', '2', '5', '%', 'C', '3', '%', 'A', '9', '.', 'j', 's']
    ∧ ((copyTo exDep (destDir exFile exLib) true exFS).1.read
        (resolveRef (pathResolve (dirname exFile))
          (urlOf exDep exLib true ['a', ' ', 'b', '/', '1', '0', '0', '%', 'é', '.', 'j', 's']))) = some [1, 2, 3]
    ∧ ((copyTo exDep (destDir exFile exLib) true exFS).1.read
        [[0x6F], [0x6C, 0x69, 0x62], utf8 (dirName exDep true), [0x6F, 0x6C, 0x64]]) = none
    ∧ ((copyTo exDep (destDir exFile exLib) true exFS).1.read [[0x75]]) = some [7] := by
  decide +kernel

/-- `Tag("div", exDep).save_html("/o/i.html", libdir="lib")` on `exFS`, with the document model doing the rendering:
    the hypotheses of `C12_save_doc` / `C12_head_urls` hold of it (`SoleKeys`, C11's guard, a successful rendering),
    it returns the file, the written markup contains the URL, and the URL leads to the copy -/
def exRecv : Receiver := .tag (.tag ['d', 'i', 'v'] true [] (.cons (.dep exDep false .nil) .nil))

example : SoleKeys exDep = true ∧ Doc.noDepInDepHead exRecv.doc.1 = true := by decide +kernel

example :
    (match Doc.docRender C11.cfg0 exRecv.doc.1 exRecv.doc.2 exLib true with
      | .ok r => depInfos r.deps == [exDep]
          && isInfix (['s', 'r', 'c', '=', '"', 'l', 'i', 'b', '/', 'm', 'y', '-', 'd', 'e', 'p', '-', '1', '.', '0', '+', 'x', '/',
                'a', '%', '2', '0', 'b', '/', '1', '0', '0', '%', '2', '5', '%', 'C', '3', '%', 'A', '9', '.', 'j', 's', '"'] : Str) r.html
      | .error _ => false) = true
    ∧ (match (saveOn C11.cfg0 exRecv exFile exFile exLib true exFS).2 with
        | .ok f => f == exFile
        | .error _ => false) = true
    ∧ (saveOn C11.cfg0 exRecv exFile exFile exLib true exFS).1.read
        (resolveRef (pathResolve (dirname exFile))
          (urlOf exDep exLib true ['a', ' ', 'b', '/', '1', '0', '0', '%', 'é', '.', 'j', 's'])) = some [1, 2, 3] := by
  decide +kernel

/-- with the JavaScript file missing, `copy_to` fails and returns the file system it was given -/
example : copyTo exDep (destDir exFile exLib) true ⟨exFS.files.drop 1⟩ = (⟨exFS.files.drop 1⟩, .error .exception) := by
  rfl

end HtmlVerif.C12
