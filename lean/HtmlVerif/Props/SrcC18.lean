/-
Source tie (DESIGN §14) for `render()`, the string views and `head_content` (harness/pytr_c18.py).

1. `TagList.render` / `Tag.render`

       cp = self.tagify(); deps = cp.get_dependencies(); return {"dependencies": deps, "html": cp.get_html_string()}

   compute, for every tree, the dict whose two entries are what the model reports: the resolved dependency list and the
   markup of the expanded tree (`renderOfList` / `renderOfTag`, Model/Tagify.lean — the definitions `C09_render` is about):
   `src_TagList_render`, `src_Tag_render`, `src_TagList_render_spec`.  Obligations of C09.

   The three callees are tied to the model for one family of embeddings that carries every field any of them reads —
   `embC18 xf tv` (Lemmas/SrcC10.lean; `xf` = further fields of the dependency objects, used by the string views):
   `src_tagify_*_C18` (Props/SrcC09.lean), `src_get_dependencies_*_C18` (Props/SrcC10.lean) and `src_render_*_C18`
   below, instances of `render_depth` (Props/SrcRender.lean) — `render()` hands the *same* objects to all three.  The two
   models of `_resolve_dependencies` (`resolve`, Model/Deps.lean; `Tagify.resolveDeps`, Model/Tagify.lean) are proved
   equal (`resolve_entries_C18`).

2. `_render_tag_or_taglist`, `Tag.__str__`, `TagList.__str__` = `strOfRendered` / `strView` / `strViewList`
   (Model/ReadOps.lean — the definitions `C08_views` is about), in both values of `html_dependency_render_mode`
   (`Globals.renderModeC18`): `src_render_tag_or_taglist_gen/_list/_tag`, `src_Tag_str`, `src_TagList_str`.  Obligations of
   C08.  `serialize_to_script_json` is not translated: each dependency object records the `<script>` Tag the model says
   the method returns (`xfSerC18`; primitive `pySerializeToScriptJsonC18`).

3. `hash_deterministic` (SHA-1 is the parameter `H`: `Globals.sha1HexC18`) and `head_content` = `headContent`
   (Model/HeadContent.lean) on the child list `TagList(*args)` builds: `src_hash_deterministic`, `src_head_content`
   (through `src_TagList_init` of Props/SrcC14.lean, `render_depth` of Props/SrcRender.lean at the module constants of
   this area, and `src_init` of Props/SrcC10b.lean).
   Obligations of C18.

The module constants are `globalsC18 cfg mode sha` — `globalsOf cfg` with `html_dependency_render_mode` and the SHA-1
digest as parameters; the renderer and the text functions read the four tables only (`renderGlobals_of_tables`).
-/
import HtmlVerif.Generated.Src
import HtmlVerif.Lemmas.SrcC18
import HtmlVerif.Lemmas.PyComp
import HtmlVerif.Props.SrcC09
import HtmlVerif.Props.SrcC10
import HtmlVerif.Props.SrcRender
import HtmlVerif.Model.ReadOps
import HtmlVerif.Model.HeadContent
import HtmlVerif.Props.SrcC14
import HtmlVerif.Props.SrcC10b
import HtmlVerif.Props.C14

-- the availability flags are read only where a function has left the fragment; simp sets name lemmas for spellings the
-- source need not contain
set_option linter.unusedVariables false
set_option linter.unusedSimpArgs false

namespace HtmlVerif.SrcTie
open HtmlVerif HtmlVerif.Py HtmlVerif.Generated.Src

/-- `Tag.get_html_string(indent, eol)` = `Node.render`, on the embedding that carries all fields -/
theorem src_render_tag_C18 (h1 : Tag_get_html_string_available = true) (h2 : TagList_get_html_string_available = true)
    (hn : normalize_text_available = true) (he : html_escape_available = true) (hs : HTML_as_string_available = true)
    (cfg : Cfg) (ht : keysPlain cfg.textTbl = true) (ha : keysPlain cfg.attrTbl = true)
    (m : PVal) (sha : Str → Option Str) (xf : XfC18) (tv : Node → PVal)
    (t : Node) (htag : t.isTag = true) (fuel : Nat) (hf : 2 * nodeDepth t ≤ fuel) (i : Nat) (eol : Str) :
    Tag_get_html_string (globalsC18 cfg m sha) fuel (embC18 xf tv t) (.int i) (.str eol)
      = if t.hasTobj then .error .runtimeError else .ok (.str (t.render cfg i eol)) := by
  exact (render_depth h1 h2 _ cfg (renderGlobals_of_tables hn he hs _ cfg rfl rfl rfl rfl ht ha) _ (renderEmb_embC18 xf tv) _).1
    t htag (Nat.le_refl _) fuel hf i eol

/-- `TagList.get_html_string(…)` = `renderList`, on the embedding that carries all fields -/
theorem src_render_list_C18 (h1 : Tag_get_html_string_available = true) (h2 : TagList_get_html_string_available = true)
    (hn : normalize_text_available = true) (he : html_escape_available = true) (hs : HTML_as_string_available = true)
    (cfg : Cfg) (ht : keysPlain cfg.textTbl = true) (ha : keysPlain cfg.attrTbl = true)
    (m : PVal) (sha : Str → Option Str) (xf : XfC18) (tv : Node → PVal)
    (ks : Nodes) (fuel : Nat) (hf : 2 * kidsDepth ks + 1 ≤ fuel) (i : Nat) (eol : Str) (aw esc : Bool) :
    TagList_get_html_string (globalsC18 cfg m sha) fuel (tagListOf (embsC18 xf tv ks)) (.int i) (.str eol) (.bool aw) (.bool esc)
      = if ks.hasTobjKids then .error .runtimeError else .ok (.str (renderList cfg ks i eol aw esc)) := by
  rw [tagListOf, embsC18_toList]
  exact (render_depth h1 h2 _ cfg (renderGlobals_of_tables hn he hs _ cfg rfl rfl rfl rfl ht ha) _ (renderEmb_embC18 xf tv) _).2
    ks (Nat.le_refl _) fuel hf i eol aw esc

def kDependenciesC18 : Str := ['d', 'e', 'p', 'e', 'n', 'd', 'e', 'n', 'c', 'i', 'e', 's']
def kHtmlC18 : Str := ['h', 't', 'm', 'l']

/-- the dict `render()` returns — `{"dependencies": [...], "html": "..."}` — for what the model reports (`Rendered`,
    Model/Tagify.lean); the error of `get_html_string` if the model says it raises -/
def embRenderedC18 (xf : XfC18) (tv : Node → PVal) (r : Rendered) : PyM PVal :=
  match r.html with
  | .ok s => .ok (.dict [(kDependenciesC18, .list (r.deps.map fun e => embC18 xf tv (depNodeC18 e))), (kHtmlC18, .str s)])
  | .error e => .error (embErr e)

theorem getDeps_entries_C18 (ks : Nodes) :
    ks.getDeps true = (Tagify.resolveDeps (Tagify.collectDepsKids ks)).map depNodeC18 := by
  simp only [Nodes.getDeps, if_true, collectKids_depEntries_C18, resolve_entries_C18]

/-- `TagList.render()` as the source has it = the model's `renderOfList` (the resolved dependency list and the markup of
    the tagified copy), for every tree, every value of the two parameters, any fuel that covers the nesting depth of
    the tree and of its expansion -/
theorem src_TagList_render (h : TagList_render_available = true)
    (ht1 : Tag_tagify_available = true) (ht2 : TagList_tagify_available = true)
    (hd1 : Tag_get_dependencies_available = true) (hd2 : TagList_get_dependencies_available = true)
    (hr : resolve_dependencies_available = true)
    (hg1 : Tag_get_html_string_available = true) (hg2 : TagList_get_html_string_available = true)
    (hn : normalize_text_available = true) (he : html_escape_available = true) (hs : HTML_as_string_available = true)
    (cfg : Cfg) (ht : keysPlain cfg.textTbl = true) (ha : keysPlain cfg.attrTbl = true)
    (m : PVal) (sha : Str → Option Str) (xf : XfC18) (hx : XfOkC18 xf) (tv : Node → PVal) (htv : TvOkC18 xf tv)
    (ks : Nodes) (fuel : Nat) (hf1 : 2 * kidsDepth ks + 2 ≤ fuel) (hf2 : 2 * kidsDepth (tagifyNodes ks) + 2 ≤ fuel) :
    TagList_render (globalsC18 cfg m sha) fuel (tagListOf (embsC18 xf tv ks))
      = embRenderedC18 xf tv (renderOfList cfg ks) := by
  first
  | exact absurd h (by decide)
  | skip
  all_goals (
    obtain ⟨f, rfl⟩ : ∃ f, fuel = f + 1 := ⟨fuel - 1, by omega⟩
    rw [TagList_render]
    have hcls : ∀ l, pyClassOf (tagListOf l) = "TagList" := fun _ => rfl
    have e1 := src_tagify_list_C18 ht1 ht2 (globalsC18 cfg m sha) xf hx tv htv ks f (by omega)
    have e2 := src_get_dependencies_list_C18 hd1 hd2 hr (globalsC18 cfg m sha) xf tv (tagifyNodes ks) f (by omega) true
    -- stated with the literals as the translator writes them (`Char.ofNat 10` for the default `eol`), so that `simp only` finds it
    have e3 : TagList_get_html_string (globalsC18 cfg m sha) f (tagListOf (embsC18 xf tv (tagifyNodes ks))) (PVal.int 0)
        (PVal.str [Char.ofNat 10]) (PVal.bool true) (PVal.bool true) = _ :=
      src_render_list_C18 hg1 hg2 hn he hs cfg ht ha m sha xf tv (tagifyNodes ks) f (by omega) 0 ['\n'] true true
    simp only [ok_bind, pure_eq_ok, hcls, e1, e2, e3, getDeps_entries_C18, List.map_map]
    simp only [embRenderedC18, renderOfList, renderListChecked]
    by_cases hk : (tagifyNodes ks).hasTobjKids = true
    · simp [hk, embErr]
    · simp [hk, kDependenciesC18, kHtmlC18, Function.comp_def])

theorem tag_getDeps_entries_C18 (t : Node) (ht : t.isTag = true) :
    t.getDeps true = (Tagify.resolveDeps (Tagify.collectDeps t)).map depNodeC18 := by
  cases t <;> simp [Node.isTag] at ht
  simp only [Node.getDeps, Tagify.collectDeps, getDeps_entries_C18]

/-- `Tag.render()` as the source has it = the model's `renderOfTag` -/
theorem src_Tag_render (h : Tag_render_available = true)
    (ht1 : Tag_tagify_available = true) (ht2 : TagList_tagify_available = true)
    (hd1 : Tag_get_dependencies_available = true) (hd2 : TagList_get_dependencies_available = true)
    (hr : resolve_dependencies_available = true)
    (hg1 : Tag_get_html_string_available = true) (hg2 : TagList_get_html_string_available = true)
    (hn : normalize_text_available = true) (he : html_escape_available = true) (hs : HTML_as_string_available = true)
    (cfg : Cfg) (ht : keysPlain cfg.textTbl = true) (ha : keysPlain cfg.attrTbl = true)
    (m : PVal) (sha : Str → Option Str) (xf : XfC18) (hx : XfOkC18 xf) (tv : Node → PVal) (htv : TvOkC18 xf tv)
    (t : Node) (htag : t.isTag = true) (fuel : Nat)
    (hf1 : 2 * nodeDepth t + 1 ≤ fuel) (hf2 : 2 * nodeDepth (tagifyTag t) + 1 ≤ fuel) :
    Tag_render (globalsC18 cfg m sha) fuel (embC18 xf tv t) = embRenderedC18 xf tv (renderOfTag cfg t) := by
  first
  | exact absurd h (by decide)
  | skip
  all_goals (
    obtain ⟨f, rfl⟩ : ∃ f, fuel = f + 1 := ⟨fuel - 1, by omega⟩
    rw [Tag_render]
    have htag' : (tagifyTag t).isTag = true := by cases t <;> simp [Node.isTag] at htag; rfl
    have hcls : ∀ u : Node, u.isTag = true → pyClassOf (embC18 xf tv u) = "Tag" := by
      intro u hu; cases u <;> simp [Node.isTag] at hu; rfl
    have e1 := src_tagify_tag_C18 ht1 ht2 (globalsC18 cfg m sha) xf hx tv htv t htag f (by omega)
    have e2 := src_get_dependencies_tag_C18 hd1 hd2 hr (globalsC18 cfg m sha) xf tv (tagifyTag t) htag' f (by omega) true
    have e3 : Tag_get_html_string (globalsC18 cfg m sha) f (embC18 xf tv (tagifyTag t)) (PVal.int 0)
        (PVal.str [Char.ofNat 10]) = _ :=
      src_render_tag_C18 hg1 hg2 hn he hs cfg ht ha m sha xf tv (tagifyTag t) htag' f (by omega) 0 ['\n']
    simp only [ok_bind, pure_eq_ok, hcls t htag, hcls _ htag', e1, e2, e3, tag_getDeps_entries_C18 _ htag', List.map_map]
    simp only [embRenderedC18, renderOfTag, renderTagChecked]
    by_cases hk : (tagifyTag t).hasTobj = true
    · simp [hk, embErr]
    · simp [hk, kDependenciesC18, kHtmlC18, Function.comp_def])

/-- with `C09_render`: `TagList.render()` never raises; it returns the markup of the *expanded* tree (default indent, eol,
    add_ws) and the dependencies of the expanded tree, in document order, resolved -/
theorem src_TagList_render_spec (h : TagList_render_available = true)
    (ht1 : Tag_tagify_available = true) (ht2 : TagList_tagify_available = true)
    (hd1 : Tag_get_dependencies_available = true) (hd2 : TagList_get_dependencies_available = true)
    (hr : resolve_dependencies_available = true)
    (hg1 : Tag_get_html_string_available = true) (hg2 : TagList_get_html_string_available = true)
    (hn : normalize_text_available = true) (he : html_escape_available = true) (hs : HTML_as_string_available = true)
    (cfg : Cfg) (ht : keysPlain cfg.textTbl = true) (ha : keysPlain cfg.attrTbl = true)
    (m : PVal) (sha : Str → Option Str) (xf : XfC18) (hx : XfOkC18 xf)
    (ks : Nodes) (fuel : Nat) (hf1 : 2 * kidsDepth ks + 2 ≤ fuel) (hf2 : 2 * kidsDepth ks.expandAll + 2 ≤ fuel) :
    TagList_render (globalsC18 cfg m sha) fuel (tagListOf (embsC18 xf (tvSpecC18 xf) ks))
      = .ok (.dict [(kDependenciesC18, .list ((Tagify.resolveDeps (Tagify.collectDepsKids ks.expandAll)).map
                      fun e => embC18 xf (tvSpecC18 xf) (depNodeC18 e))),
                    (kHtmlC18, .str (renderList cfg ks.expandAll 0 ['\n'] true true))]) := by
  have hspec := C09.C09_render cfg ks
  rw [src_TagList_render h ht1 ht2 hd1 hd2 hr hg1 hg2 hn he hs cfg ht ha m sha xf hx (tvSpecC18 xf) (tvSpecC18_ok xf) ks fuel hf1
    (by rw [C09.C09_tagify_is_spec]; exact hf2)]
  simp only [embRenderedC18, hspec.1, hspec.2]

/-- `html_dependency_render_mode` as the Python value the package attribute holds -/
def embModeC18 : Ident.RenderMode → PVal
  | .invisible => .str ['i', 'n', 'v', 'i', 's', 'i', 'b', 'l', 'e']
  | .json => .str ['j', 's', 'o', 'n']

/-- the field the primitive `pySerializeToScriptJsonC18` reads: every dependency object records, under
    `serialize_to_script_json`, the `<script>` Tag the model says the (untranslated) method returns for it
    (`serNode`, Model/TextDoc.lean) -/
def xfSerC18 (cfg : Cfg) : XfC18 := fun d hh hd =>
  [("serialize_to_script_json", embC18 xfNilC18 (fun _ => PVal.none) (serNode none (sdepOfNode cfg d hh hd)))]

theorem xfSerC18_ok (cfg : Cfg) : XfOkC18 (xfSerC18 cfg) :=
  fun _ _ _ => ⟨by simp [xfSerC18, fieldGet?], by simp [xfSerC18]⟩

theorem pySerialize_dep_C18 (cfg : Cfg) (tv : Node → PVal) (e : Tagify.DepEntry) :
    pySerializeToScriptJsonC18 (embC18 (xfSerC18 cfg) tv (depNodeC18 e))
      = .ok (embC18 xfNilC18 (fun _ => PVal.none) (serNode none (sdepOfNode cfg e.1 e.2.1 e.2.2))) := by
  simp [depNodeC18, embC18, pySerializeToScriptJsonC18, embDepFields, fieldGet?, xfSerC18]

/-- `_render_tag_or_taglist(x)` as the source has it = `strOfRendered` (Model/ReadOps.lean) of what `x.render()`
    returns, in both render modes: given the tie of `x.render()` for the receiver at hand.  `hser` is a condition on the
    tables: the serialised `<script>` element is rendered verbatim (C13_element_render, for the tables of the source). -/
theorem src_render_tag_or_taglist_gen (h : render_tag_or_taglist_available = true)
    (hg1 : Tag_get_html_string_available = true) (hg2 : TagList_get_html_string_available = true)
    (hn : normalize_text_available = true) (he : html_escape_available = true) (hs : HTML_as_string_available = true)
    (cfg : Cfg) (ht : keysPlain cfg.textTbl = true) (ha : keysPlain cfg.attrTbl = true)
    (hser : ∀ d : SDep, (serNode none d).render cfg 0 ['\n'] = tdSerialize none d)
    (mode : Ident.RenderMode) (sha : Str → Option Str) (tv : Node → PVal) (x : PVal) (r : Rendered) (f : Nat) (hf : 2 ≤ f)
    (hcls : pyClassOf x = "Tag" ∨ pyClassOf x = "TagList")
    (hT : pyClassOf x = "Tag" →
      Tag_render (globalsC18 cfg (embModeC18 mode) sha) f x = embRenderedC18 (xfSerC18 cfg) tv r)
    (hL : pyClassOf x = "TagList" →
      TagList_render (globalsC18 cfg (embModeC18 mode) sha) f x = embRenderedC18 (xfSerC18 cfg) tv r) :
    render_tag_or_taglist (globalsC18 cfg (embModeC18 mode) sha) (f + 1) x
      = embRes PVal.str (Ident.strOfRendered cfg mode r) := by
  first
  | exact absurd h (by decide)
  | skip
  all_goals (
    rw [render_tag_or_taglist]
    have hrender : ∀ d : SDep, Tag_get_html_string (globalsC18 cfg (embModeC18 mode) sha) f
        (embC18 xfNilC18 (fun _ => PVal.none) (serNode none d)) (PVal.int 0) (PVal.str [Char.ofNat 10])
          = .ok (.str (tdSerialize none d)) := by
      intro d
      have := src_render_tag_C18 hg1 hg2 hn he hs cfg ht ha (embModeC18 mode) sha xfNilC18 (fun _ => PVal.none)
        (serNode none d) rfl f (by simp [serNode, nodeDepth, kidsDepth]; omega) 0 ['\n']
      rw [hser d] at this
      simpa [serNode, Node.hasTobj, Nodes.visible, Node.isMeta, inlineChild?] using this
    have hclsS : ∀ d : SDep, pyClassOf (embC18 xfNilC18 (fun _ => PVal.none) (serNode none d)) = "Tag" := fun _ => rfl
    have hR : (pyClassOf x = "Tag" ∧ Tag_render (globalsC18 cfg (embModeC18 mode) sha) f x = embRenderedC18 (xfSerC18 cfg) tv r)
        ∨ (pyClassOf x = "TagList" ∧ TagList_render (globalsC18 cfg (embModeC18 mode) sha) f x = embRenderedC18 (xfSerC18 cfg) tv r) := by
      rcases hcls with hc | hc
      · exact Or.inl ⟨hc, hT hc⟩
      · exact Or.inr ⟨hc, hL hc⟩
    rcases hR with ⟨hc, e⟩ | ⟨hc, e⟩ <;> simp only [hc, e, embRenderedC18, Ident.strOfRendered] <;> (
      cases hh : r.html with
      | error e => cases mode <;> simp [embRes]
      | ok html =>
        have hdeps : pyGetItem (PVal.dict [(kDependenciesC18, PVal.list (r.deps.map fun e => embC18 (xfSerC18 cfg) tv (depNodeC18 e))),
            (kHtmlC18, PVal.str html)]) (PVal.str ['d', 'e', 'p', 'e', 'n', 'd', 'e', 'n', 'c', 'i', 'e', 's'])
            = .ok (PVal.list (r.deps.map fun e => embC18 (xfSerC18 cfg) tv (depNodeC18 e))) := by
          simp [pyGetItem, dictGet?, kDependenciesC18]
        have hhtml : pyGetItem (PVal.dict [(kDependenciesC18, PVal.list (r.deps.map fun e => embC18 (xfSerC18 cfg) tv (depNodeC18 e))),
            (kHtmlC18, PVal.str html)]) (PVal.str ['h', 't', 'm', 'l']) = .ok (PVal.str html) := by
          simp [pyGetItem, dictGet?, kDependenciesC18, kHtmlC18]
        simp only [ok_bind, pure_eq_ok, globalsC18_mode, hhtml]
        cases mode with
        | invisible =>
          have hmode : pyEq (embModeC18 .invisible) (PVal.str ['j', 's', 'o', 'n']) = .ok (.bool false) := by
            simp [embModeC18, pyEq]
          simp [hmode, embRes]
        | json =>
          have hmode : pyEq (embModeC18 .json) (PVal.str ['j', 's', 'o', 'n']) = .ok (.bool true) := by
            simp [embModeC18, pyEq]
          simp only [hdeps, hmode, ok_bind, truthy_bool, if_true, pyIter_list]
          refine comp_loop_k id (fun e => embC18 (xfSerC18 cfg) tv (depNodeC18 e))
            (fun e => PVal.str (tdSerialize none (sdepOfNode cfg e.1 e.2.1 e.2.2))) r.deps _
            (fun e _ s => ⟨_, by simp only [pySerialize_dep_C18, ok_bind, pure_eq_ok, hclsS, hrender]; rfl, rfl⟩) _ _ _ ?_
          intro s hs
          simp only [id, List.nil_append] at hs
          subst hs
          rw [show (r.deps.map fun e => PVal.str (tdSerialize none (sdepOfNode cfg e.1 e.2.1 e.2.2)))
              = ((r.deps.map fun e => sdepOfNode cfg e.1 e.2.1 e.2.2).map (tdSerialize none)).map PVal.str by
            simp [List.map_map, Function.comp_def]]
          simp only [ok_bind, pure_eq_ok, pyJoin, pyIter_list, strsOf_map_str, pyAdd_str, pyStr_str]
          simp [embRes, jsonModeStr]))

/-- `_render_tag_or_taglist(taglist)` = `strViewList` (the definition `C08_views_list` is about), both modes, every tree -/
theorem src_render_tag_or_taglist_list (h : render_tag_or_taglist_available = true) (h' : TagList_render_available = true)
    (ht1 : Tag_tagify_available = true) (ht2 : TagList_tagify_available = true)
    (hd1 : Tag_get_dependencies_available = true) (hd2 : TagList_get_dependencies_available = true)
    (hr : resolve_dependencies_available = true)
    (hg1 : Tag_get_html_string_available = true) (hg2 : TagList_get_html_string_available = true)
    (hn : normalize_text_available = true) (he : html_escape_available = true) (hs : HTML_as_string_available = true)
    (cfg : Cfg) (ht : keysPlain cfg.textTbl = true) (ha : keysPlain cfg.attrTbl = true)
    (hser : ∀ d : SDep, (serNode none d).render cfg 0 ['\n'] = tdSerialize none d)
    (mode : Ident.RenderMode) (sha : Str → Option Str) (tv : Node → PVal) (htv : TvOkC18 (xfSerC18 cfg) tv)
    (ks : Nodes) (fuel : Nat) (hf1 : 2 * kidsDepth ks + 3 ≤ fuel) (hf2 : 2 * kidsDepth (tagifyNodes ks) + 3 ≤ fuel) :
    render_tag_or_taglist (globalsC18 cfg (embModeC18 mode) sha) fuel (tagListOf (embsC18 (xfSerC18 cfg) tv ks))
      = embRes PVal.str (Ident.strViewList cfg mode ks) := by
  obtain ⟨f, rfl⟩ : ∃ f, fuel = f + 1 := ⟨fuel - 1, by omega⟩
  exact src_render_tag_or_taglist_gen h hg1 hg2 hn he hs cfg ht ha hser mode sha tv _ (renderOfList cfg ks) f (by omega)
    (Or.inr rfl) (fun hc => by simp [tagListOf, pyClassOf] at hc)
    (fun _ => src_TagList_render h' ht1 ht2 hd1 hd2 hr hg1 hg2 hn he hs cfg ht ha _ sha _ (xfSerC18_ok cfg) tv htv ks f
      (by omega) (by omega))

/-- `_render_tag_or_taglist(tag)` = `strView` (the definition `C08_views` is about), both modes, every tag tree -/
theorem src_render_tag_or_taglist_tag (h : render_tag_or_taglist_available = true) (h' : Tag_render_available = true)
    (ht1 : Tag_tagify_available = true) (ht2 : TagList_tagify_available = true)
    (hd1 : Tag_get_dependencies_available = true) (hd2 : TagList_get_dependencies_available = true)
    (hr : resolve_dependencies_available = true)
    (hg1 : Tag_get_html_string_available = true) (hg2 : TagList_get_html_string_available = true)
    (hn : normalize_text_available = true) (he : html_escape_available = true) (hs : HTML_as_string_available = true)
    (cfg : Cfg) (ht : keysPlain cfg.textTbl = true) (ha : keysPlain cfg.attrTbl = true)
    (hser : ∀ d : SDep, (serNode none d).render cfg 0 ['\n'] = tdSerialize none d)
    (mode : Ident.RenderMode) (sha : Str → Option Str) (tv : Node → PVal) (htv : TvOkC18 (xfSerC18 cfg) tv)
    (t : Node) (htag : t.isTag = true) (fuel : Nat)
    (hf1 : 2 * nodeDepth t + 3 ≤ fuel) (hf2 : 2 * nodeDepth (tagifyTag t) + 3 ≤ fuel) :
    render_tag_or_taglist (globalsC18 cfg (embModeC18 mode) sha) fuel (embC18 (xfSerC18 cfg) tv t)
      = embRes PVal.str (Ident.strView cfg mode t) := by
  obtain ⟨f, rfl⟩ : ∃ f, fuel = f + 1 := ⟨fuel - 1, by omega⟩
  have hc : pyClassOf (embC18 (xfSerC18 cfg) tv t) = "Tag" := by cases t <;> simp [Node.isTag] at htag; rfl
  exact src_render_tag_or_taglist_gen h hg1 hg2 hn he hs cfg ht ha hser mode sha tv _ (renderOfTag cfg t) f (by omega)
    (Or.inl hc)
    (fun _ => src_Tag_render h' ht1 ht2 hd1 hd2 hr hg1 hg2 hn he hs cfg ht ha _ sha _ (xfSerC18_ok cfg) tv htv t htag f
      (by omega) (by omega))
    (fun hc' => by rw [hc] at hc'; exact absurd hc' (by decide))

/-- `TagList.__str__`: `return _render_tag_or_taglist(self)` -/
theorem src_TagList_str (h0 : TagList_str_available = true)
    (h : render_tag_or_taglist_available = true) (h' : TagList_render_available = true)
    (ht1 : Tag_tagify_available = true) (ht2 : TagList_tagify_available = true)
    (hd1 : Tag_get_dependencies_available = true) (hd2 : TagList_get_dependencies_available = true)
    (hr : resolve_dependencies_available = true)
    (hg1 : Tag_get_html_string_available = true) (hg2 : TagList_get_html_string_available = true)
    (hn : normalize_text_available = true) (he : html_escape_available = true) (hs : HTML_as_string_available = true)
    (cfg : Cfg) (ht : keysPlain cfg.textTbl = true) (ha : keysPlain cfg.attrTbl = true)
    (hser : ∀ d : SDep, (serNode none d).render cfg 0 ['\n'] = tdSerialize none d)
    (mode : Ident.RenderMode) (sha : Str → Option Str) (tv : Node → PVal) (htv : TvOkC18 (xfSerC18 cfg) tv)
    (ks : Nodes) (fuel : Nat) (hf1 : 2 * kidsDepth ks + 4 ≤ fuel) (hf2 : 2 * kidsDepth (tagifyNodes ks) + 4 ≤ fuel) :
    TagList_str (globalsC18 cfg (embModeC18 mode) sha) fuel (tagListOf (embsC18 (xfSerC18 cfg) tv ks))
      = embRes PVal.str (Ident.strViewList cfg mode ks) := by
  first
  | exact absurd h0 (by decide)
  | skip
  all_goals (
    obtain ⟨f, rfl⟩ : ∃ f, fuel = f + 1 := ⟨fuel - 1, by omega⟩
    rw [TagList_str]
    rw [src_render_tag_or_taglist_list h h' ht1 ht2 hd1 hd2 hr hg1 hg2 hn he hs cfg ht ha hser mode sha tv htv ks f
      (by omega) (by omega)])

/-- `Tag.__str__`: `return _render_tag_or_taglist(self)` -/
theorem src_Tag_str (h0 : Tag_str_available = true)
    (h : render_tag_or_taglist_available = true) (h' : Tag_render_available = true)
    (ht1 : Tag_tagify_available = true) (ht2 : TagList_tagify_available = true)
    (hd1 : Tag_get_dependencies_available = true) (hd2 : TagList_get_dependencies_available = true)
    (hr : resolve_dependencies_available = true)
    (hg1 : Tag_get_html_string_available = true) (hg2 : TagList_get_html_string_available = true)
    (hn : normalize_text_available = true) (he : html_escape_available = true) (hs : HTML_as_string_available = true)
    (cfg : Cfg) (ht : keysPlain cfg.textTbl = true) (ha : keysPlain cfg.attrTbl = true)
    (hser : ∀ d : SDep, (serNode none d).render cfg 0 ['\n'] = tdSerialize none d)
    (mode : Ident.RenderMode) (sha : Str → Option Str) (tv : Node → PVal) (htv : TvOkC18 (xfSerC18 cfg) tv)
    (t : Node) (htag : t.isTag = true) (fuel : Nat)
    (hf1 : 2 * nodeDepth t + 4 ≤ fuel) (hf2 : 2 * nodeDepth (tagifyTag t) + 4 ≤ fuel) :
    Tag_str (globalsC18 cfg (embModeC18 mode) sha) fuel (embC18 (xfSerC18 cfg) tv t)
      = embRes PVal.str (Ident.strView cfg mode t) := by
  first
  | exact absurd h0 (by decide)
  | skip
  all_goals (
    obtain ⟨f, rfl⟩ : ∃ f, fuel = f + 1 := ⟨fuel - 1, by omega⟩
    rw [Tag_str]
    rw [src_render_tag_or_taglist_tag h h' ht1 ht2 hd1 hd2 hr hg1 hg2 hn he hs cfg ht ha hser mode sha tv htv t htag f
      (by omega) (by omega)])

/-- the condition `hser` for the tables as they are in the source right now: the serialised element is rendered as OPEN,
    the body verbatim, CLOSE (`script` is a no-escape tag; the two attribute values need no escaping) -/
theorem src_ser_render_now_C18 (d : SDep) : (serNode none d).render cfgNow 0 ['\n'] = tdSerialize none d := by
  have hne : (['s', 'c', 'r', 'i', 'p', 't'] : Str) ∈ cfgNow.noesc := by decide
  have ha : htmlEscapeT cfgNow.attrTbl ['a', 'p', 'p', 'l', 'i', 'c', 'a', 't', 'i', 'o', 'n', '/', 'j', 's', 'o', 'n']
      = ['a', 'p', 'p', 'l', 'i', 'c', 'a', 't', 'i', 'o', 'n', '/', 'j', 's', 'o', 'n'] := by decide
  have hb : htmlEscapeT cfgNow.attrTbl [] = [] := by decide
  simp [serNode, Node.render, Nodes.visible, Node.isMeta, inlineChild?, inlineText, hne, openTag, renderAttrs,
    emitAttrVal, ha, hb, closeTag, indentStr, tdSerialize, openMarker, closeMarker]

/-- `str(taglist)` for the tables of the source as they are now, in both render modes -/
theorem src_TagList_str_now (h0 : TagList_str_available = true)
    (h : render_tag_or_taglist_available = true) (h' : TagList_render_available = true)
    (ht1 : Tag_tagify_available = true) (ht2 : TagList_tagify_available = true)
    (hd1 : Tag_get_dependencies_available = true) (hd2 : TagList_get_dependencies_available = true)
    (hr : resolve_dependencies_available = true)
    (hg1 : Tag_get_html_string_available = true) (hg2 : TagList_get_html_string_available = true)
    (hn : normalize_text_available = true) (he : html_escape_available = true) (hs : HTML_as_string_available = true)
    (mode : Ident.RenderMode) (ks : Nodes) :
    TagList_str (globalsC18 cfgNow (embModeC18 mode) (fun _ => none))
        (2 * max (kidsDepth ks) (kidsDepth (tagifyNodes ks)) + 4)
        (tagListOf (embsC18 (xfSerC18 cfgNow) (tvSpecC18 (xfSerC18 cfgNow)) ks))
      = embRes PVal.str (Ident.strViewList cfgNow mode ks) :=
  src_TagList_str h0 h h' ht1 ht2 hd1 hd2 hr hg1 hg2 hn he hs cfgNow src_tables_ok.1 src_tables_ok.2.1 src_ser_render_now_C18
    mode _ _ (tvSpecC18_ok _) ks _ (by omega) (by omega)

/-- `hash_deterministic(s)`: `hashlib.sha1(s.encode("utf-8")).hexdigest()` is the digest function `H` the interpreter
    supplies (a parameter of the model, `headContent … H …`; the driver runs the executable `Model/Sha1.lean`) -/
theorem src_hash_deterministic (h : hash_deterministic_available = true) (G : Globals) (H : Str → Str)
    (hG : G.sha1HexC18 = fun x => some (H x)) (s : Str) :
    hash_deterministic G (.str s) = .ok (.str (H s)) := by
  first
  | exact absurd h (by decide)
  | skip
  all_goals (
    unfold hash_deterministic
    simp [pySha1HexC18, hG])

/-- the module constants of `head_content`: additionally what `packaging` answers for a version string -/
def globalsHeadC18 (cfg : Cfg) (mode : PVal) (sha : Str → Option Str) (mkv : Str → Option PVal) : Globals :=
  { globalsC18 cfg mode sha with mkVersion := mkv }

theorem pyAdd_globalsHeadC18 (cfg : Cfg) (m : PVal) (sha : Str → Option Str) (mkv : Str → Option PVal) :
    pyAdd (globalsHeadC18 cfg m sha mkv) = pyAdd (globalsOf cfg) := rfl
theorem html_escape_globalsHeadC18 (cfg : Cfg) (m : PVal) (sha : Str → Option Str) (mkv : Str → Option PVal) :
    html_escape (globalsHeadC18 cfg m sha mkv) = html_escape (globalsOf cfg) := rfl
theorem normalize_text_globalsHeadC18 (cfg : Cfg) (m : PVal) (sha : Str → Option Str) (mkv : Str → Option PVal) :
    normalize_text (globalsHeadC18 cfg m sha mkv) = normalize_text (globalsOf cfg) := rfl
theorem globalsHeadC18_void (cfg : Cfg) (m : PVal) (sha : Str → Option Str) (mkv : Str → Option PVal) :
    (globalsHeadC18 cfg m sha mkv).VOID_TAG_NAMES = (globalsOf cfg).VOID_TAG_NAMES := rfl
theorem globalsHeadC18_noesc (cfg : Cfg) (m : PVal) (sha : Str → Option Str) (mkv : Str → Option PVal) :
    (globalsHeadC18 cfg m sha mkv).NO_ESCAPE_TAG_NAMES = (globalsOf cfg).NO_ESCAPE_TAG_NAMES := rfl

theorem embStored_nodes_C18 (s : TL) (h : Inv s) : s.map embStored = s.nodes.map embNode := by
  induction s with
  | nil => rfl
  | cons x r ih =>
    have hx := h x (by simp)
    have ih' := ih (fun y hy => h y (by simp [hy]))
    cases x with
    | node n => simp [TL.nodes, embStored, Stored.toArg, embA, ih']
    | raw a => simp [Stored.isNode] at hx

theorem embNodes_ofList_C18 (l : List Node) : embNodes (Nodes.ofList l) = l.map embNode := by
  induction l with
  | nil => rfl
  | cons a t ih => simp [Nodes.ofList, embNodes, ih]

theorem headItem_embNode_C18 (n : Node) : headItemC10b (embNode n) = .ok [embNode n] ∧ isNestedSeqC10b (embNode n) = false := by
  cases n with
  | tobjL rh c => cases rh <;> simp [embNode, headItemC10b, isNestedSeqC10b, isInstance, classBases]
  | tobj1 rh c => cases rh <;> simp [embNode, headItemC10b, isNestedSeqC10b, isInstance, classBases]
  | _ => simp [embNode, headItemC10b, isNestedSeqC10b, isInstance, classBases]

theorem headItems_embNode_C18 (l : List Node) : headItemsC10b (l.map embNode) = .ok (l.map embNode) := by
  induction l with
  | nil => rfl
  | cons a t ih => simp [headItemsC10b, (headItem_embNode_C18 a).1, ih]

/-- `TagList(head)` for a `head` that already is a TagList of normalised nodes -/
theorem pyTagList1_nodes_C18 (l : List Node) :
    pyTagList1 (.obj "TagList" [("data", .list (l.map embNode))]) = .ok (tagListObjC10b (l.map embNode)) := by
  have hn : (l.map embNode).any isNestedSeqC10b = false := by
    simp [List.any_eq_false, (headItem_embNode_C18 _).2]
  simp [pyTagList1, fieldGet?, headSeqC10b, hn, headItems_embNode_C18]

/-- the dependency `head_content` returns, as the instance `HTMLDependency.__init__` builds (Lemmas/SrcC10b.lean) -/
def embHeadDepC18 : Node → PVal
  | .dep d _ hd => embDepObjC10b "HTMLDependency" PVal.none d (tagListObjC10b (embNodes hd))
  | _ => PVal.none

/-- `head_content(*args)` as the source has it = `headContent` (Model/HeadContent.lean) on the child list
    `TagList(*args)` builds (`TL.init`, Model/Children.lean; TypeError for an argument that is no tag child): the name is
    "headcontent_" + the digest `H` of the rendered list, the version "0.0", the head the list itself; RuntimeError when
    the list holds an un-expanded tagifiable object that does not render itself.  `H` and the rank `packaging` gives
    version 0.0 are parameters.  (Attributes compared through `projDepC10b`: the assignment order of `__init__` is not
    part of the statement, as in Props/SrcC10b.lean.) -/
theorem src_head_content (h : head_content_available = true) (hh : hash_deterministic_available = true)
    (hi : TagList_init_available = true) (hc : tagchilds_to_tagnodes_available = true)
    (hf' : util_flatten_available = true) (hr' : util_flatten_recurse_available = true) (hnn : is_tag_node_available = true)
    (hg1 : Tag_get_html_string_available = true) (hg2 : TagList_get_html_string_available = true)
    (hn : normalize_text_available = true) (he : html_escape_available = true) (hs : HTML_as_string_available = true)
    (hd0 : HTMLDependency_init_available = true) (hd1 : HTMLDependency_validate_dicts_available = true)
    (hd2 : HTMLDependency_validate_dict_available = true)
    (cfg : Cfg) (ht : keysPlain cfg.textTbl = true) (ha : keysPlain cfg.attrTbl = true)
    (m : PVal) (H : Str → Str) (vrank0 : Nat) (mkv : Str → Option PVal)
    (hmk : mkv ['0', '.', '0'] = some (versionObjC10b vrank0 ['0', '.', '0']))
    (args : List Arg) (hr : args.all argRep = true) (fuel : Nat)
    (hf1 : argsFdepth (Args.ofList args) + 4 < fuel)
    (hf2 : ∀ s, TL.init args = .ok s → 2 * kidsDepth (Nodes.ofList s.nodes) + 2 ≤ fuel) :
    projDepC10b <$> head_content (globalsHeadC18 cfg m (fun x => some (H x)) mkv) fuel (.tuple (args.map embA))
      = match TL.init args with
        | .error e => .error (embErr e)
        | .ok s => embRes embHeadDepC18 (headContent cfg H vrank0 (Nodes.ofList s.nodes)) := by
  first
  | exact absurd h (by decide)
  | skip
  all_goals (
    obtain ⟨f, rfl⟩ : ∃ f, fuel = f + 1 := ⟨fuel - 1, by omega⟩
    rw [head_content]
    have e1 := src_TagList_init hi hc hf' hr' hnn (globalsHeadC18 cfg m (fun x => some (H x)) mkv) args hr f (by omega)
    simp only [pyIter_tuple, ok_bind, pure_eq_ok, e1]
    cases hinit : TL.init args with
    | error e => simp [embRes]
    | ok s =>
      have hinv : Inv s := (C14.C14_new_lists_inv [] s).1 args hinit
      have hdata : embTL s = .obj "TagList" [("data", .list (embNodes (Nodes.ofList s.nodes)))] := by
        simp [embTL, embStored_nodes_C18 s hinv, embNodes_ofList_C18]
      have hcls : pyClassOf (embTL s) = "TagList" := rfl
      have e2 : TagList_get_html_string (globalsHeadC18 cfg m (fun x => some (H x)) mkv) f (embTL s) (PVal.int 0)
          (PVal.str [Char.ofNat 10]) (PVal.bool true) (PVal.bool true)
          = if (Nodes.ofList s.nodes).hasTobjKids then .error .runtimeError
            else .ok (.str (renderList cfg (Nodes.ofList s.nodes) 0 ['\n'] true true)) := by
        rw [hdata, embNodes_toList]
        exact (render_depth hg1 hg2 (globalsHeadC18 cfg m (fun x => some (H x)) mkv) cfg
          (renderGlobals_of_tables hn he hs _ cfg rfl rfl rfl rfl ht ha)
          _ renderEmb_embNode (kidsDepth (Nodes.ofList s.nodes))).2 _ (Nat.le_refl _) f (by have := hf2 s hinit; omega) 0 ['\n'] true true
      simp only [embRes, ok_bind, pure_eq_ok, hcls, e2, headContent, renderListChecked]
      by_cases hk : (Nodes.ofList s.nodes).hasTobjKids = true
      · simp [hk, embErr]
      · simp only [hk, Bool.false_eq_true, if_false, ok_bind]
        have e3 := src_hash_deterministic hh (globalsHeadC18 cfg m (fun x => some (H x)) mkv) H rfl
          (renderList cfg (Nodes.ofList s.nodes) 0 ['\n'] true true)
        have hadd : ∀ a b : Str, pyAdd (globalsHeadC18 cfg m (fun x => some (H x)) mkv) (.str a) (.str b) = .ok (.str (a ++ b)) :=
          fun _ _ => rfl
        simp only [e3, ok_bind, hadd]
        let a : DepArgV := { name := headcontentPrefix ++ H (renderList cfg (Nodes.ofList s.nodes) 0 ['\n'] true true),
                             version := ['0', '.', '0'], verOk := true, vrank := vrank0, source := .none, script := .none,
                             stylesheet := .none, metas := .none, allFiles := false }
        have e4 : projDepC10b <$> HTMLDependency_init (globalsHeadC18 cfg m (fun x => some (H x)) mkv) (PVal.obj "HTMLDependency" [])
            (PVal.str (['h', 'e', 'a', 'd', 'c', 'o', 'n', 't', 'e', 'n', 't', '_'] ++ H (renderList cfg (Nodes.ofList s.nodes) 0 ['\n'] true true)))
            (PVal.str ['0', '.', '0']) PVal.none PVal.none PVal.none (PVal.bool false) PVal.none (embTL s) = _ :=
          src_init hd0 hd1 hd2 (globalsHeadC18 cfg m (fun x => some (H x)) mkv) "HTMLDependency" a (.str ['0', '.', '0'])
            (Or.inl ⟨_, rfl, hmk⟩) (.node (embTL s) rfl rfl)
        rw [e4]
        have hres : (HeadV.node (embTL s) rfl rfl).res = .ok (tagListObjC10b (embNodes (Nodes.ofList s.nodes))) := by
          simp only [HeadV.res, hdata, embNodes_ofList_C18, pyTagList1_nodes_C18]
        simp [depInit, DepArgV.toArg, ItemsV.toArg, SourceV.toArg, checkSource, normItems, a, hres, embHeadDepC18, SourceV.emb,
          headcontentPrefix])

end HtmlVerif.SrcTie
