/-
Source tie (DESIGN §14) for the renderer: the Lean functions regenerated from the text of `Tag.get_html_string` and
`TagList.get_html_string` (a `mutual` pair, recursion bounded by fuel) compute, for every tree, what the model
(`Node.render` / `Nodes.renderKids`, Model/Render.lean) computes — including the RuntimeError for an un-expanded
tagifiable object that is not self-rendering.  Obligations of C05, C06, C07 (and of C01, C02, C04 through the model).

No loop body is spelled out: the three loops (attributes, the comprehension filtering metadata, the child loop) are
taken from the regenerated definitions by unification; what is proved about each is its effect on one pass.

Stated once (`taglist_step`, `tag_step`, `render_depth`) for any module constants with the tables of `cfg` (`RenderGlobals`)
and any embedding of the nodes that shows the renderer what it reads (`RenderEmb`, Lemmas/SrcRender.lean); the theorems
on `embNode` and `globalsOf cfg` below are one instance.
-/
import HtmlVerif.Generated.Src
import HtmlVerif.Lemmas.SrcRender
import HtmlVerif.Props.SrcEscape
import HtmlVerif.Lemmas.PyClass

namespace HtmlVerif.SrcTie
open HtmlVerif HtmlVerif.Py HtmlVerif.Generated.Src

/-- the module constants and the two text functions as the renderer sees them: `G` has the tables of `cfg` -/
structure RenderGlobals (G : Globals) (cfg : Cfg) : Prop where
  void : G.VOID_TAG_NAMES = cfg.void
  noesc : G.NO_ESCAPE_TAG_NAMES = cfg.noesc
  escape : ∀ (s : Str) (attr : Bool),
    html_escape G (.str s) (.bool attr) = .ok (.str (htmlEscapeT (if attr then cfg.attrTbl else cfg.textTbl) s))
  normalize : ∀ (s : Str) (isHtml : Bool),
    normalize_text G (if isHtml then .html s else .str s) = .ok (.str (if isHtml then s else escText cfg s))

/-- the child loop: given the tie for the tag children at this fuel -/
theorem taglist_step (h : TagList_get_html_string_available = true) (G : Globals) (cfg : Cfg) (hG : RenderGlobals G cfg)
    (E : Node → PVal) (hE : RenderEmb E) (fuel : Nat) (ks : Nodes) (i : Nat) (eol : Str) (aw esc : Bool)
    (HP : ∀ c ∈ ks.toList, c.isTag = true → ∀ (j : Nat) (e : Str),
      Tag_get_html_string G fuel (E c) (.int j) (.str e)
        = if c.hasTobj then .error .runtimeError else .ok (.str (c.render cfg j e))) :
    TagList_get_html_string G (fuel + 1) (.obj "TagList" [("data", .list (ks.toList.map E))]) (.int i) (.str eol) (.bool aw) (.bool esc)
      = if ks.hasTobjKids then .error .runtimeError else .ok (.str (renderList cfg ks i eol aw esc)) := by
  first
  | exact absurd h (by decide)
  | skip
  all_goals (
    rw [TagList_get_html_string]
    simp only [ok_bind, pure_eq_ok, truthy_bool, pyIter_taglist]
    have hnt := fun s => hG.normalize s false
    simp only [Bool.false_eq_true, if_false] at hnt
    refine child_loop E hE cfg ks i eol aw esc _ _ ?hmeta ?hrepr ?htobj ?htext ?htag
    case hmeta =>
      intro v acc first prev r hm
      exact Sim.yield_ok _ (by simp [hm]; rfl) ⟨rfl, rfl, rfl⟩
    case hrepr =>
      intro v t acc first prev r hv
      cases first <;> cases prev <;>
        exact Sim.yield_ok _ (by simp [hv.notMeta, hv.notTag, hv.isRepr, hv.repr, pyOr, pyAnd, pyMul_indent, pyAdd_str]; rfl)
          (by simp [RKS, leafStep])
    case htobj =>
      intro v acc first prev r hv
      cases first <;> cases prev <;> simp [hv.notMeta, hv.notTag, hv.notRepr, hv.tagifiable, pyOr, pyAnd, pyAdd_str]
    case htext =>
      intro t acc first prev r
      cases first <;> cases prev <;> cases esc <;>
        exact Sim.yield_ok _ (by simp [isInstance, builtinClasses, pyOr, pyAnd, pyMul_indent, pyAdd_str, hnt]; rfl)
          (by simp [RKS, leafStep])
    case htag =>
      intro c hc hct acc first prev r
      cases c <;> simp [Node.isTag] at hct
      rename_i nm ws at' kk
      rw [kidStep_tag]
      have hp := HP _ hc rfl
      have hp0 : Tag_get_html_string G fuel (E (Node.tag nm ws at' kk)) (PVal.int 0) (PVal.str []) = _ := hp 0 []
      have hcls : pyClassOf (E (Node.tag nm ws at' kk)) = "Tag" := by rw [hE.tag]; rfl
      have hws : pyGetAttr (E (Node.tag nm ws at' kk)) "add_ws" = .ok (.bool ws) := by
        rw [hE.tag]; simp [pyGetAttr, fieldGet?]
      have hit : isInstance (E (Node.tag nm ws at' kk)) ["Tag"] = true := by rw [hE.tag]; simp [isInstance]
      have him := hE.isMeta (Node.tag nm ws at' kk)
      by_cases hto : (Node.tag nm ws at' kk).hasTobj = true
      · simp only [hto, if_true] at hp hp0 ⊢
        cases first <;> cases prev <;> cases ws <;>
          simp [Sim, embErr, hp, hp0, hcls, hws, hit, him, Node.isMeta, pyOr, pyAnd, pyAdd_str]
      · simp only [hto, Bool.false_eq_true, if_false] at hp hp0 ⊢
        cases first <;> cases prev <;> cases ws <;>
          exact Sim.yield_ok _ (by simp [hp, hp0, hcls, hws, hit, him, Node.isMeta, pyOr, pyAnd, pyAdd_str]; rfl) (by simp [RKS, leafStep]))

/-- a tag: given the tie for its child list at this fuel -/
theorem tag_step (h : Tag_get_html_string_available = true) (G : Globals) (cfg : Cfg) (hG : RenderGlobals G cfg)
    (E : Node → PVal) (hE : RenderEmb E) (fuel : Nat) (nm : Str) (ws : Bool) (at' : Attrs) (kk : Nodes) (i : Nat) (eol : Str)
    (HQ : ∀ (j : Nat) (e : Str) (aw esc : Bool),
      TagList_get_html_string G fuel (.obj "TagList" [("data", .list (kk.toList.map E))]) (.int j) (.str e) (.bool aw) (.bool esc)
        = if kk.hasTobjKids then .error .runtimeError else .ok (.str (renderList cfg kk j e aw esc))) :
    Tag_get_html_string G (fuel + 1) (E (.tag nm ws at' kk)) (.int i) (.str eol)
      = if (Node.tag nm ws at' kk).hasTobj then .error .runtimeError
        else .ok (.str ((Node.tag nm ws at' kk).render cfg i eol)) := by
  first
  | exact absurd h (by decide)
  | skip
  all_goals (
    rw [Tag_get_html_string]
    have g1 : pyGetAttr (E (.tag nm ws at' kk)) "name" = .ok (.str nm) := by rw [hE.tag]; simp [pyGetAttr, fieldGet?]
    have g2 : pyGetAttr (E (.tag nm ws at' kk)) "attrs" = .ok (embAttrs at') := by rw [hE.tag]; simp [pyGetAttr, fieldGet?]
    have g3 : pyGetAttr (E (.tag nm ws at' kk)) "children" = .ok (.obj "TagList" [("data", .list (kk.toList.map E))]) := by
      rw [hE.tag]; simp [pyGetAttr, fieldGet?]
    have g4 : pyGetAttr (E (.tag nm ws at' kk)) "add_ws" = .ok (.bool ws) := by rw [hE.tag]; simp [pyGetAttr, fieldGet?]
    have hesc := fun x => hG.escape x true
    simp only [if_true] at hesc
    have hntT := fun s => hG.normalize s false
    have hntH := fun s => hG.normalize s true
    simp only [Bool.false_eq_true, if_false, if_true] at hntT hntH
    simp only [ok_bind, pure_eq_ok, truthy_bool, g1, g2, g3, g4, pyMul_indent, pyAdd_str, embAttrs, pyItems_dict, pyIter_list,
      List.map_map]
    refine attr_loop_k cfg at' (indentStr i ++ ['<'] ++ nm) _ _ (by simp [Function.comp_def]) _ ?hA _ _ ?hk
    case hA =>
      intro kv _ s b hs
      obtain ⟨k, v⟩ := kv
      obtain ⟨s1, s2⟩ := s
      simp only at hs; subst hs
      cases v <;> simp [isInstance, builtinClasses, hesc, pyConcat, attrText, emitAttrVal, pyAdd_str]
    case hk =>
      intro s hs
      obtain ⟨s1, s2⟩ := s
      simp only at hs; subst hs
      simp only [pyIter_taglist, ok_bind]
      rw [vis_loop E kk _ (by intro c _ s; rw [hE.isMeta]; cases c.isMeta <;> rfl)]
      simp only [ok_bind, pyLen, pure_eq_ok, List.length_map, pyIn_names, hG.void, hG.noesc, pyAdd_str]
      have hvis : (Node.tag nm ws at' kk).hasTobj = (if kk.visible.isEmpty then false else match inlineChild? kk.visible with
          | some _ => false
          | none => kk.hasTobjKids) := by rw [Node.hasTobj]; rfl
      rw [hvis, Node.render]
      cases hv : kk.visible with
      | nil =>
        by_cases hvoid : nm ∈ cfg.void <;>
          simp [hv, hvoid, pyEq, pyAnd, pyOr, truthy_list, openTag, closeTag, List.append_assoc]
      | cons c rest =>
        have hq := HQ (i + 1) eol ws (!cfg.noesc.contains nm)
        have hi1 : pyAdd G (PVal.int ↑i) (PVal.int 1) = .ok (PVal.int ↑(i + 1)) := by
          simp [pyAdd, pyAddBase]
        cases rest with
        | nil =>
          cases hin : inlineChild? [c] with
          | some p =>
            cases c <;> simp [inlineChild?] at hin <;> subst hin <;> by_cases hne : nm ∈ cfg.noesc <;>
              simp [hv, pyEq, pyAnd, pyOr, truthy_list, openTag, closeTag, List.append_assoc, inlineChild?, hE.text, hE.html, isInstance,
                builtinClasses, pyGetItem, inlineText, hne, hntT, hntH, pyStr, escText, pyClassOf, pyAdd_str]
          | none =>
            have hinl := hE.notInline c hin
            by_cases hk : kk.hasTobjKids = true <;>
              simp [hk] at hq <;>
              simp [hv, pyEq, pyAnd, pyOr, truthy_list, openTag, closeTag, List.append_assoc, hin, isInstance_cons2, hinl.1, hinl.2, pyGetItem,
                hi1, hq, hk, pyClassOf, renderList, pyAdd_str] <;>
              cases ws <;> simp
        | cons c2 r2 =>
          have hlen0 : ¬ ((r2.length : Int) + 1 + 1 = 0) := by omega
          have hlen : ¬ ((r2.length : Int) + 1 + 1 = 1) := by omega
          have hin : inlineChild? (c :: c2 :: r2) = none := by cases c <;> rfl
          by_cases hk : kk.hasTobjKids = true <;>
            simp [hk] at hq <;>
            simp [hv, pyEq, pyAnd, pyOr, truthy_list, openTag, closeTag, List.append_assoc, hin, hlen, hlen0,
              hi1, hq, hk, pyClassOf, renderList, pyAdd_str] <;>
            cases ws <;> simp)

/-- what `get_html_string` returns according to the model -/
def tagChecked (cfg : Cfg) (t : Node) (i : Nat) (eol : Str) : PyM PVal :=
  if t.hasTobj then .error .runtimeError else .ok (.str (t.render cfg i eol))

def listChecked (cfg : Cfg) (ks : Nodes) (i : Nat) (eol : Str) (aw esc : Bool) : PyM PVal :=
  if ks.hasTobjKids then .error .runtimeError else .ok (.str (renderList cfg ks i eol aw esc))

/-- both functions, for all trees of nesting depth ≤ n, with any fuel that covers the depth: whatever the module
    constants hold besides the tables of `cfg`, and whatever the embedding records beyond what rendering reads -/
theorem render_depth (h1 : Tag_get_html_string_available = true) (h2 : TagList_get_html_string_available = true)
    (G : Globals) (cfg : Cfg) (hG : RenderGlobals G cfg) (E : Node → PVal) (hE : RenderEmb E) (n : Nat) :
    (∀ t : Node, t.isTag = true → nodeDepth t ≤ n → ∀ fuel, 2 * n ≤ fuel → ∀ (i : Nat) (eol : Str),
        Tag_get_html_string G fuel (E t) (.int i) (.str eol) = tagChecked cfg t i eol)
    ∧ (∀ ks : Nodes, kidsDepth ks ≤ n → ∀ fuel, 2 * n + 1 ≤ fuel → ∀ (i : Nat) (eol : Str) (aw esc : Bool),
        TagList_get_html_string G fuel (.obj "TagList" [("data", .list (ks.toList.map E))]) (.int i) (.str eol)
          (.bool aw) (.bool esc) = listChecked cfg ks i eol aw esc) :=
  depth_induction
    (P := fun f t => ∀ (i : Nat) (eol : Str), Tag_get_html_string G f (E t) (.int i) (.str eol) = tagChecked cfg t i eol)
    (Q := fun f ks => ∀ (i : Nat) (eol : Str) (aw esc : Bool),
      TagList_get_html_string G f (.obj "TagList" [("data", .list (ks.toList.map E))]) (.int i) (.str eol) (.bool aw) (.bool esc)
        = listChecked cfg ks i eol aw esc)
    (fun f ks HP i eol aw esc => taglist_step h2 G cfg hG E hE f ks i eol aw esc HP)
    (fun f nm ws at' kk HQ i eol => tag_step h1 G cfg hG E hE f nm ws at' kk i eol HQ) n

/-- module constants whose four tables are those of `cfg`, whatever else they hold -/
theorem renderGlobals_of_tables (hn : normalize_text_available = true) (he : html_escape_available = true)
    (hs : HTML_as_string_available = true) (G : Globals) (cfg : Cfg)
    (hT : G.HTML_ESCAPE_TABLE = embTbl cfg.textTbl) (hA : G.HTML_ATTRS_ESCAPE_TABLE = embTbl cfg.attrTbl)
    (hV : G.VOID_TAG_NAMES = cfg.void) (hN : G.NO_ESCAPE_TAG_NAMES = cfg.noesc)
    (ht : keysPlain cfg.textTbl = true) (ha : keysPlain cfg.attrTbl = true) : RenderGlobals G cfg :=
  ⟨hV, hN, src_html_escape_of he G cfg hT hA ht ha, src_normalize_text_of hn he hs G cfg hT hA ht ha⟩

theorem renderEmb_embNode : RenderEmb embNode where
  tag nm ws a k := by rw [embNode, embNodes_toList]
  text _ := rfl
  html _ := rfl
  robj _ := ⟨rfl, rfl, rfl, rfl⟩
  tobjL rh _ := by cases rh <;> exact ⟨rfl, rfl, rfl, rfl⟩
  tobj1 rh _ := by cases rh <;> exact ⟨rfl, rfl, rfl, rfl⟩
  isMeta c := by cases c <;> rfl
  notInline c h := by cases c <;> first | exact ⟨rfl, rfl⟩ | cases h

theorem src_taglist_step (h : TagList_get_html_string_available = true) (hn : normalize_text_available = true)
    (he : html_escape_available = true) (hs : HTML_as_string_available = true) (cfg : Cfg) (ht : keysPlain cfg.textTbl = true) (ha : keysPlain cfg.attrTbl = true)
    (fuel : Nat) (ks : Nodes) (i : Nat) (eol : Str) (aw esc : Bool)
    (HP : ∀ c ∈ ks.toList, c.isTag = true → ∀ (j : Nat) (e : Str),
      Tag_get_html_string (globalsOf cfg) fuel (embNode c) (.int j) (.str e)
        = if c.hasTobj then .error .runtimeError else .ok (.str (c.render cfg j e))) :
    TagList_get_html_string (globalsOf cfg) (fuel + 1) (.obj "TagList" [("data", .list (embNodes ks))]) (.int i) (.str eol) (.bool aw) (.bool esc)
      = if ks.hasTobjKids then .error .runtimeError else .ok (.str (renderList cfg ks i eol aw esc)) := by
  rw [embNodes_toList]
  exact taglist_step h _ cfg (renderGlobals_of_tables hn he hs _ cfg rfl rfl rfl rfl ht ha) _ renderEmb_embNode fuel ks i eol aw esc HP

theorem src_tag_step (h : Tag_get_html_string_available = true) (hn : normalize_text_available = true)
    (he : html_escape_available = true) (hs : HTML_as_string_available = true) (cfg : Cfg) (ht : keysPlain cfg.textTbl = true) (ha : keysPlain cfg.attrTbl = true)
    (fuel : Nat) (nm : Str) (ws : Bool) (at' : Attrs) (kk : Nodes) (i : Nat) (eol : Str)
    (HQ : ∀ (j : Nat) (e : Str) (aw esc : Bool),
      TagList_get_html_string (globalsOf cfg) fuel (.obj "TagList" [("data", .list (embNodes kk))]) (.int j) (.str e) (.bool aw) (.bool esc)
        = if kk.hasTobjKids then .error .runtimeError else .ok (.str (renderList cfg kk j e aw esc))) :
    Tag_get_html_string (globalsOf cfg) (fuel + 1) (embNode (.tag nm ws at' kk)) (.int i) (.str eol)
      = if (Node.tag nm ws at' kk).hasTobj then .error .runtimeError
        else .ok (.str ((Node.tag nm ws at' kk).render cfg i eol)) := by
  simp only [embNodes_toList] at HQ
  exact tag_step h _ cfg (renderGlobals_of_tables hn he hs _ cfg rfl rfl rfl rfl ht ha) _ renderEmb_embNode fuel nm ws at' kk i eol HQ

theorem src_render_depth (h1 : Tag_get_html_string_available = true) (h2 : TagList_get_html_string_available = true)
    (hn : normalize_text_available = true) (he : html_escape_available = true) (hs : HTML_as_string_available = true)
    (cfg : Cfg) (ht : keysPlain cfg.textTbl = true) (ha : keysPlain cfg.attrTbl = true) (n : Nat) :
    (∀ t : Node, t.isTag = true → nodeDepth t ≤ n → ∀ fuel, 2 * n ≤ fuel → ∀ (i : Nat) (eol : Str),
        Tag_get_html_string (globalsOf cfg) fuel (embNode t) (.int i) (.str eol) = tagChecked cfg t i eol)
    ∧ (∀ ks : Nodes, kidsDepth ks ≤ n → ∀ fuel, 2 * n + 1 ≤ fuel → ∀ (i : Nat) (eol : Str) (aw esc : Bool),
        TagList_get_html_string (globalsOf cfg) fuel (.obj "TagList" [("data", .list (embNodes ks))]) (.int i) (.str eol)
          (.bool aw) (.bool esc) = listChecked cfg ks i eol aw esc) := by
  simp only [embNodes_toList]
  exact render_depth h1 h2 _ cfg (renderGlobals_of_tables hn he hs _ cfg rfl rfl rfl rfl ht ha) _ renderEmb_embNode n

/-- `Tag.get_html_string(indent, eol)` as the source has it = `Node.render` (RuntimeError iff an un-expanded tagifiable
    object that is not self-rendering is reached), for every tag tree, every indent and every eol -/
theorem src_render_tag (h1 : Tag_get_html_string_available = true) (h2 : TagList_get_html_string_available = true)
    (hn : normalize_text_available = true) (he : html_escape_available = true) (hs : HTML_as_string_available = true)
    (cfg : Cfg) (ht : keysPlain cfg.textTbl = true) (ha : keysPlain cfg.attrTbl = true)
    (t : Node) (htag : t.isTag = true) (fuel : Nat) (hf : 2 * nodeDepth t ≤ fuel) (i : Nat) (eol : Str) :
    Tag_get_html_string (globalsOf cfg) fuel (embNode t) (.int i) (.str eol)
      = if t.hasTobj then .error .runtimeError else .ok (.str (t.render cfg i eol)) :=
  (src_render_depth h1 h2 hn he hs cfg ht ha (nodeDepth t)).1 t htag (Nat.le_refl _) fuel hf i eol

/-- `TagList.get_html_string(indent, eol, add_ws=, _escape_strings=)` as the source has it = `renderList` -/
theorem src_render_list (h1 : Tag_get_html_string_available = true) (h2 : TagList_get_html_string_available = true)
    (hn : normalize_text_available = true) (he : html_escape_available = true) (hs : HTML_as_string_available = true)
    (cfg : Cfg) (ht : keysPlain cfg.textTbl = true) (ha : keysPlain cfg.attrTbl = true)
    (ks : Nodes) (fuel : Nat) (hf : 2 * kidsDepth ks + 1 ≤ fuel) (i : Nat) (eol : Str) (aw esc : Bool) :
    TagList_get_html_string (globalsOf cfg) fuel (.obj "TagList" [("data", .list (embNodes ks))]) (.int i) (.str eol)
      (.bool aw) (.bool esc)
      = if ks.hasTobjKids then .error .runtimeError else .ok (.str (renderList cfg ks i eol aw esc)) :=
  (src_render_depth h1 h2 hn he hs cfg ht ha (kidsDepth ks)).2 ks (Nat.le_refl _) fuel hf i eol aw esc

/-- for the tables as they are in the source right now -/
theorem src_render_tag_now (h1 : Tag_get_html_string_available = true) (h2 : TagList_get_html_string_available = true)
    (hn : normalize_text_available = true) (he : html_escape_available = true) (hs : HTML_as_string_available = true)
    (t : Node) (htag : t.isTag = true) (i : Nat) (eol : Str) :
    Tag_get_html_string (globalsOf cfgNow) (2 * nodeDepth t) (embNode t) (.int i) (.str eol)
      = if t.hasTobj then .error .runtimeError else .ok (.str (t.render cfgNow i eol)) :=
  src_render_tag h1 h2 hn he hs cfgNow src_tables_ok.1 src_tables_ok.2.1 t htag _ (Nat.le_refl _) i eol

end HtmlVerif.SrcTie
