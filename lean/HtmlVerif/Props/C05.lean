/-
C05 — No whitespace is ever injected into inline content.
-/
import HtmlVerif.Spec.Layout
import HtmlVerif.Lemmas.Infix
import HtmlVerif.Lemmas.Render
import HtmlVerif.Lemmas.WsSites

namespace HtmlVerif.C05
open HtmlVerif

mutual
  theorem render_noWs (cfg : Cfg) (t : Node) (ht : t.isTag = true) (h : t.noWs = true) (i : Nat) (e : Str) :
      t.render cfg i e = indentStr i ++ t.flat cfg := by
    cases t with
    | tag name ws attrs kids =>
      obtain ⟨rfl, hk⟩ := noWs_tag h
      cases h1 : kids.oneLine with
      | true => exact render_oneLine cfg name false attrs kids i e h1
      | false =>
        rw [render_loop cfg name false attrs kids i e h1, C05_flat_kids cfg kids (i + 1) e true _ hk]
        simp only [Nodes.oneLine, Bool.or_eq_false_iff] at h1
        simp [Node.flat, h1.1]
    | _ => cases ht
  theorem C05_flat_kids (cfg : Cfg) (ks : Nodes) (i : Nat) (e : Str) (first esc : Bool)
      (h : ks.noWsKids = true) :
      ks.renderKids cfg i e first false esc = ks.flatKids cfg esc := by
    cases ks with
    | nil => rfl
    | cons x t =>
      simp only [Nodes.noWsKids, Bool.and_eq_true] at h
      rw [flatKids_cons]
      cases hm : x.isMeta with
      | true =>
        rw [renderKids_meta cfg t i e first false esc hm, C05_flat_kids cfg t i e first esc h.2, flatIn_meta cfg esc hm]
        rfl
      | false =>
        rw [renderKids_flat cfg t i e first false esc hm h.1 (render_noWs cfg x · h.1),
          C05_flat_kids cfg t i e false esc h.2]
        simp
end

/-- a subtree in which no tag has whitespace enabled renders as the exact concatenation of its open
    tags, content and close tags — for every indent and eol (the only trace of `indent` is the caller's
    leading indentation) -/
theorem C05_flat (cfg : Cfg) (name : Str) (ws : Bool) (attrs : Attrs) (kids : Nodes) (i : Nat) (e : Str)
    (h : (Node.tag name ws attrs kids).noWs = true) :
    (Node.tag name ws attrs kids).render cfg i e = indentStr i ++ (Node.tag name ws attrs kids).flat cfg :=
  render_noWs cfg _ rfl h i e

theorem renderKids_noWs (cfg : Cfg) {h : Node} (t : Nodes) (i : Nat) (e : Str) (first prevWs esc : Bool)
    (hm : h.isMeta = false) (hn : h.noWs = true) :
    (Nodes.cons h t).renderKids cfg i e first prevWs esc
      = (if !first && prevWs then e else []) ++ (if prevWs then indentStr i else [])
        ++ h.flatIn cfg esc ++ t.renderKids cfg i e false false esc :=
  renderKids_flat cfg t i e first prevWs esc hm hn (render_noWs cfg h · hn)

/-- top-level list whose members contain no whitespace-enabled tag, laid out with `add_ws=False` -/
theorem C05_flat_list (cfg : Cfg) (ks : Nodes) (i : Nat) (e : Str) (esc : Bool) (h : ks.noWsKids = true) :
    renderList cfg ks i e false esc = ks.flatKids cfg esc :=
  C05_flat_kids cfg ks i e true esc h

/-! ### contiguity: the flat string appears verbatim wherever the subtree is placed -/

/-- after a whitespace-free child, a run of whitespace-free visible children is written flat, back to back -/
theorem renderKids_run (cfg : Cfg) (run : List Node) (hn : ∀ x ∈ run, x.noWs = true) {ks : Nodes} {post : List Node}
    (hv : ks.visible = run ++ post) (i : Nat) (e : Str) (esc : Bool) :
    ∃ rest : Nodes, ks.renderKids cfg i e false false esc
      = run.flatMap (Node.flatIn cfg esc) ++ rest.renderKids cfg i e false false esc := by
  induction run generalizing ks with
  | nil => exact ⟨ks, rfl⟩
  | cons a run ih =>
    obtain ⟨rest, h1, hm, h3⟩ := renderKids_of_visible cfg hv
    obtain ⟨rest', h'⟩ := ih (fun x hx => hn x (List.mem_cons_of_mem _ hx)) h1
    exact ⟨rest', by rw [h3, renderKids_noWs cfg rest i e false false esc hm (hn a List.mem_cons_self), h']; simp⟩

/-- any run of adjacent visible children none of which contains a whitespace-enabled tag (at any position in
    the list, metadata nodes in between or not) is emitted as the concatenation of their flat forms -/
theorem C05_run (cfg : Cfg) (ks : Nodes) (pre run post : List Node) (hv : ks.visible = pre ++ run ++ post)
    (hn : ∀ x ∈ run, x.noWs = true) (i : Nat) (e : Str) (first prevWs esc : Bool) :
    run.flatMap (Node.flatIn cfg esc) <:+: ks.renderKids cfg i e first prevWs esc := by
  cases run with
  | nil => exact List.nil_infix
  | cons a run =>
    -- the loop reaches `a` in some state; after `a` the state is prevWs = false, where `renderKids_run` applies
    obtain ⟨P, rest, f, w, hrest, hma, h⟩ :=
      renderKids_reach cfg (by simpa using hv : ks.visible = pre ++ a :: (run ++ post)) i e first prevWs esc
    obtain ⟨rest', h'⟩ := renderKids_run cfg run (fun x hx => hn x (List.mem_cons_of_mem _ hx)) hrest i e esc
    rw [h, renderKids_noWs cfg rest i e f w esc hma (hn a List.mem_cons_self), h']
    exact ⟨P ++ ((if !f && w then e else []) ++ (if w then indentStr i else [])),
      rest'.renderKids cfg i e false false esc, by simp⟩

theorem child_infix (cfg : Cfg) (ks : Nodes) (x : Node) (hx : x ∈ ks.visible) (hn : x.noWs = true)
    (i : Nat) (e : Str) (first prevWs esc : Bool) :
    x.flatIn cfg esc <:+: ks.renderKids cfg i e first prevWs esc := by
  obtain ⟨pre, post, hv⟩ := List.append_of_mem hx
  simpa using C05_run cfg ks pre [x] post (by simpa using hv) (by simpa using hn) i e first prevWs esc

theorem child_render_infix (cfg : Cfg) (ks : Nodes) (x : Node) (hx : x ∈ ks.visible) (ht : x.isTag = true)
    (i : Nat) (e : Str) (first prevWs esc : Bool) :
    ∃ i' e', x.render cfg i' e' <:+: ks.renderKids cfg i e first prevWs esc := by
  obtain ⟨pre, post, hv⟩ := List.append_of_mem hx
  obtain ⟨P, rest, f, w, -, -, h⟩ := renderKids_reach cfg hv i e first prevWs esc
  cases x with
  | tag n w' a k =>
    rw [h, renderKids_tag]
    refine ⟨if w || w' then i else 0, if w || w' then e else [], ?_⟩
    refine List.infix_append_of_infix_right <| List.infix_append_of_infix_left ?_
    split <;> exact (List.suffix_append _ _).isInfix
  | _ => cases ht

theorem loop_infix (cfg : Cfg) (name : Str) (ws : Bool) (attrs : Attrs) (kids : Nodes) (i : Nat) (e : Str) :
    kids.renderKids cfg (i + 1) e true (ws && !kids.oneLine) (!cfg.noesc.contains name)
      <:+: (Node.tag name ws attrs kids).render cfg i e := by
  rw [render_tag]
  exact List.infix_append_of_infix_left <| List.infix_append_of_infix_left (List.suffix_append _ _).isInfix

/-- wherever a whitespace-free subtree is placed (any depth, under any mixture of block and inline
    ancestors, any indent and eol), its exact flat string appears contiguously in the output -/
theorem C05_contiguous (cfg : Cfg) (sub T : Node) (b : Bool) (hd : VisDesc cfg sub b T)
    (hn : sub.noWs = true) (i : Nat) (e : Str) :
    sub.flatIn cfg b <:+: T.render cfg i e := by
  induction hd generalizing i e with
  | child hx => exact (child_infix cfg _ _ hx hn _ e true _ _).trans (loop_infix cfg _ _ _ _ i e)
  | @deeper name ws attrs kids h sub b hx hsub ih =>
    have htag : h.isTag = true := by cases hsub <;> rfl
    obtain ⟨i', e', hh⟩ := child_render_infix cfg kids h hx htag (i + 1) e true (ws && !kids.oneLine) (!cfg.noesc.contains name)
    exact (ih hn i' e').trans (hh.trans (loop_infix cfg name ws attrs kids i e))

/-! ### adjacency: nothing is emitted between two whitespace-free siblings -/

/-- adjacent siblings (adjacent among the *visible* children, at any position in the list) neither of which
    contains a whitespace-enabled tag are emitted with nothing between them -/
theorem C05_adjacent (cfg : Cfg) (ks : Nodes) (pre : List Node) (a b : Node) (post : List Node)
    (hv : ks.visible = pre ++ a :: b :: post) (hna : a.noWs = true) (hnb : b.noWs = true)
    (i : Nat) (e : Str) (first prevWs esc : Bool) :
    a.flatIn cfg esc ++ b.flatIn cfg esc <:+: ks.renderKids cfg i e first prevWs esc := by
  simpa using C05_run cfg ks pre [a, b] post (by simpa using hv) (by simp [hna, hnb]) i e first prevWs esc

/-- non-vacuity: an inline subtree nested under a block tag -/
example : VisDesc ⟨[], [], [], []⟩ (.text ['x']) true
    (.tag ['d'] true [] (.cons (.tag ['s'] false [] (.cons (.text ['x']) .nil)) .nil)) :=
  .deeper (h := .tag ['s'] false [] (.cons (.text ['x']) .nil)) (by simp [Nodes.visible, Node.isMeta])
    (.child (by simp [Nodes.visible, Node.isMeta]))

/-! ### clause 4: where layout whitespace can appear -/

theorem rightJustified_tag (cfg : Cfg) (name : Str) (ws : Bool) (attrs : Attrs) (kids : Nodes) (i : Nat) (e : Str)
    (X : List Piece) : rightJustified ((Node.tag name ws attrs kids).pieces cfg i e ++ X) = ws := by
  simp [pieces_tag]

theorem finalL_cons {h : Node} (t : Nodes) (l : Bool) (hm : h.isMeta = false) :
    (Nodes.cons h t).finalL l = t.finalL h.isBlock := by
  cases h with
  | mnode _ | dep _ _ _ => cases hm
  | _ => rfl

mutual
  /-- scanning the pieces of a tag never finds an unjustified whitespace run, and ends next to this tag's
      closing (or self-closed opening) tag; the tag's own leading indentation must be justified by the
      context (`left`), by the tag being a block tag, or be empty -/
  theorem wsSites_tag (cfg : Cfg) (t : Node) (ht : t.isTag = true) (i : Nat) (e : Str) (left : Bool)
      (R : List Piece) (hpre : (left || t.isBlock || (indentStr i).isEmpty) = true) :
      wsSitesOk left (t.pieces cfg i e ++ R) = wsSitesOk t.isBlock R := by
    cases t with
    | tag name ws attrs kids =>
      have hk := wsSites_kids cfg kids (i + 1) e
      have hlead : ((indentStr i).isEmpty || left || ws) = true := by
        revert hpre; cases left <;> cases ws <;> cases (indentStr i).isEmpty <;> simp [Node.isBlock]
      simp only [Node.pieces, Node.isBlock]
      by_cases h0 : kids.visible.isEmpty = true
      · by_cases hv : name ∈ cfg.void <;> simp [h0, hv, wsSitesOk_wsP, hlead]
      · simp only [h0]
        cases h1 : inlineChild? kids.visible with
        | some c => simp [wsSitesOk_wsP, hlead]
        | none =>
          cases ws with
          | false =>
            have := hk true false (!cfg.noesc.contains name) false (Piece.cls name false :: R) (by simp)
            simp only [List.contains_eq_mem] at this
            simp [wsSitesOk_wsP, hlead, this]
          | true =>
            have := hk true true (!cfg.noesc.contains name) true
              (wsP (e ++ indentStr i) ++ Piece.cls name true :: R) (by simp)
            simp only [List.contains_eq_mem] at this
            simp [wsSitesOk_wsP, this]
    | _ => cases ht
  theorem wsSites_kids (cfg : Cfg) (ks : Nodes) (i : Nat) (e : Str) (first prevWs esc left : Bool)
      (R : List Piece) (hl : prevWs = true → left = true) :
      wsSitesOk left (ks.piecesKids cfg i e first prevWs esc ++ R) = wsSitesOk (ks.finalL left) R := by
    cases ks with
    | nil => rfl
    | cons h t =>
      cases hm : h.isMeta with
      | true =>
        rw [piecesKids_meta cfg t i e first prevWs esc hm]
        cases h <;> first | exact wsSites_kids cfg t i e first prevWs esc left R hl | cases hm
      | false =>
        rw [finalL_cons t left hm]
        cases ht : h.isTag with
        | false =>
          have hb : h.isBlock = false := by cases h <;> first | rfl | cases ht
          rw [piecesKids_leaf cfg t i e first prevWs esc hm ht, hb,
            ← wsSites_kids cfg t i e false false esc false R (by simp)]
          cases prevWs with
          | true => cases hl rfl; cases first <;> simp [wsSitesOk_wsP]
          | false => cases first <;> simp
        | true =>
          have hT := wsSites_tag cfg h ht
          cases h with
          | tag n w a k =>
            have hrest := wsSites_kids cfg t i e false w esc w R (fun h => h)
            have hrj := rightJustified_tag cfg n w a k i e (t.piecesKids cfg i e false w esc ++ R)
            simp only [Node.isBlock] at hT ⊢
            rw [piecesKids_tag]
            cases prevWs with
            | true => cases hl rfl; cases first <;> simp [wsSitesOk_wsP, hT, hrest]
            | false =>
              cases w with
              | true => cases first <;> simp [wsSitesOk_wsP, hT, hrest, hrj]
              | false => cases first <;> simp [hT, hrest]
          | _ => cases ht
end

/-- within a rendered tag, every maximal run of layout whitespace (after the caller's own leading
    indentation) is immediately after or immediately before the opening or closing tag of a
    whitespace-enabled tag — for every tree (block-inside-inline nestings included), indent and eol.
    Together with `render_eq_pieces` (the pieces realise to exactly the rendered string) this is a
    statement about the output. -/
theorem C05_ws_sites (cfg : Cfg) (name : Str) (ws : Bool) (attrs : Attrs) (kids : Nodes) (i : Nat) (e : Str) :
    wsSitesOk true ((Node.tag name ws attrs kids).pieces cfg i e) = true := by
  have := wsSites_tag cfg (.tag name ws attrs kids) rfl i e true [] (by simp)
  simpa [wsSitesOk] using this

/-- the same for a top-level list -/
theorem C05_ws_sites_list (cfg : Cfg) (ks : Nodes) (i : Nat) (e : Str) (aw esc : Bool) :
    wsSitesOk true (ks.piecesKids cfg i e true aw esc) = true := by
  have := wsSites_kids cfg ks i e true aw esc true [] (fun _ => rfl)
  simpa [wsSitesOk] using this

end HtmlVerif.C05
