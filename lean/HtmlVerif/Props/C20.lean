/-
C20 — JSX components convert purely and surface all dependencies.

Model: Model/Jsx.lean (htmltools/_jsx.py).  `Discipline.demanded` is the copy discipline the property demands
(every object is copied, with its own containers, before the walk assigns into it; the walked copy is rendered);
`Discipline.pinned` is the pinned `_jsx.py` (defect F-C20).  All theorems hold for every component tree.

Two further defects of the pinned code are stated the same way (the model follows the property, a `…_fails_for_pinned`
theorem exhibits the pinned behaviour): F-C20b — `if allowedProps:` treats a declared empty allow-list as no restriction
(`propsAllowedPinned`, `C20_allowed_fails_for_pinned`; repair fixes/C20-empty-allowedprops.patch); F-C20c — non-finite
floats are written `inf` / `-inf` / `nan`, which are not JavaScript (`C20_numbers_fails_for_pinned`; `C20_numbers_finite`
is the statement under the guard `finite`; repair fixes/C20-nonfinite-numbers.patch).
-/
import HtmlVerif.Lemmas.Jsx
import HtmlVerif.Generated.Tables

namespace HtmlVerif.C20
open HtmlVerif HtmlVerif.JsxL

/-! ## purity -/

/-- tagify() leaves the component — props, children and everything below them, including what the tagifiable
    objects in it hold — exactly as it was -/
theorem C20_pure (vs : List (Str × Str)) (name : Str) (props : JProps) (kids : JNodes) :
    (jsxTagify .demanded vs name props kids).after = .comp name props kids := by
  simp only [jsxTagify]
  exact walk_orig _

/-- … for every node of a tree on which tagify() is called -/
theorem C20_pure_node (vs : List (Str × Str)) (x : JNode) : (x.tagify .demanded vs).after = x := by
  cases x <;> simp [JNode.tagify, C20_pure]

/-- converted any number of times: the component is unchanged and every conversion gives the same result -/
theorem C20_pure_iter (vs : List (Str × Str)) (x : JNode) (n : Nat) :
    (x.tagifyN .demanded vs n).after = x ∧ (x.tagifyN .demanded vs n).result = (x.tagify .demanded vs).result := by
  induction n with
  | zero => simp [JNode.tagifyN, C20_pure_node]
  | succ n ih => simpa [JNode.tagifyN, C20_pure_node] using ih

/-- the visited objects at every depth: no prop value and no child of any nested component, tag or expansion is replaced -/
theorem C20_pure_walk (x : JNode) : (x.walk .demanded).orig = x := walk_orig x

/-- F-C20: under the copy discipline of the pinned `_jsx.py` the property is false — `x = Foo(TD(), p=TD())` with
    `TD().tagify()` a `<span>`: afterwards `x.children[0]` and `x.attrs["p"]` are Tags -/
theorem C20_pure_fails_for_pinned :
    ∃ (name : Str) (props : JProps) (kids : JNodes), ∀ vs,
      (jsxTagify .pinned vs name props kids).after ≠ .comp name props kids :=
  ⟨['F', 'o', 'o'], .cons ['p'] (.node (.tobj (.tag ['s', 'p', 'a', 'n'] [] .nil))) .nil,
    .cons (.tobj (.tag ['s', 'p', 'a', 'n'] [] .nil)) .nil, by
      intro vs
      simp [jsxTagify, JNode.walk, JProps.walkProps, JVal.walkVal, JNodes.walkKids, JNode.walkExp]⟩

/-- … while the script it returns is the one the property describes: the defect is confined to purity -/
theorem C20_pinned_same_result (vs : List (Str × Str)) (name : Str) (props : JProps) (kids : JNodes) :
    (jsxTagify .pinned vs name props kids).result = (jsxTagify .demanded vs name props kids).result := by
  have h1 : ((JNode.comp name props kids).walk .pinned).orig = ((JNode.comp name props kids).walk .pinned).node := by
    simp [JNode.walk]
  simp only [jsxTagify, pinned_renderCopy, demanded_renderCopy, h1, walk_metas]
  rw [walk_node_indep .pinned .demanded]
  simp

/-! ## the script element -/

/-- the result is the script element built from the JavaScript of the *walked* copy (tagifiable descendants expanded),
    the two library dependencies and the collected metadata nodes; an exception of the renderer or a missing version
    is passed on -/
theorem C20_script (vs : List (Str × Str)) (name : Str) (props : JProps) (kids : JNodes) :
    (jsxTagify .demanded vs name props kids).result =
      match ((JNode.comp name props kids).walk .demanded).node.renderJs 2 ['\n'] with
      | .error e => .error e
      | .ok component => expectedScript vs name component (JNode.comp name props kids).metasIn := by
  simp only [jsxTagify, demanded_renderCopy, walk_metas, expectedScript]
  rfl

/-- shape: `<script type="text/javascript" data-needs-render="">` with children
    `HTML("\n" + js + "\n") :: react :: react-dom :: collected` -/
theorem C20_script_shape (vs : List (Str × Str)) (name component : Str) (ms : List JMeta) (r : Node)
    (h : expectedScript vs name component ms = .ok r) :
    ∃ react reactDom,
      libDependency vs (chars% "react") (chars% "react.production.min.js") = .ok react ∧
      libDependency vs (chars% "react-dom") (chars% "react-dom.production.min.js") = .ok reactDom ∧
      r = .tag (chars% "script") true
            [(chars% "type", .plain (chars% "text/javascript")), (chars% "data-needs-render", .plain [])]
            (.cons (.html ('\n' :: jsWrap name component ++ ['\n']))
              (.cons react (.cons reactDom (Nodes.ofList (ms.map JMeta.toNode))))) := by
  unfold expectedScript at h
  cases h1 : libDependency vs (chars% "react") (chars% "react.production.min.js") with
  | error e => simp [h1] at h
  | ok react =>
    cases h2 : libDependency vs (chars% "react-dom") (chars% "react-dom.production.min.js") with
    | error e => simp [h1, h2] at h
    | ok reactDom =>
      simp [h1, h2] at h
      exact ⟨react, reactDom, rfl, rfl, by rw [← h]; rfl⟩

/-- `str(component)`: the opening tag, the script body verbatim (it is `HTML`, and the metadata children leave no
    trace), the closing tag — for any tables, at indent 0 and any `eol` -/
theorem C20_script_text (cfg : Cfg)
    (vs : List (Str × Str)) (name component : Str) (ms : List JMeta) (r : Node) (eol : Str)
    (h : expectedScript vs name component ms = .ok r) :
    r.render cfg 0 eol =
      openTag cfg (chars% "script") scriptAttrs ++ '>' :: ('\n' :: jsWrap name component ++ ['\n'])
        ++ closeTag (chars% "script") := by
  unfold expectedScript at h
  unfold libDependency at h
  cases h1 : alookup (chars% "react") vs with
  | none => simp [h1] at h
  | some v1 =>
    cases h2 : alookup (chars% "react-dom") vs with
    | none => simp [h1, h2] at h
    | some v2 =>
      simp [h1, h2] at h
      subst h
      simp [scriptTag, Node.render, Nodes.visible, Node.isMeta, visible_metas, inlineChild?, inlineText, indentStr]

/-! ## collected metadata -/

/-- what the walk appends to `metadata_nodes`, in its order, is the list of metadata nodes found in the component
    in document order (for either discipline) -/
theorem C20_collected (d : Discipline) (x : JNode) : (x.walk d).metas = x.metasIn := walk_metas d x

/-- complete: every metadata node attached anywhere — on children, nested tags or components, props whose value is a
    tag, component or tagifiable object, the expansions of tagifiable descendants — is collected -/
theorem C20_collected_complete (x : JNode) (m : JMeta) (h : Attached x m) : m ∈ (x.walk .demanded).metas := by
  rw [walk_metas]; exact mem_of_attached x m h

/-- sound: nothing else is collected -/
theorem C20_collected_sound (x : JNode) (m : JMeta) (h : m ∈ (x.walk .demanded).metas) : Attached x m := by
  rw [walk_metas] at h; exact attached_of_mem x m h

/-- … and they are children of the returned script element, after the two library dependencies -/
theorem C20_collected_on_script (vs : List (Str × Str)) (name : Str) (props : JProps) (kids : JNodes) (r : Node)
    (h : (jsxTagify .demanded vs name props kids).result = .ok r) :
    ∃ n w a body react reactDom,
      r = .tag n w a (.cons body (.cons react (.cons reactDom
            (Nodes.ofList ((JNode.comp name props kids).metasIn.map JMeta.toNode))))) := by
  rw [C20_script] at h
  split at h
  · simp at h
  · obtain ⟨react, reactDom, _, _, hr⟩ := C20_script_shape _ _ _ _ _ h
    exact ⟨_, _, _, _, react, reactDom, hr⟩

/-! ## react / react-dom -/

/-- a library dependency carries the pinned version of its package, the package-relative source directory and one script -/
theorem C20_react (vs : List (Str × Str)) (pkg src : Str) (n : Node) (h : libDependency vs pkg src = .ok n) :
    ∃ v, alookup pkg vs = some v ∧
      n = .dep { name := pkg, version := v, vrank := 0,
                 source := .subdir (some (chars% "htmltools")) (chars% "lib/" ++ pkg) [],
                 script := [[(chars% "src", src)]], stylesheet := [], metas := [], allFiles := false } false .nil := by
  unfold libDependency at h
  cases hv : alookup pkg vs with
  | none => simp [hv] at h
  | some v => simp [hv] at h; exact ⟨v, rfl, h.symm⟩

/-- `_versions.py` of the source (`Generated.reactVersions`) pins both packages (so tagify never raises KeyError) -/
theorem C20_react_pinned :
    (alookup (chars% "react") Generated.reactVersions).isSome = true ∧
    (alookup (chars% "react-dom") Generated.reactVersions).isSome = true := by
  decide +kernel

/-! ## the createElement expression mirrors the component -/

/-- `_render_react_js` writes the layout of the mirrored expression tree (and raises exactly when there is none) -/
theorem C20_mirror (x : JNode) (i : Nat) (eol : Str) :
    x.renderJs i eol = x.mirror.map fun j => j.print i eol := mirror_node x i eol

/-- a component mirrors to `createElement(name, {props}, children…)` and a tag to `createElement('name', …)` -/
theorem C20_mirror_element (n : Str) (ps : JProps) (ks : JNodes) (j : Js) (h : (JNode.comp n ps ks).mirror = .ok j) :
    ∃ fs js, j = .create n fs ks.isEmpty js ∧ ps.mirrorFields true = .ok fs ∧
      (ks.isEmpty = false → ks.mirrorKids = .ok js) ∧ (ks.isEmpty = true → js = .nil) := by
  simp only [JNode.mirror, createMirror] at h
  cases hf : ps.mirrorFields true with
  | error e => simp [hf] at h
  | ok fs =>
    cases hk : ks.isEmpty with
    | true => simp [hf, hk] at h; exact ⟨fs, .nil, h.symm, rfl, by simp, by simp⟩
    | false =>
      cases hm : ks.mirrorKids with
      | error e => simp [hf, hk, hm] at h
      | ok js => simp [hf, hk, hm] at h; exact ⟨fs, js, h.symm, rfl, by simp, by simp⟩

/-- each prop once, under the name it is stored with, in stored order -/
theorem C20_mirror_props (top : Bool) (ps : JProps) (fs : JsFields) (h : ps.mirrorFields top = .ok fs) :
    fs.keys = ps.keys := mirrorFields_keys h

/-- each child that is not a metadata node once, in order, mirrored in turn (nested correspondingly) -/
theorem C20_mirror_children : (ks : JNodes) → (js : Jss) → ks.mirrorKids = .ok js →
    (ks.toList.filter fun k => match k with | .md _ => false | _ => true).map JNode.mirror = js.toList.map .ok
  | .nil, js, h => by simp [JNodes.mirrorKids] at h; subst h; simp [JNodes.toList, Jss.toList]
  | .cons x t, js, h => by
    by_cases hmd : ∃ m, x = .md m
    · have ⟨m, hm⟩ := hmd
      subst hm
      simp only [JNodes.mirrorKids] at h
      simpa [JNodes.toList] using C20_mirror_children t js h
    · have hx : ∀ m, x ≠ .md m := fun m hm => hmd ⟨m, hm⟩
      rw [mirrorKids_cons x t hx] at h
      cases hm : x.mirror with
      | error e => simp [hm] at h
      | ok j =>
        cases ht : t.mirrorKids with
        | error e => simp [hm, ht] at h
        | ok js' =>
          simp [hm, ht] at h; subst h
          simp only [JNodes.toList, List.filter_cons, if_true, Jss.toList, List.map_cons, hm]
          rw [C20_mirror_children t js' ht]

/-! ## props are stored once under their normalised names -/

/-- `JSXTagAttrDict(**kwargs)`: no name twice; a name is stored iff it is the normalised form of some keyword;
    its value is that of the last such keyword -/
theorem C20_props_normalised (kw : List (Str × JVal)) :
    (mkProps kw).keys.Nodup ∧
    (∀ k, k ∈ (mkProps kw).keys ↔ ∃ kv ∈ kw, normAttrName kv.1 = k) ∧
    (∀ k, (mkProps kw).lookup k = (kw.reverse.find? fun kv => normAttrName kv.1 = k).map (·.2)) := by
  have hmk : mkProps kw = foldProps .nil kw := rfl
  refine ⟨hmk ▸ foldProps_nodup kw .nil (by simp [JProps.keys]), fun k => ?_, fun k => ?_⟩
  · rw [hmk]; simpa [JProps.keys] using foldProps_mem kw .nil k
  · have := foldProps_lookup kw .nil k
    simp only [mkProps, foldProps] at this ⊢
    rw [this]
    cases kw.reverse.find? (fun kv => normAttrName kv.1 = k) <;> simp [JProps.lookup]

/-- … so the expression has each keyword's normalised name exactly once -/
theorem C20_mirror_props_once (kw : List (Str × JVal)) (fs : JsFields) (h : (mkProps kw).mirrorFields true = .ok fs) :
    fs.keys.Nodup ∧ ∀ k, k ∈ fs.keys ↔ ∃ kv ∈ kw, normAttrName kv.1 = k := by
  rw [mirrorFields_keys h]
  exact ⟨(C20_props_normalised kw).1, (C20_props_normalised kw).2.1⟩

/-! ## values -/

/-- None, booleans, numbers, strings, jsx() expressions, lists/tuples, dicts, tags and components are written as the
    corresponding JavaScript (lists and dicts element-wise, tags and components as nested createElement calls) -/
theorem C20_values :
    JVal.null.serialize = .ok (chars% "null") ∧
    (JVal.bool true).serialize = .ok (chars% "true") ∧
    (JVal.bool false).serialize = .ok (chars% "false") ∧
    (∀ t, (JVal.num t).serialize = .ok (numJs t)) ∧
    (∀ s, (JVal.str s).serialize = .ok (jsQuote s)) ∧
    (∀ s, (JVal.jsx s).serialize = .ok s) ∧
    (∀ tup vs ss, vs.serializeAll = .ok ss → (JVal.list tup vs).serialize = .ok (jsArr ss)) ∧
    (∀ fs ss, fs.fieldsJs false = .ok ss → (JVal.dict fs).serialize = .ok (jsObj ss)) ∧
    (∀ n p k, (JVal.node (.comp n p k)).serialize = (JNode.comp n p k).renderJs 0 ['\n']) ∧
    (∀ n a k, (JVal.node (.tag n a k)).serialize = (JNode.tag n a k).renderJs 0 ['\n']) := by
  refine ⟨rfl, rfl, rfl, fun _ => rfl, fun _ => rfl, fun _ => rfl, ?_, ?_, fun _ _ _ => rfl, fun _ _ _ => rfl⟩
  · intro tup vs ss h; simp [JVal.serialize, h]
  · intro fs ss h; simp [JVal.serialize, h]

/-- element-wise: one item per element / one `"key": value` per entry, in order -/
theorem C20_values_items (h : JVal) (t : JVals) (s : Str) (ss : List Str)
    (hh : h.serialize = .ok s) (ht : t.serializeAll = .ok ss) : (JVals.cons h t).serializeAll = .ok (s :: ss) := by
  simp [JVals.serializeAll, hh, ht]

theorem C20_values_fields (k : Str) (v : JVal) (t : JProps) (s : Str) (ss : List Str)
    (hv : v.serialize = .ok s) (ht : t.fieldsJs false = .ok ss) :
    (JProps.cons k v t).fieldsJs false = .ok (jsField k s :: ss) := by
  simp [JProps.fieldsJs, hv, ht]

/-- the `style` prop: a CSS string becomes an object of its declarations, a dict is written as a dict, None as `{}` -/
theorem C20_values_style :
    JVal.null.serializeStyle = .ok ['{', '}'] ∧
    (∀ s kvs, parseStyle s = .ok kvs →
      (JVal.str s).serializeStyle = .ok (jsObj (kvs.map fun kv => jsField kv.1 (jsQuote kv.2)))) ∧
    (∀ fs, (JVal.dict fs).serializeStyle = (JVal.dict fs).serialize) := by
  refine ⟨rfl, ?_, fun _ => rfl⟩
  intro s kvs h
  simp [JVal.serializeStyle, styleOfString, h]

/-! ## numbers -/

/-- `inf`, `-inf` and `nan` are not JavaScript numbers (nor is any other text that is not a decimal literal,
    `Infinity`, `-Infinity` or `NaN`) -/
theorem C20_python_nonfinite_text_is_not_js (v : PyNum) :
    jsNumberDenotes (chars% "inf") v = false ∧ jsNumberDenotes (chars% "-inf") v = false ∧
    jsNumberDenotes (chars% "nan") v = false := by
  have h1 : jsNumParse (chars% "inf") = none := by decide
  have h2 : jsNumParse (chars% "-inf") = none := by decide
  have h3 : jsNumParse (chars% "nan") = none := by decide
  simp [jsNumberDenotes, h1, h2, h3]

theorem numJs_of_denotes (t : Str) (w : PyNum) (hw : jsNumberDenotes t w = true) : numJs t = t := by
  have hn := C20_python_nonfinite_text_is_not_js w
  unfold numJs
  by_cases h1 : t = chars% "inf"
  · rw [h1, hn.1] at hw; cases hw
  · by_cases h2 : t = chars% "-inf"
    · rw [h2, hn.2.1] at hw; cases hw
    · by_cases h3 : t = chars% "nan"
      · rw [h3, hn.2.2] at hw; cases hw
      · simp [h1, h2, h3]

/-- a number is written as a JavaScript numeric expression that evaluates to it: `t` is what Python's `str()` gives
    for the number `v` (`pyStrOf`: the runtime's contribution — a decimal literal denoting `v` when `v` is finite,
    `inf`/`-inf`/`nan` otherwise) -/
theorem C20_numbers (t : Str) (v : PyNum) (h : pyStrOf t v = true) :
    (JVal.num t).serialize = .ok (numJs t) ∧ jsNumberDenotes (numJs t) v = true := by
  refine ⟨rfl, ?_⟩
  cases v with
  | int _ | float _ _ _ => rw [numJs_of_denotes t _ h]; exact h
  | inf n =>
    cases n with
    | false =>
      have : t = chars% "inf" := by simpa [pyStrOf] using h
      subst this; decide
    | true =>
      have : t = chars% "-inf" := by simpa [pyStrOf] using h
      subst this; decide
  | nan =>
    have : t = chars% "nan" := by simpa [pyStrOf] using h
    subst this; decide

/-- under the guard `finite` the text is exactly Python's (true of the pinned code as well) -/
theorem C20_numbers_finite (t : Str) (v : PyNum) (hf : v.finite = true) (h : pyStrOf t v = true) :
    (JVal.num t).serialize = .ok t ∧ jsNumberDenotes t v = true := by
  have h' : jsNumberDenotes t v = true := by
    cases v <;> first | exact h | cases hf
  exact ⟨by show Except.ok (numJs t) = _; rw [numJs_of_denotes t v h'], h'⟩

/-- F-C20c: the guard is needed for a serialiser that writes `str(x)` for every number, as the pinned
    `_serialize_attr` does — `float("inf")`, `float("-inf")` and `float("nan")` come out as `inf`, `-inf`, `nan` -/
theorem C20_numbers_fails_for_pinned :
    ∃ t v, pyStrOf t v = true ∧ v.finite = false ∧ jsNumberDenotes t v = false :=
  ⟨chars% "inf", .inf false, by decide, rfl, by decide⟩

/-! ## strings -/

/-- a string free of backslashes and line breaks is written as a double-quoted literal that denotes the original text -/
theorem C20_strings (s : Str) (h : plainJsText s = true) : jsStringDenotes (jsQuote s) = some s := by
  simp only [jsQuote, jsStringDenotes]
  exact jsBody_quoted s h

/-- … as a prop value and (after the indentation) as a child -/
theorem C20_strings_positions (s : Str) (i : Nat) (eol : Str) :
    (JVal.str s).serialize = .ok (jsQuote s) ∧ (JNode.str .plain s).renderJs i eol = .ok (indentStr i ++ jsQuote s) :=
  ⟨rfl, rfl⟩

/-- the restriction is needed: with a backslash the literal denotes something else -/
theorem C20_strings_guard_needed : jsStringDenotes (jsQuote ['a', '\\']) ≠ some ['a', '\\'] := by decide

/-! ## construction -/

/-- a prop outside a declared allow-list is rejected at construction — also when the declared list is empty -/
theorem C20_allowed (upper : Str → Str) (name : Str) (ps : List Str) (kw : List (Str × JVal)) (kids : JNodes)
    (hout : ∃ kv ∈ kw, kv.1 ∉ ps) :
    jsxInit upper name (some ps) kw kids = .error .notImplemented := by
  unfold jsxInit
  split
  · rfl
  · have : propsAllowed (some ps) kw = false := by
      obtain ⟨kv, hkv, hn⟩ := hout
      simp only [propsAllowed]
      apply Bool.eq_false_iff.mpr
      intro hall
      rw [List.all_eq_true] at hall
      have := hall kv hkv
      exact hn (by simpa using this)
    simp [this]

/-- a declared empty allow-list admits no prop at all -/
theorem C20_allowed_empty (upper : Str → Str) (name : Str) (kv : Str × JVal) (kw : List (Str × JVal)) (kids : JNodes) :
    jsxInit upper name (some []) (kv :: kw) kids = .error .notImplemented :=
  C20_allowed upper name [] (kv :: kw) kids ⟨kv, by simp, by simp⟩

/-- conversely nothing is rejected for its props when no list is declared or every keyword is listed -/
theorem C20_allowed_iff (allowed : Option (List Str)) (kw : List (Str × JVal)) :
    propsAllowed allowed kw = true ↔ ∀ ps, allowed = some ps → ∀ kv ∈ kw, kv.1 ∈ ps := by
  cases allowed with
  | none => simp [propsAllowed]
  | some ps => simp [propsAllowed, List.all_eq_true]

/-- F-C20b: the pinned truthiness test `if allowedProps:` lets every prop through a declared empty list —
    `jsx_tag_create("Foo", allowedProps=[])(zzz=1)` is accepted; on non-empty lists (and `None`) it agrees -/
theorem C20_allowed_fails_for_pinned :
    propsAllowedPinned (some []) [(['z', 'z', 'z'], .num ['1'])] = true ∧
    propsAllowed (some []) [(['z', 'z', 'z'], .num ['1'])] = false ∧
    (∀ allowed kw, allowed ≠ some [] → propsAllowedPinned allowed kw = propsAllowed allowed kw) := by
  refine ⟨rfl, rfl, ?_⟩
  intro allowed kw h
  cases allowed with
  | none => rfl
  | some ps =>
    cases ps with
    | nil => exact absurd rfl h
    | cons p r => rfl

/-- a name whose last dotted piece does not start with a capital letter is rejected -/
theorem C20_lowercase_rejected (upper : Str → Str) (name : Str) (allowed : Option (List Str))
    (kw : List (Str × JVal)) (kids : JNodes) (h : nameInitial name ≠ upper (nameInitial name)) :
    jsxInit upper name allowed kw kids = .error .notImplemented := by
  simp [jsxInit, h]

/-- otherwise the component holds the normalised props and the children in the order given -/
theorem C20_init (upper : Str → Str) (name : Str) (allowed : Option (List Str)) (kw : List (Str × JVal)) (kids : JNodes)
    (hn : nameInitial name = upper (nameInitial name)) (ha : propsAllowed allowed kw = true) :
    jsxInit upper name allowed kw kids = .ok (.comp name (mkProps kw) kids) := by
  unfold jsxInit
  rw [if_neg (fun h => h hn)]
  simp [ha]

/-! ## non-vacuity -/

/-- a component with a tagifiable child expanding to a tag that holds a metadata node, and a tagifiable prop: the
    node is attached, hence collected, and the component is unchanged -/
example : Attached (.comp ['F'] (.cons ['p'] (.node (.tobj (.str .plain ['s']))) .nil)
      (.cons (.tobj (.tag ['i'] [] (.cons (.md (.mnode 7)) .nil))) .nil)) (.mnode 7) :=
  .compChild (.head (.expansion (.tagChild (.head (.here _)))))

example : ((JNode.comp ['F'] (.cons ['p'] (.node (.tobj (.str .plain ['s']))) .nil)
      (.cons (.tobj (.tag ['i'] [] (.cons (.md (.mnode 7)) .nil))) .nil)).walk .demanded).metas = [.mnode 7] := by
  rw [C20_collected]; rfl

/-- hypotheses of `C20_allowed` / `C20_strings` / `C20_numbers` are satisfiable -/
example : jsxInit id ['F'] (some [['a']]) [(['b'], .null)] .nil = .error .notImplemented :=
  C20_allowed id ['F'] [['a']] [(['b'], .null)] .nil ⟨(['b'], .null), by simp, by simp⟩

/-- `1e+22` = 4768371582031250 · 2^21 exactly; `-0.0` keeps its sign; `0.1` is not a double but the literal rounds to the
    double Python holds (and not to its neighbour); the smallest subnormal and the largest finite double; a power of two
    (nearer lower neighbour); a 30-digit int; a literal with leading zeros is not JavaScript -/
example : pyStrOf (chars% "1e+22") (.float false 4768371582031250 21) = true ∧
    pyStrOf (chars% "-0.0") (.float true 0 (-1074)) = true ∧
    pyStrOf (chars% "0.0") (.float true 0 (-1074)) = false ∧
    pyStrOf (chars% "0.1") (.float false 7205759403792794 (-56)) = true ∧
    pyStrOf (chars% "0.1") (.float false 7205759403792793 (-56)) = false ∧
    pyStrOf (chars% "5e-324") (.float false 1 (-1074)) = true ∧
    pyStrOf (chars% "1.7976931348623157e+308") (.float false 9007199254740991 971) = true ∧
    pyStrOf (chars% "4503599627370496.0") (.float false 4503599627370496 0) = true ∧
    pyStrOf (chars% "123456789012345678901234567890") (.int 123456789012345678901234567890) = true ∧
    pyStrOf (chars% "2.5") (.float false 5629499534213120 (-51)) = true ∧
    pyStrOf (chars% "007") (.int 7) = false ∧ pyStrOf (chars% "1e5") (.int 100000) = true := by decide +kernel

end HtmlVerif.C20
