/-
C17 — Tag context manager restores the display hook and collects children in order.

Programs (`Prog`/`Progs`, Model/Hook.lean) are an inductive type, so every theorem below quantifies over all nesting
depths and shapes of `with` blocks, all sequences of displayed values and a raise at any point (explicit, an invalid
displayed value, re-entering a tag).  `exec` follows `Tag.__enter__` / body / `Tag.__exit__` as written
(_core.py:692-707, 1015-1034); `spec`/`specTop`/`blocks` (Spec/Hook.lean) read the expected result off the program text.

Guard (DESIGN §6 C17): the outermost hook does not raise — in the model it is the harness's recorder.
-/
import HtmlVerif.Lemmas.Hook

namespace HtmlVerif.C17
open HtmlVerif HtmlVerif.Hook

/-! ### restore: `sys.displayhook` after a block is the hook installed when it was entered, on every exit path -/

/-- whatever the body does (complete, raise, raise in a nested block, fail to enter): the hook after the `with`
    statement is the hook before it.  No hypothesis on the state. -/
theorem C17_restore (t : TagId) (b : Progs) (s : St) : ((Prog.block t b).exec s).1.hook = s.hook :=
  (Prog.exec_stable _ s).hook

/-- the same for any statement list (so also for the whole program: the process-global hook is as it was) -/
theorem C17_restore_any (ps : Progs) (s : St) : (ps.exec s).1.hook = s.hook :=
  (Progs.exec_stable ps s).hook

/-- every `with` statement reached anywhere in the run, at any depth, restores the hook (`flags` is what the harness
    samples: hook identity before/after each block) -/
theorem C17_restore_all (ps : Progs) (s : St) : ∀ f ∈ ps.flags s, f = true :=
  Progs.flags_true ps s

/-- the saved hook of an entered tag is never overwritten -/
theorem C17_prev_stable (ps : Progs) (s : St) (u : TagId) (h : HookId) (hp : (s.tags u).prev = some h) :
    ((ps.exec s).1.tags u).prev = some h :=
  (Progs.exec_stable ps s).prev u h hp

/-! ### re-entering -/

/-- entering a tag whose `prev_displayhook` is set raises RuntimeError; hook chain and all state are untouched -/
theorem C17_reenter (t : TagId) (b : Progs) (s : St) (h : (s.tags t).prev ≠ none) :
    (Prog.block t b).exec s = (s, .raised .runtimeError) :=
  block_exec_some b h

/-- at every point reachable inside a block of `t` — after any completed statements, inside any further blocks —
    the tag counts as entered -/
theorem C17_reach_prev {s s' : St} (hr : Reach s s') (u : TagId) (h : HookId) (hp : (s.tags u).prev = some h) :
    (s'.tags u).prev = some h := by
  induction hr with
  | refl => exact hp
  | stmt p _ ih => exact (Prog.exec_stable p _).prev u h ih
  | enter t _ ht ih =>
    rw [entered_prev_ne _ _ _ (ne_of_prev ht (by simp [ih]))]
    exact ih

/-- entering a tag whose block is still active (any point reachable from just inside its block) raises and leaves
    the hook chain and everything else intact -/
theorem C17_reenter_active (t : TagId) (b : Progs) (s s' : St) (hr : Reach (s.entered t) s') :
    (Prog.block t b).exec s' = (s', .raised .runtimeError) :=
  C17_reenter t b s' (by rw [C17_reach_prev hr t s.hook (entered_prev_self s t)]; simp)

/-! ### collect -/

/-- a displayed value is rejected exactly when it is an invalid value, or a list/tuple holding at any depth an invalid
    value or `...` (`Val.rejected`, read off the value); the exception is always TypeError -/
theorem C17_child_rules_rejects (v : Val) (e : Err) :
    normDisplayed v = .error e ↔ e = .typeError ∧ v.rejected = true := by
  rw [normDisplayed_eq_toItems, rejected_eq_badChild]
  exact toItems_error_iff _ e

/-- the child rules for one displayed value that is not a sequence: None and Ellipsis are ignored, a `_repr_html_`
    object is kept as HTML, a number as its `str`, a Tag by reference, strings and HTML as they are; a Tagifiable object
    is kept as the object — also when it has `_repr_html_` as well (a JSXTag, a widget): it is NOT turned into HTML,
    so its `tagify()` and its dependencies survive; exactly the invalid values are rejected, with TypeError -/
theorem C17_child_rules (s h : Str) (t : TagId) :
    normDisplayed .none = .ok [] ∧ normDisplayed .ellipsis = .ok [] ∧
    normDisplayed (.reprHtml h) = .ok [.html h] ∧ normDisplayed (.html h) = .ok [.html h] ∧
    normDisplayed (.text s) = .ok [.text s] ∧ normDisplayed (.num s) = .ok [.text s] ∧
    normDisplayed (.tagRef t) = .ok [.tagRef t] ∧ normDisplayed .invalid = .error .typeError ∧
    normDisplayed (.tagifiable s) = .ok [.tobj s] ∧ normDisplayed (.tagifiableRepr s) = .ok [.trobj s] ∧
    (∀ v e, v.isSeq = false → normDisplayed v = .error e → v = .invalid ∧ e = .typeError) := by
  refine ⟨rfl, rfl, rfl, rfl, rfl, rfl, rfl, rfl, rfl, rfl, ?_⟩
  intro v e hs hv
  obtain ⟨he, hr⟩ := (C17_child_rules_rejects v e).mp hv
  cases v with
  | invalid => exact ⟨rfl, he⟩
  | list | tuple | tagList => cases hs
  | _ => cases hr

/-- the child rules for displayed sequences: a TagList contributes its nodes as they are; a list and a tuple contribute,
    in order, what each element contributes under the rules of `append` (`toItems`), the first rejected element
    rejecting the whole value (nothing is appended then, see `C17_invalid_any`) -/
theorem C17_child_rules_seq (its : List Item) (v : Val) (vs : Vals) :
    normDisplayed (.tagList its) = .ok its ∧
    normDisplayed (.list .nil) = .ok [] ∧ normDisplayed (.tuple .nil) = .ok [] ∧
    normDisplayed (.list (.cons v vs)) = appendE (toItems v) (normDisplayed (.list vs)) ∧
    normDisplayed (.tuple (.cons v vs)) = appendE (toItems v) (normDisplayed (.tuple vs)) :=
  ⟨toNodes_map_toVal its, rfl, rfl, toNodes_append v.flat vs.flat, toNodes_append v.flat vs.flat⟩

/-- an element of a displayed list/tuple is under the rules of `append`, which differ from those of a displayed value
    in two places: `...` is rejected (only the hook wrapper ignores it), and a `_repr_html_` object is kept as the
    object; nested lists/tuples/TagLists are opened in place -/
theorem C17_child_rules_elem (s h : Str) (t : TagId) (its : List Item) (v : Val) (vs : Vals) :
    toItems .none = .ok [] ∧ toItems .ellipsis = .error .typeError ∧ toItems .invalid = .error .typeError ∧
    toItems (.reprHtml h) = .ok [.robj h] ∧ toItems (.html h) = .ok [.html h] ∧
    toItems (.text s) = .ok [.text s] ∧ toItems (.num s) = .ok [.text s] ∧ toItems (.tagRef t) = .ok [.tagRef t] ∧
    toItems (.tagifiable s) = .ok [.tobj s] ∧ toItems (.tagifiableRepr s) = .ok [.trobj s] ∧
    toItems (.tagList its) = .ok its ∧
    toItems (.list .nil) = .ok [] ∧ toItems (.list (.cons v vs)) = appendE (toItems v) (toItems (.list vs)) ∧
    toItems (.tuple vs) = toItems (.list vs) :=
  ⟨rfl, rfl, rfl, rfl, rfl, rfl, rfl, rfl, rfl, rfl, toNodes_map_toVal its, rfl, toNodes_append v.flat vs.flat, rfl⟩

/-- a block's tag afterwards holds its former children followed by the normalised values displayed directly in the
    block, in order, up to the first raise, nested blocks contributing their tag when they exit (`Progs.spec`).
    `E` = the tags entered before. -/
theorem C17_collect (t : TagId) (b : Progs) (s : St) (E : List TagId) (hA : Agree s E) (hk : HookOk s)
    (ht : (s.tags t).prev = none) :
    (((Prog.block t b).exec s).1.tags t).children = (s.tags t).children ++ (b.spec (t :: E)).items := by
  have htE : t ∉ E := fun h => (hA t).mp h ht
  exact (Prog.exec_grown (.block t b) s E hA hk.2 (t, (b.spec (t :: E)).items) (by simp [Prog.blocks, htE])).children

/-- a statement directly inside a block appends exactly its `spec` items to that block's tag and ends as `spec` says -/
theorem C17_collect_step (p : Prog) (s : St) (E : List TagId) (x : TagId) (hA : Agree s E)
    (hk : s.hook = .wrap x) (hx : (s.tags x).prev ≠ none) :
    ((p.exec s).1.tags x).children = (s.tags x).children ++ (p.spec E).items ∧ (p.exec s).2 = (p.spec E).outcome :=
  have h := Prog.exec_spec p s E x hA hk hx
  ⟨h.sink, h.outcome⟩

/-- under the outermost hook: the recorder receives every displayed value raw and every top-level tag when its
    block exits, in order, up to the first raise; the run ends with the kind of that first raise -/
theorem C17_collect_outer (ps : Progs) (s : St) (E : List TagId) (hA : Agree s E) (hk : s.hook = .outer) :
    (ps.exec s).1.outer = s.outer ++ (ps.specTop E).items ∧ (ps.exec s).2 = (ps.specTop E).outcome :=
  have h := Progs.exec_specTop ps s E hA hk
  ⟨h.log, h.outcome⟩

/-- the final state of a whole run: every block entered anywhere (`blocksTop`, any depth) has its former children
    followed by its body's items — later statements do not disturb it —, and every other tag is untouched -/
theorem C17_collect_final (ps : Progs) (s : St) (E : List TagId) (hA : Agree s E) (hk : s.hook = .outer) :
    (∀ q ∈ ps.blocksTop E, ((ps.exec s).1.tags q.1).children = (s.tags q.1).children ++ q.2) ∧
    (∀ u, u ∈ E → ((ps.exec s).1.tags u).children = (s.tags u).children) ∧
    (∀ u, u ∉ (ps.specTop E).entered → ((ps.exec s).1.tags u).children = (s.tags u).children) := by
  have st := Progs.exec_stable ps s
  have hk' : ∀ u, s.hook ≠ .wrap u := fun u e => by cases hk.symm.trans e
  exact ⟨fun q hq => (Progs.exec_grownTop ps s E hA hk q hq).children,
    fun u hu => st.frame u (hk' u) (.inl ((hA u).mp hu)),
    fun u hu => st.frame u (hk' u) (.inr (prev_none_of_notin (Progs.exec_specTop ps s E hA hk).agree hu))⟩

/-- a self-rendering object displayed directly is never stored raw: a non-sequence value leaves strings, HTML, Tag
    references and Tagifiable objects only (inside a list/tuple the rules of `append` keep it as the object) -/
theorem C17_items_normal (v : Val) (its : List Item) (hs : v.isSeq = false) (h : normDisplayed v = .ok its) :
    ∀ i ∈ its, ∀ r, i ≠ .robj r := by
  cases v with
  | list | tuple | tagList => cases hs
  | _ => cases h <;> simp

/-- replacing a tag's child-list object by a new one holding the same nodes, at any point, changes nothing: what is
    displayed afterwards still reaches the tag (`Progs.spec` passes over `rebind`, and `C17_collect` holds for bodies
    containing it) — the hook is tied to the tag, not to the list object it had at entry -/
theorem C17_collect_rebind (t : TagId) (s : St) (E : List TagId) :
    (Prog.rebind t).exec s = (s, .done) ∧ ((Prog.rebind t).spec E).items = [] ∧ ((Prog.rebind t).spec E).outcome = .done :=
  ⟨rfl, rfl, rfl⟩

/-! ### invalid values and propagation -/

/-- an invalid value displayed inside a block raises TypeError and appends nothing -/
theorem C17_invalid (s : St) (x : TagId) (hk : s.hook = .wrap x) :
    (Prog.display .invalid).exec s = (s, .raised .typeError) := by
  rw [display_exec_wrap hk]; rfl

/-- any rejected value (an invalid one, or a list/tuple holding one or `...` at any depth) displayed inside a block
    raises TypeError and appends nothing — not even the elements before the bad one -/
theorem C17_invalid_any (s : St) (x : TagId) (v : Val) (hk : s.hook = .wrap x) (hv : v.rejected = true) :
    (Prog.display v).exec s = (s, .raised .typeError) := by
  rw [display_exec_wrap hk, (C17_child_rules_rejects v .typeError).mpr ⟨rfl, hv⟩]

/-- a raise ends the statement list: nothing after it runs -/
theorem C17_raise_skips_rest (p : Prog) (ps : Progs) (s : St) (e : Err) (h : (p.exec s).2 = .raised e) :
    (Progs.cons p ps).exec s = p.exec s := by
  simp only [Progs.exec_cons, h]
  exact Prod.ext rfl h.symm

/-- an exception in a body propagates out of the block unchanged (`__exit__` runs, does not raise, returns None);
    by `C17_restore` the hook is restored at every level it passes through, by `C17_once` each tag is still handed on -/
theorem C17_invalid_propagates (t : TagId) (b : Progs) (s : St) (hk : HookOk s) (ht : (s.tags t).prev = none) :
    ((Prog.block t b).exec s).2 = (b.exec (s.entered t)).2 :=
  block_outcome b ht hk.1

/-- `HookOk` is an invariant: it holds at every point reachable from a state where it holds (the initial state is
    one: `C17_hookOk_init`) -/
theorem C17_hookOk_reach {s s' : St} (h : HookOk s) (hr : Reach s s') : HookOk s' := by
  induction hr with
  | refl => exact h
  | @stmt s1 p _ ih =>
    have st := Prog.exec_stable p s1
    exact ⟨st.hook ▸ ih.1, fun x hx => st.prev_ne (ih.2 x (st.hook ▸ hx))⟩
  | enter t _ _ _ => exact ⟨by simp, fun x hx => by cases hx; simp⟩

theorem C17_hookOk_init (kids : TagId → List Item) : HookOk (St.init kids) ∧ Agree (St.init kids) [] :=
  ⟨⟨nofun, nofun⟩, fun u => by simp [St.init]⟩

/-! ### once: every entered tag is handed exactly once, at its exit, to the hook current at its entry -/

/-- entered under the recorder: the recorder's log grows by exactly the tag, on every exit path -/
theorem C17_once_outer (t : TagId) (b : Progs) (s : St) (ht : (s.tags t).prev = none) (hk : s.hook = .outer) :
    ((Prog.block t b).exec s).1.outer = s.outer ++ [.tagRef t] :=
  block_log b ht hk

/-- entered inside the block of `x`: the children of `x` grow by exactly a reference to the tag — nothing the body
    does reaches `x` —, on every exit path -/
theorem C17_once (t x : TagId) (b : Progs) (s : St) (ht : (s.tags t).prev = none) (hk : s.hook = .wrap x)
    (hx : (s.tags x).prev ≠ none) :
    (((Prog.block t b).exec s).1.tags x).children = (s.tags x).children ++ [.tagRef t] :=
  block_sink b ht hk hx

/-- … and to nobody else: no other entered tag's children change, and under a tag's wrapper the recorder is not called -/
theorem C17_once_nobody_else (t : TagId) (b : Progs) (s : St) :
    (∀ u, (s.tags u).prev ≠ none → s.hook ≠ .wrap u →
        (((Prog.block t b).exec s).1.tags u).children = (s.tags u).children) ∧
    (s.hook ≠ .outer → ((Prog.block t b).exec s).1.outer = s.outer) :=
  ⟨fun u hu hk => (Prog.exec_stable _ s).frame u hk (.inl hu), (Prog.exec_stable _ s).outer⟩

/-- a failed `__enter__` (re-entering an active tag) hands the tag to nobody: state, children and log are unchanged, so
    the one hand-over at the exit of the active block stays the only one — see `C17_reenter_active` -/
theorem C17_once_not_on_failed_enter (t : TagId) (b : Progs) (s s' : St) (hr : Reach (s.entered t) s') :
    ((Prog.block t b).exec s').1 = s' := by
  rw [C17_reenter_active t b s s' hr]

/-! ### non-vacuity: concrete instances -/

/-- `with t0: display("a"); display(None); t0.children = <new list, same nodes>;
      with t1: display(<repr r>); display(<JSXTag j>); display(["x", None, (7, <repr q>)]); raise`
    followed by dead code, from the initial state -/
def demo : Progs :=
  .cons (.block 0 (.cons (.display (.text ['a'])) (.cons (.display .none) (.cons (.rebind 0)
    (.cons (.block 1 (.cons (.display (.reprHtml ['r'])) (.cons (.display (.tagifiableRepr ['j']))
      (.cons (.display (.list (.cons (.text ['x']) (.cons .none (.cons (.tuple (.cons (.num ['7']) (.cons (.reprHtml ['q']) .nil))) .nil)))))
        (.cons .raise .nil)))))
      (.cons (.display (.text ['z'])) .nil)))))) .nil

example : ((demo.exec (St.init fun _ => [])).1.tags 0).children = [.text ['a'], .tagRef 1] := rfl
example : ((demo.exec (St.init fun _ => [])).1.tags 1).children =
    [.html ['r'], .trobj ['j'], .text ['x'], .text ['7'], .robj ['q']] := rfl
example : (demo.exec (St.init fun _ => [])).2 = .raised .exception ∧
    (demo.exec (St.init fun _ => [])).1.outer = [.tagRef 0] ∧ (demo.exec (St.init fun _ => [])).1.hook = .outer := ⟨rfl, rfl, rfl⟩
example : demo.blocksTop [] = [(0, [.text ['a'], .tagRef 1]),
    (1, [.html ['r'], .trobj ['j'], .text ['x'], .text ['7'], .robj ['q']])] := rfl
/-- a rejected sequence: the bad element sits two levels down, after good ones -/
example : (Val.list (.cons (.text ['x']) (.cons (.tuple (.cons .none (.cons .ellipsis .nil))) .nil))).rejected = true ∧
    normDisplayed (.list (.cons (.text ['x']) (.cons (.tuple (.cons .none (.cons .ellipsis .nil))) .nil))) = .error .typeError :=
  ⟨by decide, (C17_child_rules_rejects _ _).mpr ⟨rfl, by decide⟩⟩
/-- the hypotheses of `C17_reenter_active` are satisfiable: just inside the block of tag 0, two statements later -/
example : Reach ((St.init fun _ => []).entered 0)
    ((Prog.display .none).exec ((Prog.display (.text ['a'])).exec ((St.init fun _ => []).entered 0)).1).1 :=
  .stmt _ (.stmt _ .refl)

end HtmlVerif.C17
