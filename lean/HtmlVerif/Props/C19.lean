/-
C19 — Every tag function creates its own element with the documented default.
All statements are over tables generated from the source by harness/translate.py on every run,
so the kernel checks them against tags.py / svg.py / __init__.py / generate_tags.py as they are at that run.
-/
import HtmlVerif.Generated.Tables
import HtmlVerif.Generated.TagFns
import HtmlVerif.Model.TagFn
import HtmlVerif.Spec.TagCensus

namespace HtmlVerif.C19
open HtmlVerif HtmlVerif.Generated HtmlVerif.TagCensus

/-- a name as one number (digits `c + 1` to the base 2³² + 1): the checks below look names up in the tables
    some thousand times, and the kernel compares two numerals in one step, two `List Char` literals in many -/
def code : Str → Nat
  | [] => 0
  | c :: s => c.toNat + 4294967297 * code s + 1

theorem code_inj : ∀ {s t : Str}, code s = code t → s = t
  | [], [], _ => rfl
  | [], _ :: _, h => (Nat.succ_ne_zero _ h.symm).elim
  | _ :: _, [], h => (Nat.succ_ne_zero _ h).elim
  | c :: s, d :: t, h => by
    have hc : c.toNat < 2 ^ 32 := c.val.toNat_lt
    have hd : d.toNat < 2 ^ 32 := d.val.toNat_lt
    obtain ⟨h1, h2⟩ : c.toNat = d.toNat ∧ code s = code t := by simp only [code] at h; omega
    rw [Char.toNat_inj.mp h1, code_inj h2]

def memC (x : Nat) : List Nat → Bool
  | [] => false
  | y :: r => Nat.beq x y || memC x r

theorem memC_code {α} (f : α → Str) (n : Str) (l : List α) :
    memC (code n) (l.map fun r => code (f r)) = l.any fun r => f r == n := by
  induction l with
  | nil => rfl
  | cons m r ih =>
    have : Nat.beq (code n) (code (f m)) = (f m == n) := by
      rw [Bool.eq_iff_iff, Nat.beq_eq, beq_iff_eq]; exact ⟨fun h => (code_inj h).symm, fun h => h ▸ rfl⟩
    simp only [List.map_cons, memC, List.any_cons, ih, this]

theorem contains_eq_memC (l : List Str) (n : Str) : l.contains n = memC (code n) (l.map code) := by
  rw [List.contains_eq_any_beq]; exact ((memC_code id n l).trans (by simp only [id, BEq.comm (b := n)])).symm

def nodupC : List Nat → Bool
  | [] => true
  | x :: r => !memC x r && nodupC r

theorem nodup_of_codes {α} (f : α → Str) :
    ∀ l : List α, nodupC (l.map fun r => code (f r)) = true → (l.map f).Nodup
  | [], _ => .nil
  | m :: r, h => by
    simp only [List.map_cons, nodupC, memC_code, Bool.and_eq_true, Bool.not_eq_true', List.any_eq_false,
      beq_iff_eq] at h
    exact List.nodup_cons.mpr ⟨by simpa using h.1, nodup_of_codes f r h.2⟩

/-- every function body is exactly `return Tag("<lit>", *args, _add_ws=_add_ws, **kwargs)` with signature
    `(*args, _add_ws=<bool constant>, **kwargs)`: children, dicts and keywords are forwarded untouched -/
theorem C19_shape : allFns.all (·.shapeOk) = true := by decide +kernel

/-- the element name is the function's own name -/
theorem C19_name : allFns.all (fun r => r.tagLit == r.fnName) = true := by decide +kernel

/-- default whitespace flag: inline exactly for the names the project classifies as inline -/
theorem C19_default : allFns.all (fun r => r.dflt == !inlineNames.contains r.fnName) = true := by
  simp only [contains_eq_memC]
  decide +kernel

/-- per module, no function name is defined twice (so the table rows are the exported functions) -/
theorem C19_distinct :
    (htmlFns.map (·.fnName)).Nodup ∧ (svgFns.map (·.fnName)).Nodup :=
  ⟨nodup_of_codes _ _ (by decide +kernel), nodup_of_codes _ _ (by decide +kernel)⟩

/-- the tables were read from displays of the required shape, and are non-empty -/
theorem C19_tables_ok : allShapesOk = true ∧ htmlFns ≠ [] ∧ svgFns ≠ [] ∧ inlineNames ≠ [] := by
  decide +kernel

/-- top-level shortcuts: imported unrenamed from `.tags`, exported in `__all__`, and rows of the html table -/
theorem C19_reexport :
    reexportShapeOk = true ∧ reexports ≠ [] ∧
    reexports.all (fun n => initAll.contains n && htmlFns.any (fun r => r.fnName == n)) = true := by
  simp only [← memC_code, contains_eq_memC]
  decide +kernel

/-- **census** (by name, never by count): every public tag function of the pinned tree — the 113 html and 66 svg
    wrappers and the 17 top-level shortcuts the property quantifies over, recorded by harness/mkcensus.py — still
    has a row (so `C19_shape/_name/_default/_call` speak about it) / is still imported from `.tags` and exported in
    `__all__`.  Rows that were added since are allowed (the harness lists them in the evidence). -/
theorem C19_census :
    censusHtml.all (fun n => htmlFns.any (fun r => r.fnName == n)) = true ∧
    censusSvg.all (fun n => svgFns.any (fun r => r.fnName == n)) = true ∧
    censusTop.all (fun n => reexports.contains n && initAll.contains n) = true := by
  simp only [← memC_code, contains_eq_memC]
  decide +kernel

/-- what the modules themselves declare: every name in `tags.__all__` is a wrapper of tags.py; and every name of
    the `__all__` that scripts/generate_tags.py writes into tags.py (when the translator located it) is a wrapper
    and is in the current `tags.__all__` -/
theorem C19_declared_exports :
    tagsAll.all (fun n => htmlFns.any (fun r => r.fnName == n)) = true ∧
    (match genTagsAll with
     | none => true
     | some g => g.all (fun n => htmlFns.any (fun r => r.fnName == n) && tagsAll.contains n)) = true := by
  simp only [← memC_code, contains_eq_memC]
  decide +kernel

/-- the census is not vacuous -/
example : censusHtml.length ≥ 100 ∧ censusSvg.length ≥ 60 ∧ censusTop.length ≥ 17 ∧
    censusHtml.contains ['l','a','b','e','l'] = true ∧ censusSvg.contains ['t','e','x','t','P','a','t','h'] = true := by
  decide +kernel

/-- calling any wrapper: default flag when `_add_ws` is omitted, explicit bool honoured, non-bool rejected -/
theorem C19_call (r : TagFnRow) (h : r ∈ allFns) :
    callWrapper r none = some (r.fnName, !inlineNames.contains r.fnName) ∧
    (∀ b, callWrapper r (some (.bool b)) = some (r.fnName, b)) ∧
    callWrapper r (some .other) = none := by
  have hn := List.all_eq_true.mp C19_name r h
  have hd := List.all_eq_true.mp C19_default r h
  simp only [beq_iff_eq] at hn hd
  refine ⟨?_, ?_, ?_⟩ <;> simp [callWrapper, tagInitWs, hn, hd]

/-- non-vacuity: the table really contains e.g. `div` (block) and `span` (inline) -/
example : allFns.any (fun r => r.fnName == ['d','i','v'] && r.dflt) = true
    ∧ allFns.any (fun r => r.fnName == ['s','p','a','n'] && !r.dflt) = true := by decide +kernel

end HtmlVerif.C19
