/-
Source tie (DESIGN §14) for C14 — child lists hold only normalised nodes.  The Lean functions regenerated from the
*text* of `is_tag_node`, `is_tag_child` (htmltools/_core.py), `flatten`, `_flatten_recurse` (htmltools/_util.py),
`_tagchilds_to_tagnodes` and the `TagList` constructor / mutators compute, for every argument value of the child-list
model (Model/Children.lean: None, numbers, strings, nodes, lists / tuples / TagLists nested to any depth, other iterables,
unsupported objects) what the model computes — TypeError branches included.

`_flatten_recurse(x, result)` mutates its parameter; its translation returns the new `result` (harness/pytr_c14.py states and
checks the no-aliasing conditions).  It is self-recursive, so it takes fuel; the theorems hold for every fuel that covers the
nesting depth of the argument.  The functions above it are emitted with a fuel argument as well (they pass it on).

The embedding `embA : Arg → PVal` is in Lemmas/SrcC14.lean.  `argRep x` says that the text the model carries for every number
in `x` is what `str()` gives for the embedded value (the model takes that text as a parameter) and that dict keys are strings.

Every theorem takes `<fn>_available = true` for the function and for every translated function it calls; when a function has
left the translatable fragment the flag is `false` and the first alternative (`absurd`) proves the theorem vacuously.
The two loops (`_flatten_recurse`, `_tagchilds_to_tagnodes`) are tied once, on Python values, in Lemmas/SrcFlatten.lean (no loop
body is spelled out); here the class tests and the per-item steps are supplied for the embedded values.
-/
import HtmlVerif.Generated.Src
import HtmlVerif.Lemmas.SrcC14

namespace HtmlVerif.SrcTie
open HtmlVerif HtmlVerif.Py HtmlVerif.Generated.Src

theorem src_is_tag_node (h : is_tag_node_available = true) (G : Globals) (a : Arg) :
    is_tag_node G (embA a) = .ok (.bool a.isTagNode) := by
  first
  | exact absurd h (by decide)
  | unfold is_tag_node
    simp only [pure_eq_ok]
    cases a <;> first | cases ‹Node› | cases ‹NumKind› | cases ‹SeqKind› | skip
    all_goals simp [embA, embNode, numVal, embSeq, seqName, isInstance, builtinClasses, classBases, Arg.isTagNode,
      Node.isTagNode]

/-- `a or b` with a bool left operand: with it `src_is_tag_child` also covers the spelling `return a or b or c` of the three tests -/
theorem pyOr_boolC15b (x : Bool) (m : PyM PVal) : pyOr (.ok (.bool x)) m = if x then .ok (.bool true) else m := by
  cases x <;> rfl

set_option linter.unusedSimpArgs false in
theorem src_is_tag_child (h : is_tag_child_available = true) (hn : is_tag_node_available = true) (G : Globals) (a : Arg) :
    is_tag_child G (embA a) = .ok (.bool a.isTagChild) := by
  first
  | exact absurd h (by decide)
  | unfold is_tag_child
    simp only [src_is_tag_node hn, ok_bind, pure_eq_ok, truthy_bool, pyOr_boolC15b]
    -- a node passes the first test whatever it is; the other values are decided by their class
    cases a <;> first | cases ‹NumKind› | cases ‹SeqKind› | skip
    all_goals simp [embA, numVal, embSeq, seqName, isInstance, isInstanceSeq, isSequence, builtinClasses, classBases,
      Arg.isTagNode, Node.isTagNode_true, Arg.isTagChild, isNone, SeqKind.isSequence]

/-- `_flatten_recurse(x, result)` where iterating `x` yields the items `xs`, for any fuel above their nesting depth: `result`
    followed by the model's flattening (one level is `flatten_recurse_items`, Lemmas/SrcFlatten.lean) -/
theorem src_flatten_recurse_depth (h : util_flatten_recurse_available = true) (G : Globals) (fuel : Nat) :
    ∀ (xs : Args), argsFdepth xs < fuel → ∀ (X : PVal) (acc : List PVal), pyIter X = .ok (embAs xs) →
      util_flatten_recurse G fuel X (.list acc) = .ok (.list (acc ++ (xs.flattenInto []).map embA)) := by
  induction fuel with
  | zero => intro xs hd; omega
  | succ f ih =>
    intro xs hd X acc hX
    rw [flattenInto_toList, List.nil_append, List.map_flatMap]
    refine flatten_recurse_items h G f embA (fun c => (c.flattenItem []).map embA) xs.toList X acc
      (by rw [hX, embAs_toList]) ?nest ?leaf
    case leaf => intro c _ hn; exact flattenItem_leaf c (by rwa [isNest_embA] at hn)
    case nest =>
      intro c hc hn b
      have hdc := fdepth_mem xs c hc
      cases c with
      | list ys | tuple ys | taglist ys =>
        exact ih ys (by simp only [argFdepth] at hdc; omega) _ b (by first | rfl | exact pyIter_taglist _)
      | _ => rw [isNest_embA] at hn; cases hn

theorem src_flatten_recurse (h : util_flatten_recurse_available = true) (G : Globals) (x : Arg) (hr : argRep x = true)
    (acc : List Arg) (fuel : Nat) (hf : iterDepth x < fuel) :
    util_flatten_recurse G fuel (embA x) (.list (acc.map embA))
      = match x.iter with
        | .ok items => .ok (.list ((items.flattenInto acc).map embA))
        | .error e => .error (embErr e) := by
  first
  | exact absurd h (by decide)
  | have hi := pyIter_emb x hr
    cases hx : x.iter with
    | ok items =>
      rw [hx] at hi
      have := src_flatten_recurse_depth h G fuel items (by have := iter_fdepth x items hx; omega) (embA x) (acc.map embA) hi
      rwa [← List.map_append, ← Args.flattenInto_acc] at this
    | error e =>
      rw [hx] at hi
      obtain ⟨f, rfl⟩ : ∃ f, fuel = f + 1 := ⟨fuel - 1, by omega⟩
      rw [util_flatten_recurse]
      simp only [hi, error_bind]

theorem src_flatten (h : util_flatten_available = true) (hr' : util_flatten_recurse_available = true) (G : Globals)
    (x : Arg) (hr : argRep x = true) (fuel : Nat) (hf : iterDepth x + 1 < fuel) :
    util_flatten G fuel (embA x)
      = match x.iter with
        | .ok items => .ok (.list ((flatten items).map embA))
        | .error e => .error (embErr e) := by
  first
  | exact absurd h (by decide)
  | obtain ⟨f, rfl⟩ : ∃ f, fuel = f + 1 := ⟨fuel - 1, by omega⟩
    rw [util_flatten]
    simp only [pure_eq_ok]
    have := src_flatten_recurse hr' G x hr [] f (by omega)
    simp only [List.map_nil] at this
    rw [this]
    cases x.iter <;> rfl

theorem convItem_emb (hn : is_tag_node_available = true) (G : Globals) (a : Arg) (hr : argRep a = true) :
    convItem G (embA a) = embRes embStored (convOne a) := by
  simp only [convItem, isInt_emb, isFloat_emb, src_is_tag_node hn, ok_bind, truthy_bool]
  cases a with
  | num k t =>
    have hp := numOk_pyStr (show numOk k t = true from hr)
    cases k <;> simp only [argIsInt, argIsFloat, Bool.or_true, Bool.true_or, Bool.or_false, if_true, embA, hp] <;> rfl
  | _ =>
    simp only [argIsInt, argIsFloat, Bool.or_false, Bool.false_eq_true, if_false, convOne]
    split <;> rename_i ht <;> simp [ht, embRes, embStored_ofArg, embErr]

theorem convItems_emb (hn : is_tag_node_available = true) (G : Globals) (L : List Arg) (hr : ∀ a ∈ L, argRep a = true) :
    ((L.map embA).mapM (convItem G) >>= fun r => .ok (.list r)) = embRes (fun r => .list (r.map embStored)) (convertLoop L) := by
  rw [convertLoop_mapM]
  induction L with
  | nil => rfl
  | cons a r ih =>
    have ih := ih (fun x hx => hr x (by simp [hx]))
    rw [List.map_cons, List.mapM_cons, List.mapM_cons, convItem_emb hn G a (hr a (by simp))]
    cases convOne a with
    | error e => rfl
    | ok s =>
      cases hm : List.mapM (convItem G) (r.map embA) <;> cases hc : List.mapM convOne r <;> rw [hm, hc] at ih <;>
        simp_all [embRes, bind, Except.bind, pure, Except.pure]

/-- `_tagchilds_to_tagnodes(x)` as the source has it = `chTagchildsToTagnodes`: a `str` is one child; otherwise the items of
    `x` are flattened, numbers become their `str()` text, and anything that is not a tag node makes the call raise TypeError -/
theorem src_tagchilds_to_tagnodes (h : tagchilds_to_tagnodes_available = true) (hf' : util_flatten_available = true)
    (hr' : util_flatten_recurse_available = true) (hn : is_tag_node_available = true) (G : Globals)
    (x : Arg) (hr : argRep x = true) (fuel : Nat) (hf : iterDepth x + 2 < fuel) :
    tagchilds_to_tagnodes G fuel (embA x) = embRes (fun r => .list (r.map embStored)) (chTagchildsToTagnodes x) := by
  first
  | exact absurd h (by decide)
  | obtain ⟨f, rfl⟩ : ∃ f, fuel = f + 1 := ⟨fuel - 1, by omega⟩
    have hfl := src_flatten hf' hr' G x hr f (by omega)
    unfold chTagchildsToTagnodes
    by_cases hs : x.isStr = true
    · rw [tagchilds_to_tagnodes]
      simp [isStr_emb, hs, embRes, embStored_ofArg]
    · simp only [hs, Bool.false_eq_true, if_false]
      cases hx : x.iter with
      | error e =>
        rw [tagchilds_to_tagnodes]
        simp only [pure_eq_ok, truthy_bool, isStr_emb, hs, Bool.false_eq_true, if_false, hfl, hx, error_bind]
        rfl
      | ok items =>
        rw [hx] at hfl
        rw [tagchilds_of_flatten h G f _ _ (by rw [isStr_emb]; simpa using hs) hfl]
        exact convItems_emb hn G _ (flatten_rep items (iter_rep x hr items hx))

theorem src_should_not_expand (h : TagList_should_not_expand_available = true) (G : Globals) (self : PVal) (x : Arg) :
    TagList_should_not_expand G self (embA x) = .ok (.bool x.isStr) := by
  first
  | exact absurd h (by decide)
  | unfold TagList_should_not_expand
    simp only [pure_eq_ok, isStr_emb]

/-- `TagList(*args)` as the source has it = `TL.init`: the new instance's `.data` is the normalised list, or TypeError -/
theorem src_TagList_init (h : TagList_init_available = true) (ht : tagchilds_to_tagnodes_available = true)
    (hf' : util_flatten_available = true) (hr' : util_flatten_recurse_available = true) (hn : is_tag_node_available = true)
    (G : Globals) (args : List Arg) (hr : args.all argRep = true) (fuel : Nat)
    (hf : argsFdepth (Args.ofList args) + 3 < fuel) :
    TagList_init G fuel (.obj "TagList" []) (.tuple (args.map embA)) = embRes embTL (TL.init args) := by
  first
  | exact absurd h (by decide)
  | obtain ⟨f, rfl⟩ : ∃ f, fuel = f + 1 := ⟨fuel - 1, by omega⟩
    rw [TagList_init]
    have key := src_tagchilds_to_tagnodes ht hf' hr' hn G (.tuple (Args.ofList args)) (by simpa [argRep, rep_ofList] using hr) f
      (by simp only [iterDepth]; omega)
    simp only [embA, embAs_ofList] at key
    simp only [pure_eq_ok, key, TL.init]
    cases chTagchildsToTagnodes (.tuple (Args.ofList args)) with
    | error e => rfl
    | ok r => simp [embRes, userListInit_new, embTL]

theorem src_TagList_extend (h : TagList_extend_available = true) (ht : tagchilds_to_tagnodes_available = true)
    (hf' : util_flatten_available = true) (hr' : util_flatten_recurse_available = true) (hn : is_tag_node_available = true)
    (G : Globals) (s : TL) (other : Arg) (hr : argRep other = true) (fuel : Nat) (hf : iterDepth other + 3 < fuel) :
    TagList_extend G fuel (embTL s) (embA other) = embOut (s.extend other) := by
  first
  | exact absurd h (by decide)
  | obtain ⟨f, rfl⟩ : ∃ f, fuel = f + 1 := ⟨fuel - 1, by omega⟩
    rw [TagList_extend]
    simp only [pure_eq_ok, src_tagchilds_to_tagnodes ht hf' hr' hn G other hr f (by omega), TL.extend]
    cases chTagchildsToTagnodes other with
    | error e => rfl
    | ok r => simp [embRes, embTL, userListExtend_tl, embOut]

/-- `self.append(item, *args)` as the source has it = `TL.append` (with at least the one required argument) -/
theorem src_TagList_append (h : TagList_append_available = true) (he : TagList_extend_available = true)
    (ht : tagchilds_to_tagnodes_available = true) (hf' : util_flatten_available = true)
    (hr' : util_flatten_recurse_available = true) (hn : is_tag_node_available = true)
    (G : Globals) (s : TL) (item : Arg) (rest : List Arg) (hr : (item :: rest).all argRep = true) (fuel : Nat)
    (hf : argsFdepth (Args.ofList (item :: rest)) + 4 < fuel) :
    TagList_append G fuel (embTL s) (embA item) (.tuple (rest.map embA)) = embOut (s.append (item :: rest)) := by
  first
  | exact absurd h (by decide)
  | obtain ⟨f, rfl⟩ : ∃ f, fuel = f + 1 := ⟨fuel - 1, by omega⟩
    rw [TagList_append]
    have key := src_TagList_extend he ht hf' hr' hn G s (.list (Args.ofList (item :: rest)))
      (by simpa only [argRep, rep_ofList] using hr) f (by simp only [iterDepth]; omega)
    simp only [embA, embAs_ofList, List.map_cons] at key
    simp only [pure_eq_ok, pyIter_tuple, ok_bind, List.singleton_append, key, TL.append, bind_ok_self]

/-- `self.insert(i, item)` as the source has it = `TL.insert` (slice insertion with Python's index clamping) -/
theorem src_TagList_insert (h : TagList_insert_available = true) (ht : tagchilds_to_tagnodes_available = true)
    (hf' : util_flatten_available = true) (hr' : util_flatten_recurse_available = true) (hn : is_tag_node_available = true)
    (G : Globals) (s : TL) (i : Int) (item : Arg) (hr : argRep item = true) (fuel : Nat) (hf : argFdepth item + 3 < fuel) :
    TagList_insert G fuel (embTL s) (.int i) (embA item) = embOut (s.insert i item) := by
  first
  | exact absurd h (by decide)
  | obtain ⟨f, rfl⟩ : ∃ f, fuel = f + 1 := ⟨fuel - 1, by omega⟩
    rw [TagList_insert]
    have key := src_tagchilds_to_tagnodes ht hf' hr' hn G (.list (.cons item .nil)) (by simpa [argRep, argsRep] using hr) f
      (by simp only [iterDepth, argsFdepth]; omega)
    simp only [embA, embAs] at key
    simp only [pure_eq_ok, key, TL.insert]
    cases chTagchildsToTagnodes (.list (.cons item .nil)) with
    | error e => rfl
    | ok r => simp [embRes, embTL, userListSliceInsert_tl, embOut, List.map_append, List.map_take, List.map_drop]

/-- `TagList(*L)` when every member of `L` is the receiver `s` itself or a representable value nested no deeper than `n` -/
theorem src_TagList_init_mix (h : TagList_init_available = true) (ht : tagchilds_to_tagnodes_available = true)
    (hf' : util_flatten_available = true) (hr' : util_flatten_recurse_available = true) (hn : is_tag_node_available = true)
    (G : Globals) (s : TL) (hrs : tlRep s = true) (L : List Arg) (n : Nat)
    (hL : ∀ a ∈ L, a = s.toArg ∨ argRep a = true ∧ argFdepth a ≤ n) (f : Nat) (hf1 : tlDepth s + 4 < f) (hf2 : n + 3 < f) :
    TagList_init G f (.obj "TagList" []) (.tuple (L.map embA)) = embRes embTL (TL.init L) := by
  refine src_TagList_init h ht hf' hr' hn G L ?_ f ?_
  · rw [List.all_eq_true]
    intro a ha
    rcases hL a ha with rfl | h'
    · exact (rep_toArg s).trans hrs
    · exact h'.1
  · have := fdepth_ofList_le L (f - 4) (by
      intro a ha
      rcases hL a ha with rfl | h'
      · simp only [fdepth_toArg]; omega
      · omega)
    omega

/-- `self + item` as the source has it = `TL.add`: a new TagList of the receiver followed by `item` itself (a `str`) or by
    what iterating `item` yields; TypeError if `item` is not iterable or holds an unsupported value -/
theorem src_TagList_add (h : TagList_add_available = true) (hi : TagList_init_available = true)
    (hs : TagList_should_not_expand_available = true) (ht : tagchilds_to_tagnodes_available = true)
    (hf' : util_flatten_available = true) (hr' : util_flatten_recurse_available = true) (hn : is_tag_node_available = true)
    (G : Globals) (s : TL) (item : Arg) (hrs : tlRep s = true) (hr : argRep item = true) (fuel : Nat)
    (hf1 : tlDepth s + 5 < fuel) (hf2 : argFdepth item + 4 < fuel) (hf3 : iterDepth item + 4 < fuel) :
    TagList_add G fuel (embTL s) (embA item) = embRes embTL (s.add item) := by
  first
  | exact absurd h (by decide)
  | obtain ⟨f, rfl⟩ : ∃ f, fuel = f + 1 := ⟨fuel - 1, by omega⟩
    rw [TagList_add]
    simp only [src_should_not_expand hs, ok_bind, truthy_bool, TL.add]
    by_cases hstr : item.isStr = true
    · simp only [hstr, if_true]
      have key := src_TagList_init_mix hi ht hf' hr' hn G s hrs [s.toArg, item] (argFdepth item)
        (by simp [hr]) f (by omega) (by omega)
      simp only [List.map_cons, List.map_nil, embTL_toArg] at key
      exact key
    · simp only [hstr, Bool.false_eq_true, if_false, pyIter_emb item hr]
      cases hx : item.iter with
      | error e => rfl
      | ok items =>
        have hd := iter_fdepth item items hx
        have hri := iter_rep item hr items hx
        rw [rep_toList, List.all_eq_true] at hri
        have key := src_TagList_init_mix hi ht hf' hr' hn G s hrs (s.toArg :: items.toList) (argsFdepth items)
          (by
            intro a ha
            rcases List.mem_cons.mp ha with rfl | ha
            · exact .inl rfl
            · exact .inr ⟨hri a ha, fdepth_mem items a ha⟩) f (by omega) (by omega)
        simp only [List.map_cons, embTL_toArg, ← embAs_toList] at key
        simp only [ok_bind, List.singleton_append]
        exact key

theorem src_TagList_radd (h : TagList_radd_available = true) (hi : TagList_init_available = true)
    (hs : TagList_should_not_expand_available = true) (ht : tagchilds_to_tagnodes_available = true)
    (hf' : util_flatten_available = true) (hr' : util_flatten_recurse_available = true) (hn : is_tag_node_available = true)
    (G : Globals) (s : TL) (item : Arg) (hrs : tlRep s = true) (hr : argRep item = true) (fuel : Nat)
    (hf1 : tlDepth s + 5 < fuel) (hf2 : argFdepth item + 4 < fuel) (hf3 : iterDepth item + 4 < fuel) :
    TagList_radd G fuel (embTL s) (embA item) = embRes embTL (s.radd item) := by
  first
  | exact absurd h (by decide)
  | obtain ⟨f, rfl⟩ : ∃ f, fuel = f + 1 := ⟨fuel - 1, by omega⟩
    rw [TagList_radd]
    simp only [src_should_not_expand hs, ok_bind, truthy_bool, TL.radd]
    by_cases hstr : item.isStr = true
    · simp only [hstr, if_true]
      have key := src_TagList_init_mix hi ht hf' hr' hn G s hrs [item, s.toArg] (argFdepth item)
        (by simp [hr]) f (by omega) (by omega)
      simp only [List.map_cons, List.map_nil, embTL_toArg] at key
      exact key
    · simp only [hstr, Bool.false_eq_true, if_false, pyIter_emb item hr]
      cases hx : item.iter with
      | error e => rfl
      | ok items =>
        have hd := iter_fdepth item items hx
        have hri := iter_rep item hr items hx
        rw [rep_toList, List.all_eq_true] at hri
        have key := src_TagList_init_mix hi ht hf' hr' hn G s hrs (items.toList ++ [s.toArg]) (argsFdepth items)
          (by
            intro a ha
            rcases List.mem_append.mp ha with ha | ha
            · exact .inr ⟨hri a ha, fdepth_mem items a ha⟩
            · exact .inl (List.mem_singleton.mp ha)) f (by omega) (by omega)
        simp only [List.map_append, List.map_cons, List.map_nil, embTL_toArg, ← embAs_toList] at key
        simp only [ok_bind]
        exact key

/-- `self += item` as the source has it = `TL.iadd` (extend in place, the receiver is returned) -/
theorem src_TagList_iadd (h : TagList_iadd_available = true) (he : TagList_extend_available = true)
    (ht : tagchilds_to_tagnodes_available = true) (hf' : util_flatten_available = true)
    (hr' : util_flatten_recurse_available = true) (hn : is_tag_node_available = true)
    (G : Globals) (s : TL) (other : Arg) (hr : argRep other = true) (fuel : Nat) (hf : iterDepth other + 4 < fuel) :
    TagList_iadd G fuel (embTL s) (embA other) = embOut (s.iadd other) := by
  first
  | exact absurd h (by decide)
  | obtain ⟨f, rfl⟩ : ∃ f, fuel = f + 1 := ⟨fuel - 1, by omega⟩
    rw [TagList_iadd]
    simp only [pure_eq_ok, src_TagList_extend he ht hf' hr' hn G s other hr f (by omega), TL.iadd, bind_ok_self]

/-! ### the hypotheses are satisfiable by non-trivial values -/

/-- `[3, (True, None, "ab"), TagList(1.5, [-20]), {"k": …}]` is representable -/
example : argRep (.list (.cons (.num .int "3".toList) (.cons (.tuple (.cons (.num .bool "True".toList) (.cons .none
    (.cons (.node (.text "ab".toList)) .nil)))) (.cons (.taglist (.cons (.num .float "1.5".toList)
    (.cons (.list (.cons (.num .int "-20".toList) .nil)) .nil))) (.cons (.seqLike .dict (.cons (.node (.text "k".toList)) .nil))
    .nil))))) = true := by decide +kernel

/-- a number text that is not what `str()` of any int gives is not -/
example : argRep (.num .int "03".toList) = false := by decide +kernel

end HtmlVerif.SrcTie
