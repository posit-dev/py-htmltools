/-
C07 — Metadata nodes leave no trace in the markup.
-/
import HtmlVerif.Spec.Meta
import HtmlVerif.Lemmas.Render

namespace HtmlVerif.C07
open HtmlVerif

theorem visible_stripMeta (ks : Nodes) :
    ks.stripMeta.visible = ks.visible.map Node.stripMeta := by
  induction ks with
  | nil => simp [Nodes.stripMeta, Nodes.visible]
  | cons h t ih =>
    cases h <;> simp_all [Nodes.stripMeta, Nodes.visible, Node.isMeta, Node.stripMeta]

theorem inlineChild?_stripMeta (v : List Node) :
    inlineChild? (v.map Node.stripMeta) = inlineChild? v := by
  match v with
  | [] => rfl
  | [a] => cases a <;> rfl
  | a :: b :: r => simp

mutual
  /-- rendering a tag is unchanged by deleting all metadata nodes below it -/
  theorem C07_tag (cfg : Cfg) (n : Node) (i : Nat) (e : Str) :
      n.stripMeta.render cfg i e = n.render cfg i e := by
    cases n with
    | tag name ws attrs kids =>
      simp only [Node.stripMeta, Node.render, visible_stripMeta, inlineChild?_stripMeta, C07_kids cfg kids,
        List.isEmpty_map]
    | _ => rfl
  theorem C07_kids (cfg : Cfg) (ks : Nodes) (i : Nat) (e : Str) (first prevWs esc : Bool) :
      ks.stripMeta.renderKids cfg i e first prevWs esc = ks.renderKids cfg i e first prevWs esc := by
    cases ks with
    | nil => rfl
    | cons h t =>
      have ht := C07_kids cfg t
      cases h with
      | tag n w a k =>
        have hh := C07_tag cfg (.tag n w a k)
        simp only [Node.stripMeta] at hh
        simp [Nodes.stripMeta, Node.isMeta, Nodes.renderKids, Node.stripMeta, ht, hh]
      | _ => simp [Nodes.stripMeta, Node.isMeta, Nodes.renderKids, Node.stripMeta, ht]
end

/-- top-level list form -/
theorem C07_list (cfg : Cfg) (ks : Nodes) (i : Nat) (e : Str) (aw esc : Bool) :
    renderList cfg ks.stripMeta i e aw esc = renderList cfg ks i e aw esc :=
  C07_kids cfg ks i e true aw esc

/-- any insertion/removal of metadata nodes at any set of positions: two trees with the same
    metadata-free skeleton render identically, for every indent and eol -/
theorem C07_insert_remove (cfg : Cfg) (t t' : Node) (h : t.stripMeta = t'.stripMeta) (i : Nat) (e : Str) :
    t.render cfg i e = t'.render cfg i e := by
  rw [← C07_tag cfg t, ← C07_tag cfg t', h]

theorem C07_insert_remove_list (cfg : Cfg) (ks ks' : Nodes) (h : ks.stripMeta = ks'.stripMeta)
    (i : Nat) (e : Str) (aw esc : Bool) :
    renderList cfg ks i e aw esc = renderList cfg ks' i e aw esc := by
  rw [← C07_list cfg ks, ← C07_list cfg ks', h]

/-- non-vacuity: a tree with metadata in first / middle / only-child positions -/
example : (Node.tag ['d'] true [] (.cons (.mnode 0) (.cons (.text ['a']) (.cons (.mnode 1)
    (.cons (.tag ['b','r'] false [] (.cons (.mnode 2) .nil)) .nil))))).stripMeta
    = Node.tag ['d'] true [] (.cons (.text ['a']) (.cons (.tag ['b','r'] false [] .nil) .nil)) := rfl

end HtmlVerif.C07
