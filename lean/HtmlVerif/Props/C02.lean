/-
C02 — Plain-text children are inert data.
Character level: html_escape as written is the per-character map & ↦ &amp;  < ↦ &lt;  > ↦ &gt; (others unchanged);
its output decodes to the original, contains no '<' / '>' and every '&' in it starts one of the three references.
Tree level: every plain-text leaf whose parent is not script/style is emitted exactly once, in document order,
through that map, and nothing else in the output depends on text content.
-/
import HtmlVerif.Lemmas.Refs
import HtmlVerif.Lemmas.Decode
import HtmlVerif.Lemmas.Leaves

namespace HtmlVerif.C02
open HtmlVerif

def cfg : Cfg :=
  { void := Generated.voidNames, noesc := Generated.noescNames,
    textTbl := Generated.textTbl, attrTbl := Generated.attrTbl }

/-- the table has the shape that makes sequential `str.replace` passes a per-character map
    (`&` handled before any replacement text containing `&` is produced) -/
theorem C02_textTbl_ok : TblOk Generated.textTbl = true := textTbl_ok

/-- `html_escape(s)` — guard, then sequential replace in table order — is the per-character map -/
theorem C02_esc_text_as_written (s : Str) : htmlEscapeT Generated.textTbl s = s.flatMap escTextChar :=
  escapeText_eq s

/-- what the renderer writes for a text leaf is that map -/
theorem C02_escText (s : Str) : escText cfg s = s.flatMap escTextChar := escapeText_eq s

/-- every character other than & < > is unchanged -/
theorem C02_esc_text_rest (c : Char) (h : c ≠ '&' ∧ c ≠ '<' ∧ c ≠ '>') : escTextChar c = [c] := by
  simp [escTextChar, h.1, h.2.1, h.2.2]

/-- decodes to exactly the original characters -/
theorem C02_esc_text_decode (s : Str) : decodeCharRefs (escText cfg s) = s := by
  rw [C02_escText]; exact decode_escText s

/-- can never open or close a tag, start a comment or a declaration: no '<' and no '>' survive -/
theorem C02_esc_text_inert (s : Str) : '<' ∉ escText cfg s ∧ '>' ∉ escText cfg s := by
  rw [C02_escText]; exact ⟨escText_inert s '<' (Or.inl rfl), escText_inert s '>' (Or.inr rfl)⟩

/-- can never forge a character reference: every '&' in the output begins `&amp;`, `&lt;` or `&gt;` -/
theorem C02_esc_text_amps (s : Str) : ampsOk textRefs (escText cfg s) = true := by
  rw [C02_escText]; exact escText_ampsOk s

/-- the mapping distributes over concatenation: splitting a text into several adjacent leaves changes nothing -/
theorem C02_esc_text_append (a b : Str) : escText cfg (a ++ b) = escText cfg a ++ escText cfg b :=
  htmlEscapeT_append _ a b

/-! ### tree level -/

mutual
  /-- every plain-text leaf in an escaping context is emitted exactly once, in document order, as an
      escaped-text piece — on every path (single-child exit and general loop), for every indent/eol -/
  theorem C02_every_position (cfg : Cfg) (n : Node) (i : Nat) (e : Str) :
      (n.pieces cfg i e).filterMap Piece.txt? = n.txtLeaves cfg := by
    cases n with
    | tag name ws attrs kids =>
      obtain ⟨sc, w, h⟩ := filterMap_pieces_tag Piece.txt? (fun _ => rfl) cfg name ws attrs kids i e
      rw [h, C02_every_position_kids]
      simp [Node.txtLeaves, List.filterMap_cons, apply_ite (List.filterMap Piece.txt?)]
    | _ => rfl
  theorem C02_every_position_kids (cfg : Cfg) (ks : Nodes) (i : Nat) (e : Str) (first prevWs esc : Bool) :
      (ks.piecesKids cfg i e first prevWs esc).filterMap Piece.txt? = ks.txtLeavesKids cfg esc := by
    cases ks with
    | nil => rfl
    | cons h t =>
      obtain ⟨i', e', f', w', hc⟩ :=
        filterMap_piecesKids_cons Piece.txt? (fun _ => rfl) cfg h t i e first prevWs esc
      simp only [hc, C02_every_position_kids cfg t, Nodes.txtLeavesKids]
      congr 1
      cases h with
      | tag n w a k => exact C02_every_position cfg (.tag n w a k) i' e'
      | text s => cases esc <;> rfl
      | _ => rfl
end

/-- an escaped-text piece realises to the escaped leaf -/
theorem C02_txt_realize (cfg : Cfg) (s : Str) : (Piece.txt s).realize cfg = escText cfg s := rfl

mutual
  /-- nothing else in the output depends on the text: replacing the content of every text leaf by an
      arbitrary function of it leaves the sequence of markup, layout and content *slots* unchanged -/
  theorem C02_skeleton (cfg : Cfg) (g : Str → Str) (n : Node) (i : Nat) (e : Str) :
      ((n.mapText g).pieces cfg i e).map Piece.skel = (n.pieces cfg i e).map Piece.skel := by
    cases n with
    | tag name ws attrs kids =>
      simp only [Node.mapText, pieces_tag, oneLine_mapText, visible_mapText, List.isEmpty_map, List.map_append,
        C02_skeleton_kids cfg g kids]
    | _ => rfl
  theorem C02_skeleton_kids (cfg : Cfg) (g : Str → Str) (ks : Nodes) (i : Nat) (e : Str)
      (first prevWs esc : Bool) :
      ((ks.mapTextKids g).piecesKids cfg i e first prevWs esc).map Piece.skel
        = (ks.piecesKids cfg i e first prevWs esc).map Piece.skel := by
    cases ks with
    | nil => rfl
    | cons h t =>
      have ht := C02_skeleton_kids cfg g t i e
      cases h with
      | tag n w a k =>
        have hh := C02_skeleton cfg g (.tag n w a k)
        simp only [Node.mapText] at hh
        simp only [Nodes.mapTextKids, Node.mapText, piecesKids_tag, List.map_append, ht, hh,
          apply_ite (List.map Piece.skel)]
      | text s =>
        simp only [Nodes.mapTextKids, Node.mapText, Nodes.piecesKids, List.map_append, ht]
        cases esc <;> rfl
      | _ => simp only [Nodes.mapTextKids, Node.mapText, Nodes.piecesKids, List.map_append, ht]
end

/-- non-vacuity: a text leaf with metacharacters under a block tag with a sibling -/
example : (Node.tag ['p'] true [] (.cons (.text ['<', '&']) (.cons (.html ['x']) .nil))).txtLeaves
    ⟨[], [], [], []⟩ = [['<', '&']] := by
  simp [Node.txtLeaves, Nodes.txtLeavesKids]


/-- the statement in its own words: reading input and output in parallel, each of & < > appears as a character
    reference that decodes to it and every other character appears unchanged (this is the predicate the check
    evaluates on the real `html_escape` output; it does not prescribe *which* reference is used) -/
theorem C02_statement (s : Str) : validEscape textSpecials s (escText cfg s) = true := by
  rw [C02_escText]; exact validEscape_text s

end HtmlVerif.C02
