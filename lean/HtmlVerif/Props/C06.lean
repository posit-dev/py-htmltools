/-
C06 — Block layout follows the documented line and indentation rules.
The renderer's two-variable state machine (first_child, prev_was_add_ws) is shown to refine the
declarative line layout of Spec/Layout.lean, for every validly nested tree, every indent and every eol.
-/
import HtmlVerif.Lemmas.Layout
import HtmlVerif.Props.C05

namespace HtmlVerif.C06
open HtmlVerif

mutual
  /-- a validly nested tag renders as its layout lines, joined by `eol`, two spaces per level -/
  theorem C06_tag (cfg : Cfg) (t : Node) (i : Nat) (e : Str) (htag : t.isTag = true) (hv : t.valid = true) :
      t.render cfg i e = joinLines e (t.layout cfg i) := by
    cases t with
    | tag name ws attrs kids =>
      cases ws with
      | false =>
        rw [C05.render_noWs cfg _ rfl (by simpa [Node.valid, Node.noWs] using hv)]
        simp [Node.layout, joinLines]
      | true =>
        simp only [Node.valid, if_true] at hv
        cases h1 : kids.visible.isEmpty || (inlineChild? kids.visible).isSome with
        | true =>
          rw [render_oneLine cfg name true attrs kids i e h1]
          simp only [Node.layout, Bool.not_true, Bool.false_or, h1, if_true, joinLines]
        | false =>
          have hne := groupLines_none_ne_nil cfg kids (i + 1) (!cfg.noesc.contains name)
            (Bool.or_eq_false_iff.mp h1).1
          rw [render_loop cfg name true attrs kids i e h1, C06_kids_line cfg kids (i + 1) e true _ hv]
          simp only [Node.layout, Bool.not_true, Bool.false_or, h1, Bool.false_eq_true, if_false, if_true]
          rw [List.cons_append, joinLines_cons, pjoin_append, pjoin_eq_eol_join e _ hne]
          simp [pjoin]
    | _ => cases htag
  /-- child loop at the start of a line (`prev_was_add_ws = True`): the remaining children are the
      remaining lines; each line is preceded by `eol` except the very first child's -/
  theorem C06_kids_line (cfg : Cfg) (ks : Nodes) (lvl : Nat) (e : Str) (first esc : Bool)
      (hv : ks.validKids = true) :
      ks.renderKids cfg lvl e first true esc
        = if first then joinLines e (ks.groupLines cfg lvl esc none) else pjoin e (ks.groupLines cfg lvl esc none) := by
    cases ks with
    | nil => cases first <;> rfl
    | cons h t =>
      simp only [Nodes.validKids, Bool.and_eq_true] at hv
      cases hm : h.isMeta with
      | true =>
        rw [renderKids_meta cfg t lvl e first true esc hm, C06_kids_line cfg t lvl e first esc hv.2]
        simp only [Nodes.groupLines, hm, if_true]
      | false =>
        cases hb : h.isBlock with
        | true =>
          have hne := layout_ne_nil cfg lvl hb
          rw [renderKids_block cfg t lvl e first true esc hb, C06_tag cfg h lvl e (isTag_of_isBlock hb) hv.1,
            C06_kids_line cfg t lvl e false esc hv.2]
          cases first <;>
            simp [Nodes.groupLines, hm, hb, pjoin_append, pjoin_eq_eol_join e _ hne, joinLines_append e _ _ hne]
        | false =>
          rw [C05.renderKids_noWs cfg t lvl e first true esc hm (noWs_of_valid hv.1 hb),
            C06_kids_run cfg t lvl e esc hv.2]
          cases first <;> simp [Nodes.groupLines, hm, hb, groupLines_some, joinLines_cons, pjoin_cons]
  /-- child loop in the middle of a line (`prev_was_add_ws = False`, not first): following non-block
      children continue the line with nothing in between; the next block child starts a new line -/
  theorem C06_kids_run (cfg : Cfg) (ks : Nodes) (lvl : Nat) (e : Str) (esc : Bool)
      (hv : ks.validKids = true) :
      ks.renderKids cfg lvl e false false esc = ks.runCont cfg esc ++ pjoin e (ks.afterRun cfg lvl esc) := by
    cases ks with
    | nil => rfl
    | cons h t =>
      simp only [Nodes.validKids, Bool.and_eq_true] at hv
      cases hm : h.isMeta with
      | true =>
        rw [renderKids_meta cfg t lvl e false false esc hm, C06_kids_run cfg t lvl e esc hv.2]
        simp only [Nodes.runCont, Nodes.afterRun, hm, if_true]
      | false =>
        cases hb : h.isBlock with
        | true =>
          have hne := layout_ne_nil cfg lvl hb
          rw [renderKids_block cfg t lvl e false false esc hb, C06_tag cfg h lvl e (isTag_of_isBlock hb) hv.1,
            C06_kids_line cfg t lvl e false esc hv.2]
          simp [Nodes.runCont, Nodes.afterRun, hm, hb, pjoin_append, pjoin_eq_eol_join e _ hne]
        | false =>
          rw [C05.renderKids_noWs cfg t lvl e false false esc hm (noWs_of_valid hv.1 hb),
            C06_kids_run cfg t lvl e esc hv.2]
          simp [Nodes.runCont, Nodes.afterRun, hm, hb]
end

/-- a top-level list lays out its items by the same sibling rule -/
theorem C06_list (cfg : Cfg) (ks : Nodes) (i : Nat) (e : Str) (esc : Bool) (hv : ks.validKids = true) :
    renderList cfg ks i e true esc = joinLines e (ks.groupLines cfg i esc none) := by
  have := C06_kids_line cfg ks i e true esc hv
  simpa [renderList] using this


def shift (k : Nat) (l : Line) : Line := (l.1 + k, l.2)

mutual
  /-- `indent = k` shifts every layout line by k levels (2k spaces) and changes nothing else -/
  theorem C06_shift (cfg : Cfg) (t : Node) (i k : Nat) :
      t.layout cfg (i + k) = (t.layout cfg i).map (shift k) := by
    cases t with
    | tag name ws attrs kids =>
      simp only [Node.layout]
      split
      · simp [shift]
      · rw [Nat.add_right_comm i k 1, C06_shift_kids cfg kids (i + 1) k]
        simp [shift]
    | _ => simp [Node.layout]
  theorem C06_shift_kids (cfg : Cfg) (ks : Nodes) (lvl k : Nat) (esc : Bool) (cur : Option Str) :
      ks.groupLines cfg (lvl + k) esc cur = (ks.groupLines cfg lvl esc cur).map (shift k) := by
    cases ks with
    | nil => cases cur <;> simp [Nodes.groupLines, shift]
    | cons h t =>
      have ht := C06_shift_kids cfg t lvl k esc
      have hh := C06_shift cfg h lvl k
      by_cases hm : h.isMeta = true <;> by_cases hb : h.isBlock = true <;> cases cur <;>
        simp [Nodes.groupLines, hm, hb, ht, hh, shift]
end

/-- non-vacuity: a block tag with an inline run and a nested block child is validly nested and has
    a four-line layout -/
example : (Node.tag ['d'] true [] (.cons (.text ['a']) (.cons (.tag ['s'] false [] .nil)
      (.cons (.tag ['p'] true [] .nil) .nil)))).valid = true
    ∧ ((Node.tag ['d'] true [] (.cons (.text ['a']) (.cons (.tag ['s'] false [] .nil)
      (.cons (.tag ['p'] true [] .nil) .nil)))).layout ⟨[], [], [], []⟩ 0).length = 4 := by
  decide

end HtmlVerif.C06
