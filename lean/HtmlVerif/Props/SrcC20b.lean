/-
Source tie (DESIGN §14) for the rest of htmltools/_jsx.py (C20): the Lean functions regenerated from the *text* of
`JSXTagAttrDict.__setitem__ / _update / update / __init__`, `JSXTag.__init__ / extend / append / __copy__`, the visitor defined
inside `JSXTag.tagify`, `_walk_attrs_and_children`, `_lib_dependency` and `JSXTag.tagify`
(Generated/Src.lean, harness/pytr_c20b.py) compute, for every input, what the component model (Model/Jsx.lean) computes:

  JSXTagAttrDict.__setitem__   `JProps.set` under the normalised name (`normAttrName`, through the translated
                               `JSXTagAttrDict._normalize_attr_name`), the value kept as it is
  JSXTagAttrDict._update       `foldProps` on the receiver: the names of the mapping normalised one after the other, later
                               keys replace (the code normalises into a fresh dict first and then sets its items in the
                               receiver; `merge_mkPropsC20b` shows that this is the same)
  JSXTagAttrDict.update        every positional mapping in turn, then the keywords (`propsUpdateC20b`)
  JSXTagAttrDict.__init__      on a new instance: `mkProps` (what `C20_props_normalised` is about)
  JSXTag.__init__              `jsxInit`: NotImplementedError unless the initial of the last dotted piece of the name is its own
                               upper-case form (`str.upper` = `Globals.upperC20b`, the running interpreter's) and every keyword is
                               in a declared allow-list — also an empty one (`C20_allowed`, `C20_allowed_empty`,
                               `C20_lowercase_rejected`); otherwise the component with `name`, `attrs = mkProps kwargs` and
                               `children = TagList(*args)` (`C20_init`)
  JSXTag.extend / append       the translated `TagList.extend / append` on the `children` field, every other field untouched
  JSXTag.__copy__              the component itself (a value has no identity: what the copy buys — assigning into it leaves the
                               original alone — holds by construction; that the copy owns its containers is C20's purity
                               correspondence)

  the visitor                  a tagifiable object that is neither a Tag nor a JSXTag is replaced by what its `tagify()` returns;
                               the value is copied; a metadata node is appended to the captured list (`visitor_valC20b`)
  _walk_attrs_and_children     `JNode.walk`: the walked copy `(x.walk d).node` — through children and prop values, tagifiable
                               objects expanded — and the collected metadata nodes `(x.walk d).metas` in the walk's order
                               (`C20_collected`, `C20_collected_complete / _sound`); by induction on the nesting, with fuel
  _lib_dependency              `libDependency`: KeyError for a package `_versions.py` (regenerated table) does not pin, else
                               the dependency with that version, the package-relative source and the one script (`C20_react`)
  JSXTag.tagify                `jsxTagify` (`C20_script`): the walk, `_render_react_js` of the walked copy (through the tie of
                               Props/SrcC20.lean), the JavaScript `jsWrap`, the `<script>` Tag with `scriptAttrs` whose children are
                               the body, react, react-dom and the collected nodes (`C20_script_shape`, `C20_collected_on_script`)

  jsx.__new__ / __add__        `jsx(*args)` is the `jsx` string of the arguments joined by line breaks; `jsx + str` is a plain
                               `str`, `jsx + jsx` a `jsx` — what the primitive `pyAddJ` of Py/PrimC20.lean *states* for a `jsx`
                               left operand is what the source of `jsx.__add__` says
  jsx_tag_create               returns the closure over `(name, allowedProps)`; calling it with `*kids, **kw` is `jsxInit`
                               (`JSXTag(name, *args, allowedProps=allowedProps, **kwargs)`)

Scope of the statements, made explicit by their hypotheses:
  * the walk: `walkOkNC20b` (Lemmas/SrcC20b.lean) — prop names once each and free of `_` (a name with `_`, put there behind the
    dict's back, is renamed by `copy.copy` and by the assignment of the walk), dict prop values without a key with `_` (the
    universe does not tell a dict from a JSXTagAttrDict), no tagifiable object whose expansion expands to a TagList.  Two
    embeddings: `embInNC20b` (a tagifiable object records what its `tagify()` returns) for the input, `embOutNC20b` for the walked
    copy.  A value has no identity: that the walk assigns into the visitor's *copies* and leaves the argument alone (`C20_pure`)
    is not part of these statements — it is the purity correspondence of C20;
  * `tagify`: the walked copy holds no un-expanded tagifiable object (`noTobjNC20b`) and meets the renderer's side conditions;
  * `hkw : kwFreeC20b [self] kw`: no keyword is called `self` (Python would bind it to the parameter of
    `JSXTagAttrDict.__init__` / `update`, or raise "multiple values"; the translation states that binding — `pyKwRestC15b` —,
    the model does not have it);
  * children: `src_jsx_tag_init_genC20b` holds for *any* positional arguments and says that `children` is whatever the translated
    `TagList.__init__` answers for them (an exception included).  The statements in terms of the component model
    (`src_jsx_tag_initC20b`, `…_extendC20b`, `…_appendC20b`) are for children that are nodes of the model other than `jsx`
    strings (`noJsxKidsC20b`): the translations of `_core.py` use the base primitives, for which an instance has no special
    methods, so the translator routes every argument of a `TagList` call through `pyNoJsxArgsC20b` (`unsupported` for a `jsx`
    string).  On such children `TagList(*args)` stores the arguments as they are (`TagList_init_plainC20b`, from the ties of
    `_tagchilds_to_tagnodes` / `_flatten_recurse` on Python values, Lemmas/SrcFlatten.lean and Lemmas/SrcC11.lean);
  * a `JSXTagAttrDict` instance is carried as a dict; `__copy__` is stated for stored names without `_` (`copy.copy` of a
    JSXTagAttrDict re-normalises its names; every name `mkProps` stores is a normalised one, free of `_`: `normAttrName_no_underscoreC20b`);
  * fuel: any fuel above the call depth.

No loop body is spelled out: the loops are taken from the regenerated definitions by unification (Lemmas/SrcC20b.lean:
`fold_loop_kC20b`, `allowed_loop_kC20b`, `props_walk_loopC20b`, `kids_walk_loopC20b`; `filter_loop_kC15b`; the loops of
`_flatten_recurse` / `_tagchilds_to_tagnodes` through their ties in Lemmas/SrcFlatten.lean); the one loop that is *evaluated* is `TagAttrDict.update` on the constant dict of `tagify`
(`script_attrsC20b`).
Every theorem takes `<fn>_available = true` for the function and for every translated function it calls; its proof opens with
`first | exact absurd h (by decide) | skip` and `all_goals`: when a function has left the translatable fragment the generator
emits `<fn>_available := false`, the first alternative closes the goal and the theorem is vacuous.
-/
import HtmlVerif.Generated.Src
import HtmlVerif.Lemmas.SrcC20b
import HtmlVerif.Props.SrcC20
import HtmlVerif.Props.SrcAttrs
import HtmlVerif.Props.SrcC10b
import HtmlVerif.Generated.Tables

set_option linter.unusedVariables false
set_option linter.unusedSimpArgs false

namespace HtmlVerif.SrcTie
open HtmlVerif HtmlVerif.Py HtmlVerif.Generated.Src HtmlVerif.JsxL

theorem jsx_setitem_dictC20b (h : JSXTagAttrDict_setitemC20b_available = true) (hn : JSX_normalize_attr_name_available = true)
    (G : Globals) (kvs : List (Str × PVal)) (k : Str) (v : PVal) :
    JSXTagAttrDict_setitemC20b G (.dict kvs) (.str k) v = .ok (.dict (Py.dictSet (normAttrName k) v kvs)) := by
  first
  | exact absurd h (by decide)
  | (unfold JSXTagAttrDict_setitemC20b
     simp only [src_jsx_normalize_attr_name hn, ok_bind', pure_eq_ok', pySetItem])

/-- `JSXTagAttrDict.__setitem__(name, value)` as the source has it: the value, as it is, under the normalised name — in
    place when the name is stored already, else at the end -/
theorem src_jsx_setitemC20b (h : JSXTagAttrDict_setitemC20b_available = true) (hn : JSX_normalize_attr_name_available = true)
    (G : Globals) (ι : Str → Option Int) (ps : JProps) (k : Str) (v : JVal) :
    JSXTagAttrDict_setitemC20b G (.dict (embJProps ι ps)) (.str k) (embJVal ι v)
      = .ok (.dict (embJProps ι (ps.set (normAttrName k) v))) := by
  rw [jsx_setitem_dictC20b h hn, dictSet_embJPropsC20b]

/-- `JSXTagAttrDict._update(m)` as the source has it = `foldProps`: the names of `m` normalised one after the other into the
    receiver, values kept as they are, later keys replace -/
theorem src_jsx_updateMapC20b (h : JSXTagAttrDict_updateMapC20b_available = true) (hn : JSX_normalize_attr_name_available = true)
    (G : Globals) (ι : Str → Option Int) (cur : JProps) (kw : List (Str × JVal)) :
    JSXTagAttrDict_updateMapC20b G (.dict (embJProps ι cur)) (embKwC20b ι kw) = .ok (.dict (embJProps ι (foldProps cur kw))) := by
  first
  | exact absurd h (by decide)
  | skip
  all_goals (
    unfold JSXTagAttrDict_updateMapC20b
    simp only [embKwC20b, pyItems_dict, ok_bind', pure_eq_ok', pyIterJ_list]
    refine fold_loop_kC20b (fun kv : Str × JVal => PVal.tuple [.str kv.1, embJVal ι kv.2]) (fun b => .dict (embJProps ι b))
      (fun b kv => b.set (normAttrName kv.1) kv.2) kw .nil _ (by simp [Function.comp_def]) _ _ ?step _ _ ?k
    case step =>
      intro kv hkv b t
      simp only [pyUnpack2_tuple', ok_bind', src_jsx_normalize_attr_name hn, pySetItem, pure_eq_ok', dictSet_embJPropsC20b]
      exact ⟨_, rfl⟩
    case k =>
      intro t
      simp only [pyDictUpdateKwC20b, pyDictUpdate, pure_eq_ok', ok_bind', dictUpdate_embJPropsC20b]
      exact congrArg (fun p => Except.ok (PVal.dict (embJProps ι p))) (merge_mkPropsC20b cur kw))

/-- `JSXTagAttrDict.update(*args, **kwargs)` as the source has it: `_update` of every positional mapping, then of the
    keywords (also when there are none) -/
theorem src_jsx_updateC20b (h : JSXTagAttrDict_updateC20b_available = true) (hm : JSXTagAttrDict_updateMapC20b_available = true)
    (hn : JSX_normalize_attr_name_available = true)
    (G : Globals) (ι : Str → Option Int) (cur : JProps) (args : List (List (Str × JVal))) (kw : List (Str × JVal)) :
    JSXTagAttrDict_updateC20b G (.dict (embJProps ι cur)) (.tuple (args.map (embKwC20b ι))) (embKwC20b ι kw)
      = .ok (.dict (embJProps ι (propsUpdateC20b cur (args ++ [kw])))) := by
  first
  | exact absurd h (by decide)
  | skip
  all_goals (
    unfold JSXTagAttrDict_updateC20b
    simp only [ok_bind', pure_eq_ok', pyIterJ_tuple]
    refine fold_loop_kC20b (embKwC20b ι) (fun b => .dict (embJProps ι b)) foldProps args cur _ rfl _ _ ?step _ _ ?k
    case step =>
      intro m hmem b t
      simp only [src_jsx_updateMapC20b hm hn, ok_bind']
      exact ⟨_, rfl⟩
    case k =>
      intro t
      simp only [src_jsx_updateMapC20b hm hn, ok_bind', propsUpdateC20b, List.foldl_append, List.foldl_cons, List.foldl_nil])

/-- `JSXTagAttrDict.__init__(self, **kwargs)` as the source has it (`super().__init__()`, then `self.update(**kwargs)`), on
    any receiver -/
theorem src_jsx_attrdict_initC20b (h : JSXTagAttrDict_initC20b_available = true) (hu : JSXTagAttrDict_updateC20b_available = true)
    (hm : JSXTagAttrDict_updateMapC20b_available = true) (hn : JSX_normalize_attr_name_available = true)
    (G : Globals) (ι : Str → Option Int) (cur : JProps) (kw : List (Str × JVal))
    (hkw : kwFreeC20b [['s', 'e', 'l', 'f']] kw = true) :
    JSXTagAttrDict_initC20b G (.dict (embJProps ι cur)) (embKwC20b ι kw) = .ok (.dict (embJProps ι (foldProps cur kw))) := by
  first
  | exact absurd h (by decide)
  | skip
  all_goals (
    unfold JSXTagAttrDict_initC20b
    have := src_jsx_updateC20b hu hm hn G ι cur [] kw
    simp only [List.map_nil, List.nil_append, propsUpdateC20b, List.foldl_cons, List.foldl_nil] at this
    simp only [pyDictInit0C15b, pure_eq_ok', ok_bind', pyKwRest_embKwC20b ι kw _ hkw, this])

/-- `JSXTagAttrDict(**kwargs)` = `mkProps`: each keyword once, under its normalised name, the value of the last such keyword
    (`C20_props_normalised`) -/
theorem src_jsx_attrdict_newC20b (h : JSXTagAttrDict_initC20b_available = true) (hu : JSXTagAttrDict_updateC20b_available = true)
    (hm : JSXTagAttrDict_updateMapC20b_available = true) (hn : JSX_normalize_attr_name_available = true)
    (G : Globals) (ι : Str → Option Int) (kw : List (Str × JVal)) (hkw : kwFreeC20b [['s', 'e', 'l', 'f']] kw = true) :
    JSXTagAttrDict_initC20b G (.dict []) (embKwC20b ι kw) = .ok (.dict (embJProps ι (mkProps kw))) :=
  src_jsx_attrdict_initC20b h hu hm hn G ι .nil kw hkw

/-- `_tagchilds_to_tagnodes(x)` as the source has it, for an `x` that is not a `str` and whose items are plain nodes: the
    list of the items (nothing is unnested, dropped or converted) -/
theorem tagchilds_plainC20b (hc : NormCallees) (G : Globals) (fuel : Nat) (x : PVal) (l : List PVal) (hx : pyIter x = .ok l) (hs : isInstance x ["str"] = false)
    (hl : ∀ v ∈ l, plainC11 v = true) :
    tagchilds_to_tagnodes G (fuel + 3) x = .ok (.list l) := by
  first
  | exact absurd hc.flatten (by decide)
  | skip
  all_goals (
    have hfl : util_flatten G (fuel + 2) x = .ok (.list l) := by
      rw [util_flatten]
      simp only [pure_eq_ok, ok_bind, flatten_recurse_plainC11 hc.recurse G fuel x l [] hx hl, List.nil_append]
    have hconv : ∀ v ∈ l, convItem G v = .ok v := by
      intro v hv
      have hp := plainC11_facts (hl v hv)
      simp only [convItem, hp.notInt, hp.notFloat, is_tag_node_plainC11 hc.isnode G v (hl v hv), Bool.or_false, Bool.false_eq_true,
        if_false, ok_bind, truthy_bool, if_true]
    rw [tagchilds_of_flatten hc.tagchilds G (fuel + 2) x l hs hfl, mapM_ok_self _ _ hconv, ok_bind])

theorem TagList_init_plainC20b (h : TagList_init_available = true) (hc : NormCallees) (G : Globals) (fuel : Nat) (l : List PVal) (hl : ∀ v ∈ l, plainC11 v = true) :
    TagList_init G (fuel + 4) (.obj "TagList" []) (.tuple l) = .ok (.obj "TagList" [("data", .list l)]) := by
  first
  | exact absurd h (by decide)
  | skip
  all_goals (
    rw [TagList_init]
    simp only [tagchilds_plainC20b hc G fuel (.tuple l) l rfl (by simp [isInstance, builtinClasses]) hl, ok_bind,
      pure_eq_ok, userListInit_new])

theorem TagList_extend_plainC20b (h : TagList_extend_available = true) (hc : NormCallees) (G : Globals) (fuel : Nat) (ds : List PVal) (x : PVal) (l : List PVal) (hx : pyIter x = .ok l)
    (hs : isInstance x ["str"] = false) (hl : ∀ v ∈ l, plainC11 v = true) :
    TagList_extend G (fuel + 4) (.obj "TagList" [("data", .list ds)]) x = .ok (.obj "TagList" [("data", .list (ds ++ l))]) := by
  first
  | exact absurd h (by decide)
  | skip
  all_goals (
    rw [TagList_extend]
    simp only [tagchilds_plainC20b hc G fuel x l hx hs hl, ok_bind', pure_eq_ok', userListExtend_tl])

theorem TagList_append_plainC20b (h : TagList_append_available = true) (he : TagList_extend_available = true)
    (hc : NormCallees) (G : Globals) (fuel : Nat) (ds : List PVal) (item : PVal) (rest : List PVal)
    (hl : ∀ v ∈ item :: rest, plainC11 v = true) :
    TagList_append G (fuel + 5) (.obj "TagList" [("data", .list ds)]) item (.tuple rest)
      = .ok (.obj "TagList" [("data", .list (ds ++ item :: rest))]) := by
  first
  | exact absurd h (by decide)
  | skip
  all_goals (
    rw [TagList_append]
    simp only [pyIter_tuple, ok_bind', pure_eq_ok', List.singleton_append,
      TagList_extend_plainC20b he hc G fuel ds (.list (item :: rest)) (item :: rest) rfl
        (by simp [isInstance, builtinClasses]) hl])

/-- `JSXTag.__init__` as the source has it, for *any* positional arguments: the two checks of `jsxInit` — the initial of the
    last dotted piece of the name is its own upper-case form; every keyword is in a declared allow-list —, NotImplementedError
    otherwise; then `name`, `attrs = JSXTagAttrDict(**kwargs)` (= `mkProps`) and `children = TagList(*args)`: whatever the
    translated `TagList.__init__` answers for these arguments, an exception included.  Run on an instance with an empty
    `__dict__` of `JSXTag` or a subclass `cls`. -/
theorem src_jsx_tag_init_genC20b (h : JSXTag_initC20b_available = true)
    (hA : JSXTagAttrDict_initC20b_available = true) (hu : JSXTagAttrDict_updateC20b_available = true)
    (hm : JSXTagAttrDict_updateMapC20b_available = true) (hnn : JSX_normalize_attr_name_available = true)
    (G : Globals) (ι : Str → Option Int) (upper : Str → Str) (fuel : Nat) (cls : String)
    (name : Str) (allowed : Option (List Str)) (kw : List (Str × JVal)) (args : List PVal)
    (hup : G.upperC20b (nameInitial name) = some (upper (nameInitial name)))
    (hkw : kwFreeC20b [['s', 'e', 'l', 'f']] kw = true)
    (hj : hasJsxArgsC20b args = false) :
    JSXTag_initC20b G (fuel + 1) (.obj cls []) (.str name) (.tuple args) (embAllowedC20b allowed) (embKwC20b ι kw)
      = match jsxInit upper name allowed kw .nil with
        | .error e => .error (embErr e)
        | .ok _ => TagList_init G fuel (.obj "TagList" []) (.tuple args) >>= fun tl =>
            .ok (.obj cls [("name", .str name), ("attrs", .dict (embJProps ι (mkProps kw))), ("children", tl)]) := by
  first
  | exact absurd h (by decide)
  | skip
  all_goals (
    rw [JSXTag_initC20b]
    have hsplit : splitOn '.' name ≠ [] := splitOn_ne_nilC20b '.' name
    have hnew := src_jsx_attrdict_newC20b hA hu hm hnn G ι kw hkw
    have hj' : hasJsxArgC20b (.tuple args) = false := by rw [hasJsxArgC20b]; exact hj
    -- the name test, wherever it stands (before or after the allow-list loop): `pieces[-1][:1] != pieces[-1][:1].upper()`
    simp only [ok_bind', pure_eq_ok', truthy_bool', asStr_str, pySplitSep_str]
    simp only [getItem_lastC20b _ hsplit, ok_bind', asStr_str, slice_take1C20b]
    simp only [← nameInitial_eqC20b, pyUpperC20b, hup, pyEqJ_str, ok_bind', pure_eq_ok']
    unfold jsxInit
    by_cases hn : nameInitial name = upper (nameInitial name)
    · have hn' : (nameInitial name == upper (nameInitial name)) = true := by simpa using hn
      rw [if_neg (show ¬ (nameInitial name ≠ upper (nameInitial name)) from fun hh => hh hn)]
      simp only [hn', Bool.not_true, Bool.false_eq_true, if_false, truthy_bool', ok_bind', pure_eq_ok']
      cases allowed with
      | none =>
        simp only [embAllowedC20b, isNone, Bool.not_true, Bool.false_eq_true, if_false, propsAllowed, pySetAttr_objC15b,
          ok_bind', pyKwRest_embKwC20b ι kw _ hkw, hnew, pyIter_tuple, pyNoJsxArgsC20b, hj', pure_eq_ok']
        cases TagList_init G fuel (PVal.obj "TagList" []) (PVal.tuple args) <;> simp [fieldSet]
      | some ps =>
        simp only [embAllowedC20b, isNone, Bool.not_false, if_true, pyKeys_embKwC20b, pyIterJ_list, ok_bind']
        refine allowed_loop_kC20b ps kw _ rfl _ _ ?step _ _ ?k
        case step =>
          intro kv hkv s
          simp only [asStr_str, asStr, jsxText?, pyIn_strsC20b, ok_bind', truthy_bool']
          cases hc : ps.contains kv.1 <;> simp
        case k =>
          simp only [propsAllowed]
          by_cases hall : (kw.all fun kv => ps.contains kv.1) = true
          case neg =>
            have hall' : (kw.all fun kv => ps.contains kv.1) = false := by simpa using hall
            simp only [hall', Bool.false_eq_true, if_false, Bool.not_false, if_true]
            rfl
          case pos =>
            simp only [hall, if_true, Bool.not_true, Bool.false_eq_true, if_false]
            intro s
            simp only [pySetAttr_objC15b, ok_bind', pyKwRest_embKwC20b ι kw _ hkw, hnew, pyIter_tuple, pyNoJsxArgsC20b, hj',
              pure_eq_ok', Bool.false_eq_true, if_false]
            cases TagList_init G fuel (PVal.obj "TagList" []) (PVal.tuple args) <;> simp [fieldSet]
    · have hn' : (nameInitial name == upper (nameInitial name)) = false := by simpa using hn
      rw [if_pos (show nameInitial name ≠ upper (nameInitial name) from hn)]
      simp only [hn', Bool.not_false, if_true, truthy_bool', ok_bind', pure_eq_ok']
      -- NotImplementedError whichever test comes first: at once, or after an allow-list loop that raises the same or nothing
      first
      | rfl
      | (cases allowed with
         | none =>
           simp only [embAllowedC20b, isNone, Bool.not_true, Bool.false_eq_true, if_false]
           rfl
         | some ps =>
           simp only [embAllowedC20b, isNone, Bool.not_false, if_true, pyKeys_embKwC20b, pyIterJ_list, ok_bind']
           refine allowed_loop_kC20b ps kw _ rfl _ _ ?step _ _ ?k
           case step =>
             intro kv hkv s
             simp only [asStr_str, asStr, jsxText?, pyIn_strsC20b, ok_bind', truthy_bool']
             cases hc : ps.contains kv.1 <;> simp
           case k =>
             by_cases hall : (kw.all fun kv => ps.contains kv.1) = true
             case neg =>
               have hall' : (kw.all fun kv => ps.contains kv.1) = false := by simpa using hall
               simp only [hall', Bool.false_eq_true, if_false]
               rfl
             case pos =>
               simp only [hall, if_true]
               intro s
               rfl))

/-- `JSXTag(name, *kids, allowedProps=allowed, **kw)` as the source has it = `jsxInit` (Model/Jsx.lean), for children that are
    nodes of the component model (no `jsx` string among them): NotImplementedError for a name without a capital initial or a
    keyword outside a declared allow-list, else the component holding the normalised props and the children in the order
    given -/
theorem src_jsx_tag_initC20b (h : JSXTag_initC20b_available = true)
    (hA : JSXTagAttrDict_initC20b_available = true) (hu : JSXTagAttrDict_updateC20b_available = true)
    (hm : JSXTagAttrDict_updateMapC20b_available = true) (hnn : JSX_normalize_attr_name_available = true)
    (hT : TagList_init_available = true) (hc : NormCallees)
    (G : Globals) (ι : Str → Option Int) (upper : Str → Str) (fuel : Nat)
    (name : Str) (allowed : Option (List Str)) (kw : List (Str × JVal)) (kids : JNodes)
    (hup : G.upperC20b (nameInitial name) = some (upper (nameInitial name)))
    (hkw : kwFreeC20b [['s', 'e', 'l', 'f']] kw = true)
    (hk : noJsxKidsC20b kids = true) :
    JSXTag_initC20b G (fuel + 5) (.obj "JSXTag" []) (.str name) (.tuple (embJNodes ι kids)) (embAllowedC20b allowed)
        (embKwC20b ι kw)
      = embRes (embJNode ι) (jsxInit upper name allowed kw kids) := by
  obtain ⟨hpl, hj⟩ := plain_embJNodesC20b ι kids hk
  rw [src_jsx_tag_init_genC20b h hA hu hm hnn G ι upper (fuel + 4) "JSXTag" name allowed kw _ hup hkw hj,
    TagList_init_plainC20b hT hc G fuel _ hpl]
  unfold jsxInit
  by_cases h1 : nameInitial name ≠ upper (nameInitial name)
  · rw [if_pos h1, if_pos h1]; rfl
  · rw [if_neg h1, if_neg h1]
    by_cases h2 : (!propsAllowed allowed kw) = true
    · rw [if_pos h2, if_pos h2]; rfl
    · rw [if_neg h2, if_neg h2]; rfl

/-- `JSXTag.extend(x)` as the source has it, for a list of nodes of the component model: they are appended to the children,
    every other field is untouched -/
theorem src_jsx_tag_extendC20b (h : JSXTag_extendC20b_available = true)
    (hE : TagList_extend_available = true) (ht : tagchilds_to_tagnodes_available = true)
    (hf : util_flatten_available = true) (hr : util_flatten_recurse_available = true) (hn : is_tag_node_available = true)
    (G : Globals) (ι : Str → Option Int) (fuel : Nat) (name : Str) (ps : JProps) (ks more : JNodes) (tup : Bool)
    (hk : noJsxKidsC20b more = true) :
    JSXTag_extendC20b G (fuel + 5) (embJNode ι (.comp name ps ks))
        (if tup then .tuple (embJNodes ι more) else .list (embJNodes ι more))
      = .ok (embJNode ι (.comp name ps (JNodes.ofList (ks.toList ++ more.toList)))) := by
  first
  | exact absurd h (by decide)
  | skip
  all_goals (
    obtain ⟨hpl, hj⟩ := plain_embJNodesC20b ι more hk
    rw [JSXTag_extendC20b]
    have hx : pyIter (if tup then PVal.tuple (embJNodes ι more) else .list (embJNodes ι more)) = .ok (embJNodes ι more) := by
      cases tup <;> rfl
    have hs : isInstance (if tup then PVal.tuple (embJNodes ι more) else .list (embJNodes ι more)) ["str"] = false := by
      cases tup <;> simp [isInstance, builtinClasses]
    have hj' : hasJsxArgC20b (if tup then PVal.tuple (embJNodes ι more) else .list (embJNodes ι more)) = false := by
      cases tup <;> simp [hasJsxArgC20b, hj]
    simp only [embJNode, getAttr_children, setAttr_children, pure_eq_ok', ok_bind', pyNoJsxArgsC20b, hj', Bool.false_eq_true,
      if_false, TagList_extend_plainC20b hE ⟨ht, hf, hr, hn⟩ G fuel (embJNodes ι ks) _ (embJNodes ι more) hx hs hpl]
    simp only [embJNode, embJNodes_ofList_appendC20b])

/-- `JSXTag.append(*args)` as the source has it, for nodes of the component model: TypeError when called without an
    argument (`TagList.append` requires one), else they are appended to the children -/
theorem src_jsx_tag_appendC20b (h : JSXTag_appendC20b_available = true) (hA : TagList_append_available = true)
    (hE : TagList_extend_available = true) (ht : tagchilds_to_tagnodes_available = true)
    (hf : util_flatten_available = true) (hr : util_flatten_recurse_available = true) (hn : is_tag_node_available = true)
    (G : Globals) (ι : Str → Option Int) (fuel : Nat) (name : Str) (ps : JProps) (ks more : JNodes)
    (hk : noJsxKidsC20b more = true) :
    JSXTag_appendC20b G (fuel + 6) (embJNode ι (.comp name ps ks)) (.tuple (embJNodes ι more))
      = if more.isEmpty then .error .typeError
        else .ok (embJNode ι (.comp name ps (JNodes.ofList (ks.toList ++ more.toList)))) := by
  first
  | exact absurd h (by decide)
  | skip
  all_goals (
    obtain ⟨hpl, hj⟩ := plain_embJNodesC20b ι more hk
    rw [JSXTag_appendC20b]
    have hj' : hasJsxArgC20b (PVal.tuple (embJNodes ι more)) = false := by simp [hasJsxArgC20b, hj]
    simp only [embJNode, getAttr_children, pure_eq_ok', ok_bind', pyNoJsxArgsC20b, hj', Bool.false_eq_true, if_false, pyIter_tuple]
    cases more with
    | nil => simp [embJNodes, pyPosArgC15b, JNodes.isEmpty]
    | cons m rest =>
      simp only [embJNodes] at hpl
      simp only [embJNodes, pyPosArgC15b, List.getElem?_cons_zero, pure_eq_ok', ok_bind', List.drop_succ_cons, List.drop_zero,
        TagList_append_plainC20b hA hE ⟨ht, hf, hr, hn⟩ G fuel (embJNodes ι ks) (embJNode ι m) (embJNodes ι rest) hpl,
        setAttr_children, JNodes.isEmpty, Bool.false_eq_true, if_false]
      simp only [embJNode, embJNodes_ofList_appendC20b, embJNodes])

/-- the names `mkProps` stores are free of `_` (so `copy.copy` of the dict a constructor built re-normalises nothing) -/
theorem normAttrName_no_underscoreC20b (x : Str) : '_' ∉ normAttrName x := by
  unfold normAttrName
  split <;>
  · simp only [List.mem_map]
    rintro ⟨c, _, hc⟩
    split at hc <;> simp_all

theorem jsx_copy_objC20b (h : JSXTag_copyC20b_available = true) (G : Globals) (a c : PVal) (kvs : List (Str × PVal))
    (hk : kvs.any (fun kv => kv.1.contains '_') = false) (hc : pyCopyC20b c = .ok c) :
    JSXTag_copyC20b G (.obj "JSXTag" [("name", a), ("attrs", .dict kvs), ("children", c)])
      = .ok (.obj "JSXTag" [("name", a), ("attrs", .dict kvs), ("children", c)]) := by
  first
  | exact absurd h (by decide)
  | skip
  all_goals (
    unfold JSXTag_copyC20b
    simp only [pyNewLikeC20b, pyDictAttrUpdateC20b, pure_eq_ok', ok_bind', List.foldl_cons, List.foldl_nil, fieldSet,
      pyGetAttr, fieldGet?, pySetAttr, String.reduceEq, ↓reduceIte, hc]
    simp only [pyCopyC20b, hk, Bool.false_eq_true, if_false, ok_bind', pure_eq_ok'])

/-- `JSXTag.__copy__()` as the source has it: a new instance of the same class with the same attributes, `attrs` and
    `children` copied — as a value, the component itself; stated for stored names without `_` -/
theorem src_jsx_tag_copyC20b (h : JSXTag_copyC20b_available = true)
    (G : Globals) (ι : Str → Option Int) (name : Str) (ps : JProps) (ks : JNodes)
    (hps : ∀ k ∈ ps.keys, '_' ∉ k) :
    JSXTag_copyC20b G (embJNode ι (.comp name ps ks)) = .ok (embJNode ι (.comp name ps ks)) := by
  have hany : (embJProps ι ps).any (fun kv => kv.1.contains '_') = false := by
    rw [List.any_eq_false]
    intro kv hkv
    rw [embJProps_toList] at hkv
    obtain ⟨x, hx, rfl⟩ := List.mem_map.1 hkv
    simpa using hps x.1 (by rw [keys_toListC20b]; exact List.mem_map.2 ⟨x, hx, rfl⟩)
  rw [embJNode]
  exact jsx_copy_objC20b h G _ _ _ hany (by simp [pyCopyC20b, pyCopy, fieldGet?])

/-- the visitor, given the value `y` it goes on with after its first statement — `x` itself, or what `x.tagify()` returns when
    `x` is a tagifiable object of a class other than Tag, TagList and JSXTag — and that `copy.copy` leaves `y` as it is -/
theorem visitor_genC20b (h : JSXTag_tagify_visitorC20b_available = true) (G : Globals) (fuel : Nat) (mds : List PVal)
    (x y : PVal)
    (hexp : if (isInstanceJ x ["Tagifiable"] && !isInstanceJ x ["Tag", "JSXTag"]) = true
      then pyClassOf x ≠ "Tag" ∧ pyClassOf x ≠ "TagList" ∧ pyClassOf x ≠ "JSXTag" ∧ pyTagifyObj x = .ok y else y = x)
    (hcopy : (if pyClassOf y = "JSXTag" then JSXTag_copyC20b G y else pyCopyObjC20b y) = .ok y) :
    JSXTag_tagify_visitorC20b G (fuel + 1) (.list mds) x
      = .ok (.tuple [y, .list (mds ++ if isInstanceJ y ["MetadataNode"] = true then [y] else [])]) := by
  first
  | exact absurd h (by decide)
  | skip
  all_goals (
    rw [JSXTag_tagify_visitorC20b]
    simp only [pure_eq_ok', truthy_bool', pyAnd_bools, ok_bind', pyListAppend]
    by_cases h1 : (isInstanceJ x ["Tagifiable"] && !isInstanceJ x ["Tag", "JSXTag"]) = true
    case' pos =>
      rw [if_pos h1] at hexp
      simp only [h1, if_true]
      -- the class dispatch of `x.tagify()`
      split
      · exact absurd ‹_› hexp.1
      · exact absurd ‹_› hexp.2.1
      · exact absurd ‹_› hexp.2.2.1
      rw [hexp.2.2.2, ok_bind]
    case' neg =>
      rw [if_neg h1] at hexp
      subst hexp
      simp only [h1, Bool.false_eq_true, if_false]
    -- the class dispatch of `copy.copy(y)`
    all_goals (
      split
      · rw [if_pos ‹_›] at hcopy; rw [hcopy, ok_bind]; cases isInstanceJ y ["MetadataNode"] <;> simp
      · rw [if_neg ‹_›] at hcopy; rw [hcopy, ok_bind]; cases isInstanceJ y ["MetadataNode"] <;> simp))

theorem visitor_keepC20b (h : JSXTag_tagify_visitorC20b_available = true) (G : Globals) (fuel : Nat) (mds : List PVal) (x : PVal)
    (hx : (isInstanceJ x ["Tagifiable"] && !isInstanceJ x ["Tag", "JSXTag"]) = false)
    (hcopy : (if pyClassOf x = "JSXTag" then JSXTag_copyC20b G x else pyCopyObjC20b x) = .ok x) :
    JSXTag_tagify_visitorC20b G (fuel + 1) (.list mds) x
      = .ok (.tuple [x, .list (mds ++ if isInstanceJ x ["MetadataNode"] = true then [x] else [])]) :=
  visitor_genC20b h G fuel mds x x (by rw [hx]; rfl) hcopy

theorem copy_embInNC20b (hc : JSXTag_copyC20b_available = true) (G : Globals) (ι : Str → Option Int) (n : JNode)
    (hok : copyOkNC20b n = true) :
    (if pyClassOf (embInNC20b ι n) = "JSXTag" then JSXTag_copyC20b G (embInNC20b ι n) else pyCopyObjC20b (embInNC20b ι n))
      = .ok (embInNC20b ι n) := by
  cases n with
  | comp n ps ks =>
    rw [if_pos (show pyClassOf (embInNC20b ι (.comp n ps ks)) = "JSXTag" from rfl)]
    exact jsx_copy_objC20b hc G _ _ _ (clean_anyC20b _ (by rw [embInP_keysC20b]; exact hok)) (by simp [pyCopyC20b, pyCopy, fieldGet?])
  | tag n a ks =>
    simp only [embInNC20b, pyClassOf, String.reduceEq, if_false, pyCopyObjC20b, fieldGet?, embAttrs, ↓reduceIte, String.reduceBEq,
      Bool.false_eq_true]
    rw [if_pos (by simp [isInstance]), if_pos (embAttrs_cleanC20b a hok)]
    simp [pyCopy, fieldGet?]
  | str k s => cases k <;> simp [embInNC20b, pyClassOf, mkJsx, pyCopyObjC20b, pyCopyC20b, pyCopy, isInstance, classBases, fieldGet?]
  | md m => cases m <;> simp [embInNC20b, pyClassOf, pyCopyObjC20b, pyCopy, isInstance, classBases, fieldGet?]
  | tobj _ | tobjL _ => simp [embInNC20b, embInNC20b_tobj, pyClassOf, pyCopyObjC20b, pyCopy, isInstance, classBases, fieldGet?]

theorem metas_embInNC20b (ι : Str → Option Int) (n : JNode) :
    (if isInstanceJ (embInNC20b ι n) ["MetadataNode"] = true then [embInNC20b ι n] else []) = nodeMetasC20b ι n := by
  cases n with
  | str k s => cases k <;> simp [embInNC20b, isInstanceJ_classes, classesJ_jsx, classesJ_builtin, builtinClasses, nodeMetasC20b]
  | md m =>
    cases m <;>
      simp [embInNC20b, isInstanceJ_classes, classesJ_MetadataNode, classesJ_HTMLDependency, nodeMetasC20b, embMetaC20b]
  | _ => simp [embInNC20b, embInNC20b_tobj, isInstanceJ_classes, classesJ_JSXTag, classesJ_Tag, classesJ_TagifiableObj, nodeMetasC20b]

/-- the visitor on any value, as the source has it: a tagifiable object that is neither a Tag nor a JSXTag is replaced by
    what its `tagify()` returns; the value is copied; a metadata node is appended to the captured list -/
theorem visitor_valC20b (h : JSXTag_tagify_visitorC20b_available = true) (hc : JSXTag_copyC20b_available = true)
    (G : Globals) (ι : Str → Option Int) (fuel : Nat) (mds : List PVal) (v : JVal) (hv : visOkC20b v = true) :
    JSXTag_tagify_visitorC20b G (fuel + 1) (.list mds) (embInVC20b ι v)
      = .ok (.tuple [visOutC20b ι v, .list (mds ++ visMetasC20b ι v)]) := by
  cases v with
  | node x =>
    have node : (isInstanceJ (embInNC20b ι x) ["Tagifiable"] && !isInstanceJ (embInNC20b ι x) ["Tag", "JSXTag"]) = false →
        copyOkNC20b x = true → JSXTag_tagify_visitorC20b G (fuel + 1) (.list mds) (embInNC20b ι x)
          = .ok (.tuple [embInNC20b ι x, .list (mds ++ nodeMetasC20b ι x)]) := fun hx hok => by
      rw [visitor_keepC20b h G fuel mds _ hx (copy_embInNC20b hc G ι x hok), metas_embInNC20b]
    cases x with
    | tobj e =>
      rw [embInVC20b, visitor_genC20b h G fuel mds _ (embInNC20b ι e) ?_ (copy_embInNC20b hc G ι e hv), metas_embInNC20b]
      · rfl
      · simp [embInNC20b_tobj, isInstanceJ_classes, classesJ_TagifiableObj, pyClassOf, pyTagifyObj, fieldGet?]
    | tobjL es =>
      rw [embInVC20b, visitor_genC20b h G fuel mds _ (visOutC20b ι (.node (.tobjL es)))]
      · simp [visOutC20b, visMetasC20b, nodeMetasC20b, isInstanceJ_classes, classesJ_TagList]
      · simp [embInNC20b, visOutC20b, isInstanceJ_classes, classesJ_TagifiableObj, pyClassOf, pyTagifyObj, fieldGet?]
      · simp [visOutC20b, pyClassOf, pyCopyObjC20b, pyCopy, isInstance, classBases, fieldGet?]
    | comp _ _ _ | tag _ _ _ => exact node (by simp [embInNC20b, isInstanceJ_classes, classesJ_JSXTag, classesJ_Tag]) hv
    | str k s =>
      exact node (by cases k <;> simp [embInNC20b, isInstanceJ_classes, classesJ_jsx, classesJ_builtin, builtinClasses]) hv
    | md m =>
      exact node (by cases m <;> simp [embInNC20b, isInstanceJ_classes, classesJ_MetadataNode, classesJ_HTMLDependency]) hv
  | dict fs =>
    rw [visitor_keepC20b h G fuel mds _ rfl]
    · rfl
    · have hk := clean_anyC20b (embInPC20b ι fs) (by rw [embInP_keysC20b]; exact hv)
      simp only [embInVC20b, pyClassOf, String.reduceEq, if_false, pyCopyObjC20b, pyCopyC20b, hk, Bool.false_eq_true, pure_eq_ok']
  | num t =>
    rw [visitor_keepC20b h G fuel mds _ (by
      cases hi : ι t <;> simp [embInVC20b, hi, isInstanceJ, jsxText?, isInstance, builtinClasses])]
    · cases hi : ι t <;> simp [visOutC20b, visMetasC20b, embInVC20b, hi, isInstanceJ, jsxText?, isInstance, builtinClasses]
    · cases hi : ι t <;> simp [embInVC20b, hi, pyClassOf, pyCopyObjC20b, pyCopyC20b, pyCopy]
  | list tup vs =>
    rw [visitor_keepC20b h G fuel mds _ (by cases tup <;> rfl)]
    · cases tup <;> rfl
    · cases tup <;> simp [embInVC20b, pyClassOf, pyCopyObjC20b, pyCopyC20b, pyCopy]
  | _ =>
    rw [visitor_keepC20b h G fuel mds _ rfl]
    · rfl
    · simp [embInVC20b, pyClassOf, pyCopyObjC20b, pyCopyC20b, pyCopy]

theorem leaf_embInNC20b (ι : Str → Option Int) (n : JNode)
    (hn : match n with | .comp _ _ _ => False | .tag _ _ _ => False | _ => True) :
    isInstanceJ (embInNC20b ι n) ["Tag"] = false ∧ isInstanceJ (embInNC20b ι n) ["JSXTag"] = false := by
  cases n with
  | comp _ _ _ | tag _ _ _ => exact hn.elim
  | str k s => cases k <;> simp [embInNC20b, isInstanceJ_classes, classesJ_jsx, classesJ_builtin, builtinClasses]
  | md m => cases m <;> simp [embInNC20b, isInstanceJ_classes, classesJ_MetadataNode, classesJ_HTMLDependency]
  | tobj _ | tobjL _ => simp [embInNC20b, embInNC20b_tobj, isInstanceJ_classes, classesJ_TagifiableObj]

/-- the walk on a value for which the visitor returns the node `n`, given the walk on everything below `n` at the fuel below:
    the attribute loop and the child loop on a component, the child loop on an html Tag, nothing else -/
theorem walk_nodeC20b (h : walk_attrs_and_childrenC20b_available = true) (hs : JSXTagAttrDict_setitemC20b_available = true)
    (hn : JSX_normalize_attr_name_available = true)
    (G : Globals) (ι : Str → Option Int) (fuel : Nat) (x : PVal) (n : JNode) (mds : List PVal)
    (hvis : JSXTag_tagify_visitorC20b G (fuel + 1) (.list mds) x
      = .ok (.tuple [embInNC20b ι n, .list (mds ++ nodeMetasC20b ι n)]))
    (hok : walkOkNC20b n = true) (hnl : ∀ es, n ≠ .tobjL es)
    (HW : ∀ w : JVal, whVC20b w < whNC20b n → walkOkVC20b w = true → ∀ mds,
      walk_attrs_and_childrenC20b G (fuel + 1) (embInVC20b ι w) (.list mds) = walkResC20b ι w mds) :
    walk_attrs_and_childrenC20b G (fuel + 2) x (.list mds) = walkExpResC20b ι n mds := by
  first
  | exact absurd h (by decide)
  | skip
  all_goals (
    rw [walk_attrs_and_childrenC20b]
    simp only [hvis, ok_bind', pure_eq_ok', pyUnpack2_tuple', truthy_bool']
    have hl := leaf_embInNC20b ι n
    cases n with
    | comp n ps ks =>
      have hok' : (ps.keys.Nodup ∧ cleanKeysC20b ps.keys = true ∧ walkOkPC20b ps = true) ∧ walkOkKC20b ks = true := by
        simpa [walkOkNC20b, and_assoc] using hok
      have HK : ∀ c ∈ ks.toList, ∀ mds, walk_attrs_and_childrenC20b G (fuel + 1) (embInNC20b ι c) (.list mds)
          = walkResC20b ι (.node c) mds := fun c hc mds =>
        HW (.node c) (by have := whK_memC20b ks c hc; simp only [whVC20b, whNC20b]; omega) (walkOkK_memC20b ks hok'.2 c hc) mds
      have HP : ∀ kv ∈ ps.toList, ∀ mds, walk_attrs_and_childrenC20b G (fuel + 1) (embInVC20b ι kv.2) (.list mds)
          = walkResC20b ι kv.2 mds := fun kv hkv mds =>
        HW kv.2 (by have := whP_memC20b ps kv hkv; simp only [whNC20b]; omega) (walkOkP_memC20b ps hok'.1.2.2 kv hkv) mds
      simp only [nodeMetasC20b, List.append_nil, embInNC20b, isInstanceJ_classes, classesJ_JSXTag, List.any_cons, List.any_nil,
        List.contains_cons, List.contains_nil, String.reduceBEq, Bool.or_false, Bool.or_true, Bool.false_or, Bool.false_eq_true,
        if_false, if_true]
      simp only [getAttr_attrs, ok_bind', pyItems_dict, pyIterJ_list, embInP_toListC20b, List.map_map, Function.comp_def]
      have hkeys : cleanKeysC20b (ps.toList.map (·.1)) = true := by rw [← keys_toListC20b]; exact hok'.1.2.1
      have hnd : (([] : List (Str × PVal)).map (·.1) ++ ps.toList.map (·.1)).Nodup := by
        simpa [← keys_toListC20b] using hok'.1.1
      refine props_walk_loopC20b
        (fun d => PVal.obj "JSXTag" [("name", .str n), ("attrs", .dict d), ("children", .obj "TagList" [("data", .list (embInKC20b ι ks))])])
        (embInVC20b ι) (fun v => embOutVC20b ι (v.walkVal .demanded).node) (fun v => (v.walkVal .demanded).metas.map (embMetaC20b ι))
        ps.toList [] mds _ hnd _ ?pstep _ _ ?pk
      case pstep =>
        intro pre' kv rest m t hkv hfresh
        have hclean : kv.1.contains '_' = false := by
          have := (List.all_eq_true.mp hkeys) kv.1 (List.mem_map.2 ⟨kv, hkv, rfl⟩)
          simpa using this
        simp only [pyUnpack2_tuple', ok_bind', HP kv hkv, walkResC20b, getAttr_attrs, jsx_setitem_dictC20b hs hn,
          normAttrName_cleanC20b _ hclean, dictSet_midC20b _ _ _ _ _ hfresh]
        simp only [pySameKeysC20b, List.map_append, List.map_cons, beq_self_eq_true, if_true, pure_eq_ok', ok_bind', pySetAttr,
          fieldSet, String.reduceEq, ↓reduceIte]
        exact ⟨_, rfl⟩
      case pk =>
        intro t
        simp only [List.nil_append, getAttr_children, ok_bind', pyNotJsx_taglistC20b,
          pyEnumerate_taglistC20b, pyIterJ_list, embInK_toListC20b]
        refine kids_walk_loopC20b
          (fun l => PVal.obj "JSXTag" [("name", .str n), ("attrs", _), ("children", .obj "TagList" [("data", .list l)])])
          (embInNC20b ι) (fun c => embOutNC20b ι (c.walk .demanded).node) (fun c => (c.walk .demanded).metas.map (embMetaC20b ι))
          ks.toList [] _ _ _ ?kstep _ _ ?kk
        case kstep =>
          -- one pass: the child is walked (`HK`), the result is put at its position, what was collected is handed on
          intro pre' c rest m t hc
          simp only [pyUnpack2_tuple', ok_bind', HK c hc, walkResC20b, JVal.walkVal, embOutVC20b, getAttr_children, setItemU_midC20b, setAttr_children]
          exact ⟨_, rfl⟩
        case kk =>
          intro t
          simp only [walkExpResC20b, JNode.walkExp, embOutNC20b, (walkKids_outC20b ι ks).1,
            (walkKids_outC20b ι ks).2, (walkProps_outC20b ι ps).1, (walkProps_outC20b ι ps).2, List.nil_append, List.map_append,
            List.map_flatMap, List.append_assoc, List.flatMap_map]
    | tag n a ks =>
      have hok' : cleanKeysC20b (a.map (·.1)) = true ∧ walkOkKC20b ks = true := by simpa [walkOkNC20b] using hok
      have HK : ∀ c ∈ ks.toList, ∀ mds, walk_attrs_and_childrenC20b G (fuel + 1) (embInNC20b ι c) (.list mds)
          = walkResC20b ι (.node c) mds := fun c hc mds =>
        HW (.node c) (by have := whK_memC20b ks c hc; simp only [whVC20b, whNC20b]; omega) (walkOkK_memC20b ks hok'.2 c hc) mds
      have hit : ∀ d c w, isInstanceJ (.obj "Tag" [("name", .str n), ("attrs", d), ("children", c), ("add_ws", w)]) ["Tag"] = true := by
        intro d c w; simp [isInstanceJ, jsxText?, isInstance]
      simp only [nodeMetasC20b, List.append_nil, embInNC20b, hit, if_true, getAttr_children, ok_bind', pyNotJsx_taglistC20b,
        pyEnumerate_taglistC20b, pyIterJ_list, embInK_toListC20b]
      refine kids_walk_loopC20b
        (fun l => PVal.obj "Tag" [("name", .str n), ("attrs", embAttrs a), ("children", .obj "TagList" [("data", .list l)]), ("add_ws", .bool true)])
        (embInNC20b ι) (fun c => embOutNC20b ι (c.walk .demanded).node) (fun c => (c.walk .demanded).metas.map (embMetaC20b ι))
        ks.toList [] _ _ _ ?kstep _ _ ?kk
      case kstep =>
        intro pre' c rest m t hc
        simp only [pyUnpack2_tuple', ok_bind', HK c hc, walkResC20b, JVal.walkVal, embOutVC20b, getAttr_children, setItemU_midC20b, setAttr_children]
        exact ⟨_, rfl⟩
      case kk =>
        intro t
        simp only [walkExpResC20b, JNode.walkExp, embOutNC20b, (walkKids_outC20b ι ks).1,
          (walkKids_outC20b ι ks).2, List.nil_append, List.map_flatMap, List.flatMap_map]
    | tobjL es => exact absurd rfl (hnl es)
    | _ =>
      simp only [(hl trivial).1, (hl trivial).2, Bool.false_eq_true, if_false, ite_self]
      simp [walkExpResC20b, JNode.walkExp, nodeMetasC20b, embOutNC20b])

theorem walk_leafC20b (h : walk_attrs_and_childrenC20b_available = true) (hv : JSXTag_tagify_visitorC20b_available = true)
    (hc : JSXTag_copyC20b_available = true)
    (G : Globals) (ι : Str → Option Int) (fuel : Nat) (v : JVal) (hok : visOkC20b v = true) (mds : List PVal)
    (h1 : isInstanceJ (visOutC20b ι v) ["Tag"] = false ∧ isInstanceJ (visOutC20b ι v) ["JSXTag"] = false) :
    walk_attrs_and_childrenC20b G (fuel + 2) (embInVC20b ι v) (.list mds)
      = .ok (.tuple [visOutC20b ι v, .list (mds ++ visMetasC20b ι v)]) := by
  first
  | exact absurd h (by decide)
  | skip
  all_goals (
    rw [walk_attrs_and_childrenC20b]
    simp only [visitor_valC20b hv hc G ι fuel mds v hok, ok_bind', pure_eq_ok', pyUnpack2_tuple', truthy_bool', h1.1, h1.2,
      Bool.false_eq_true, if_false]
    exact ite_self _)

theorem walk_stepC20b (h : walk_attrs_and_childrenC20b_available = true) (hv : JSXTag_tagify_visitorC20b_available = true)
    (hc : JSXTag_copyC20b_available = true) (hs : JSXTagAttrDict_setitemC20b_available = true)
    (hn : JSX_normalize_attr_name_available = true)
    (G : Globals) (ι : Str → Option Int) (fuel : Nat) (v : JVal) (hok : walkOkVC20b v = true)
    (HW : ∀ w : JVal, whVC20b w < whVC20b v → walkOkVC20b w = true → ∀ mds,
      walk_attrs_and_childrenC20b G (fuel + 1) (embInVC20b ι w) (.list mds) = walkResC20b ι w mds)
    (mds : List PVal) :
    walk_attrs_and_childrenC20b G (fuel + 2) (embInVC20b ι v) (.list mds) = walkResC20b ι v mds := by
  have hvis := visitor_valC20b hv hc G ι fuel mds v (visOk_of_walkOkC20b v hok)
  have leaf := walk_leafC20b h hv hc G ι fuel v (visOk_of_walkOkC20b v hok) mds
  cases v with
  | node x =>
    cases x with
    | tobj e =>
      rw [walk_nodeC20b h hs hn G ι fuel _ e mds hvis (walkOkN_tobjC20b e hok)
        (fun es he => by subst he; simp [walkOkVC20b, walkOkNC20b] at hok) HW]
      simp [walkResC20b, walkExpResC20b, JVal.walkVal, JNode.walk, embOutVC20b]
    | tobjL es =>
      rw [leaf (by simp [visOutC20b, isInstanceJ_classes, classesJ_TagList])]
      simp [walkResC20b, JVal.walkVal, JNode.walk, visOutC20b, visMetasC20b, nodeMetasC20b, embOutVC20b, embOutNC20b]
    | _ =>
      rw [walkRes_nodeC20b ι _ (fun e he => by cases he) mds]
      exact walk_nodeC20b h hs hn G ι fuel _ _ mds hvis hok (fun es he => by cases he) HW
  | num t =>
    rw [leaf (by cases hi : ι t <;> simp [visOutC20b, embInVC20b, hi, isInstanceJ, jsxText?, isInstance, builtinClasses])]
    simp [walkResC20b, JVal.walkVal, visOutC20b, visMetasC20b, embOutVC20b]
  | list tup vs =>
    rw [leaf (by cases tup <;> exact ⟨rfl, rfl⟩)]
    simp [walkResC20b, JVal.walkVal, visOutC20b, visMetasC20b, embOutVC20b]
  | _ =>
    rw [leaf ⟨rfl, rfl⟩]
    simp [walkResC20b, JVal.walkVal, visOutC20b, visMetasC20b, embOutVC20b]

theorem src_walk_depthC20b (h : walk_attrs_and_childrenC20b_available = true) (hv : JSXTag_tagify_visitorC20b_available = true)
    (hc : JSXTag_copyC20b_available = true) (hs : JSXTagAttrDict_setitemC20b_available = true)
    (hn : JSX_normalize_attr_name_available = true) (G : Globals) (ι : Str → Option Int) (fuel : Nat) :
    ∀ v : JVal, walkOkVC20b v = true → whVC20b v + 1 ≤ fuel → ∀ mds,
      walk_attrs_and_childrenC20b G fuel (embInVC20b ι v) (.list mds) = walkResC20b ι v mds := by
  induction fuel with
  | zero => intro v _ hf; omega
  | succ f ih =>
    intro v hok hf mds
    cases f with
    | zero => have := whV_posC20b v; omega
    | succ f => exact walk_stepC20b h hv hc hs hn G ι f v hok (fun w hw hwok m => ih w hwok (by omega) m) mds

/-- `_walk_attrs_and_children(x, fn)` as the source has it, with `fn` the visitor of `JSXTag.tagify` closed over a list that
    holds `mds`: the pair of the walked copy — `(x.walk d).node` of Model/Jsx.lean: every tagifiable object that is neither a
    Tag nor a JSXTag replaced by what its `tagify()` returns, recursively through children and prop values — and the list
    extended by the metadata nodes the walk met, in its order (`(x.walk d).metas`; `C20_collected`: in document order) -/
theorem src_walk_attrs_and_childrenC20b (h : walk_attrs_and_childrenC20b_available = true)
    (hv : JSXTag_tagify_visitorC20b_available = true)
    (hc : JSXTag_copyC20b_available = true) (hs : JSXTagAttrDict_setitemC20b_available = true)
    (hn : JSX_normalize_attr_name_available = true) (G : Globals) (ι : Str → Option Int)
    (x : JNode) (hok : walkOkNC20b x = true) (fuel : Nat) (hf : whNC20b x + 1 ≤ fuel) (mds : List PVal) (d : Discipline) :
    walk_attrs_and_childrenC20b G fuel (embInNC20b ι x) (.list mds)
      = .ok (.tuple [embOutNC20b ι (x.walk d).node, .list (mds ++ (x.walk d).metas.map (embMetaC20b ι))]) := by
  have := src_walk_depthC20b h hv hc hs hn G ι fuel (.node x) hok hf mds
  simp only [embInVC20b, walkResC20b, JVal.walkVal, embOutVC20b] at this
  rw [this, walk_node_indep d .demanded, walk_metas d, walk_metas .demanded]

theorem script_attrsC20b (h : TagAttrDict_initC15b_available = true) (hu : TagAttrDict_update_available = true)
    (hv : normalize_attr_value_available = true) (hn : normalize_attr_name_available = true) (G : Globals) (t : Str) :
    TagAttrDict_initC15b G (.dict []) (.tuple [.dict [(chars% "type", .str t), (chars% "data_needs_render", .bool true)]]) (.dict [])
      = .ok (.dict [(chars% "type", .str t), (chars% "data-needs-render", .str [])]) := by
  first
  | exact absurd h (by decide)
  | exact absurd hu (by decide)
  | exact absurd hv (by decide)
  | skip
  all_goals (
    unfold TagAttrDict_initC15b TagAttrDict_update
    -- what the two passes of the inner loop meet, so that every test is decided where it stands
    have e1 : normalize_attr_value G (.str t) = .ok (.str t) := src_normalize_attr_value hv G (.str t)
    have e2 : normalize_attr_value G (.bool true) = .ok (.str []) := src_normalize_attr_value hv G .boolT
    have hk : truthy (PVal.dict []) = false := Eq.trans rfl rfl
    have hin : ∀ (k : Str) (kvs : List (Str × PVal)), pyIn (.str k) (.dict kvs) = .ok (.bool (Py.dictGet? k kvs).isSome) :=
      fun _ _ => Eq.trans rfl rfl
    have hn1 : normAttrName (chars% "type") = chars% "type" := by decide
    have hn2 : normAttrName (chars% "data_needs_render") = chars% "data-needs-render" := by decide
    have hne : ¬ (chars% "type" : Str) = chars% "data-needs-render" := by decide
    simp only [pyDictInit0C15b, pyIter_tuple, pyKwRestC15b, List.any_nil, Bool.false_eq_true, if_false, List.filter_nil, ok_bind',
      pure_eq_ok', hk, truthy_bool', List.forIn_cons, List.forIn_nil, pyItems_dict, List.map_cons, List.map_nil, pyIter_list,
      pyUnpack2_tuple', src_normalize_attr_name hn, e1, e2, isNone, hin, pySetItem, Py.dictGet?, Option.isSome_none, hn1, hn2,
      Py.dictSet, hne, pyDictUpdate, List.foldl_cons, List.foldl_nil])

theorem filter_dict_consC20b (d : PVal) (kids : List PVal) (hd : isInstance d ["dict"] = true)
    (hnd : ∀ v ∈ kids, isInstance v ["dict"] = false) :
    (d :: kids).filter (fun v => isInstance v ["dict"]) = [d] ∧ (d :: kids).filter (fun v => !isInstance v ["dict"]) = kids := by
  constructor
  · rw [List.filter_cons_of_pos (p := fun v => isInstance v ["dict"]) hd,
      List.filter_eq_nil_iff.2 fun v hv => by simp [hnd v hv]]
  · rw [List.filter_cons_of_neg (p := fun v => !isInstance v ["dict"]) (by simp [hd]),
      List.filter_eq_self.2 fun v hv => by simp [hnd v hv]]

/-- the constructor call at the end of `tagify`: `Tag(name, {"type": t, "data_needs_render": True}, *kids)` for children that are
    plain nodes (and no dicts) — the new Tag's attributes in assignment order -/
theorem Tag_init_scriptC20b (h : Tag_initC15b_available = true) (hA : TagAttrDict_initC15b_available = true)
    (hu : TagAttrDict_update_available = true)
    (hv : normalize_attr_value_available = true) (hnn : normalize_attr_name_available = true)
    (hT : TagList_init_available = true) (hc : NormCallees)
    (G : Globals) (fuel : Nat) (nm t : Str) (kids : List PVal)
    (hpl : ∀ v ∈ kids, plainC11 v = true) (hnd : ∀ v ∈ kids, isInstance v ["dict"] = false) :
    Tag_initC15b G (fuel + 5) (.obj "Tag" []) (.str nm)
        (.tuple (.dict [(chars% "type", .str t), (chars% "data_needs_render", .bool true)] :: kids)) (.bool true) (.dict [])
      = .ok (.obj "Tag" [("name", .str nm), ("add_ws", .bool true),
          ("attrs", .dict [(chars% "type", .str t), (chars% "data-needs-render", .str [])]),
          ("children", .obj "TagList" [("data", .list kids)]), ("prev_displayhook", .none)]) := by
  first
  | exact absurd h (by decide)
  | skip
  all_goals (
    rw [Tag_initC15b]
    have hb : isInstance (PVal.bool true) ["bool"] = true := by simp [isInstance, builtinClasses]
    obtain ⟨hfd, hfk⟩ := filter_dict_consC20b
      (.dict [(chars% "type", .str t), (chars% "data_needs_render", .bool true)]) kids (by simp [isInstance, builtinClasses]) hnd
    simp only [pySetAttr_objC15b, ok_bind', pure_eq_ok', truthy_bool', hb, Bool.not_true, Bool.false_eq_true, if_false, pyIter_tuple]
    refine (filter_loop_kC15b (fun v => isInstance v ["dict"]) _ _ _ ?_ _).trans ?_
    · intro x _ s; cases isInstance x ["dict"] <;> rfl
    simp only [List.nil_append, hfd, pyIter_list, ok_bind', pyKwRestC15b, List.any_nil, Bool.false_eq_true, if_false, List.filter_nil,
      pure_eq_ok', script_attrsC20b hA hu hv hnn G t, pySetAttr_objC15b]
    refine (filter_loop_kC15b (fun v => !isInstance v ["dict"]) _ _ _ ?_ _).trans ?_
    · intro x _ s; cases isInstance x ["dict"] <;> rfl
    simp only [List.nil_append, hfk, pyIter_list, ok_bind', TagList_init_plainC20b hT hc G fuel kids hpl, pySetAttr_objC15b]
    simp [fieldSet])

theorem dictGet_versionsC20b (pkg : Str) (vs : List (Str × Str)) :
    Py.dictGet? pkg (vs.map fun kv => (kv.1, PVal.str kv.2)) = (alookup pkg vs).map PVal.str := by
  induction vs with
  | nil => rfl
  | cons x t ih =>
    obtain ⟨k, v⟩ := x
    simp only [List.map_cons, Py.dictGet?, alookup]
    split <;> simp_all

/-- the dependency the model's `libDependency` describes (Model/Jsx.lean) -/
def libDepInfoC20b (pkg v src : Str) : DepInfo :=
  { name := pkg, version := v, vrank := 0, source := .subdir (some (chars% "htmltools")) (chars% "lib/" ++ pkg) [],
    script := [[(chars% "src", src)]], stylesheet := [], metas := [], allFiles := false }

/-- `_lib_dependency(pkg, script={"src": src})` as the source has it = `libDependency`: KeyError for a package `_versions.py`
    (the regenerated table `Generated.reactVersions`) does not pin; otherwise `HTMLDependency(name=pkg, version=versions[pkg],
    source={"package": "htmltools", "subdir": "lib/" + pkg}, script=…)` through the translated `HTMLDependency.__init__`:
    the dependency the model describes (compared attribute by attribute, `projDepC10b`).
    `hver`: `packaging` accepts the version string of the table and writes it back as it is. -/
theorem src_lib_dependencyC20b (h : lib_dependencyC20b_available = true) (hI : HTMLDependency_init_available = true)
    (h1 : HTMLDependency_validate_dicts_available = true) (h2 : HTMLDependency_validate_dict_available = true)
    (G : Globals) (pkg src : Str)
    (hver : ∀ v, alookup pkg Generated.reactVersions = some v → G.mkVersion v = some (versionObjC10b 0 v)) :
    projDepC10b <$> lib_dependencyC20b G (.str pkg) (.dict [(chars% "src", .str src)])
      = match alookup pkg Generated.reactVersions with
        | none => .error .keyError
        | some v => .ok (embDepObjC10b "HTMLDependency"
            (.dict [(chars% "package", .str (chars% "htmltools")), (chars% "subdir", .str (chars% "lib/" ++ pkg))])
            (libDepInfoC20b pkg v src) .none) := by
  first
  | exact absurd h (by decide)
  | skip
  all_goals (
    unfold lib_dependencyC20b
    simp only [pyGetItem, dictGet_versionsC20b, pyAddJ_str, ok_bind', pure_eq_ok']
    cases hv : alookup pkg Generated.reactVersions with
    | none => simp
    | some v =>
      simp only [Option.map_some, ok_bind', pure_eq_ok']
      have := src_init hI h1 h2 G "HTMLDependency"
        { name := pkg, version := v, verOk := true, vrank := 0,
          source := .dict [(chars% "package", chars% "htmltools"), (chars% "subdir", chars% "lib/" ++ pkg)],
          script := .one [(chars% "src", src)], stylesheet := .none, metas := .none, allFiles := false }
        (.str v) (Or.inl ⟨v, rfl, by simpa using hver v hv⟩) .none
      simp only [SourceV.emb, ItemsV.emb, embKvsC10b, List.map_cons, List.map_nil, HeadV.emb] at this
      rw [this]
      simp [depInit, DepArgV.toArg, SourceV.toArg, ItemsV.toArg, checkSource, hasKey, normItems, validateDicts, validateDict,
        checkKeys, reqScript, reqStylesheet, reqMeta, alookup, HeadV.res, libDepInfoC20b, addRel])

theorem lib_dep_objC20b (x : PyM PVal) (d : PVal) (info : DepInfo)
    (h : projDepC10b <$> x = .ok (embDepObjC10b "HTMLDependency" d info .none)) :
    ∃ fs, x = .ok (.obj "HTMLDependency" fs) := by
  cases x with
  | error e => simp at h
  | ok r =>
    cases r with
    | obj c fs =>
      simp only [map_ok, projDepC10b, embDepObjC10b, Except.ok.injEq, PVal.obj.injEq] at h
      exact ⟨fs, by rw [h.1]⟩
    | _ => simp [projDepC10b, embDepObjC10b] at h

theorem plain_depC20b (fs : List (String × PVal)) :
    plainC11 (.obj "HTMLDependency" fs) = true ∧ isInstance (.obj "HTMLDependency" fs) ["dict"] = false := by
  simp [plainC11, isInstance, classBases, isNone]

/-- `JSXTag.tagify()` as the source has it = `jsxTagify` (Model/Jsx.lean; `C20_script`): the walk gives the expanded copy and the
    metadata nodes; `_render_react_js(cp, 2, "\n")` of the copy (its exception is passed on); the JavaScript `jsWrap name
    component`; and `Tag("script", {"type": "text/javascript", "data_needs_render": True}, HTML("\n" + js + "\n"), react,
    react-dom, *metadata_nodes)`, whose attributes are `scriptAttrs` and whose children are the script body, the two objects
    `_lib_dependency` returns — the dependencies `libDependency` describes (`C20_react`), compared attribute by attribute — and the
    collected nodes in document order (`C20_collected_on_script`).
    Stated for components whose walked copy holds no un-expanded tagifiable object (`noTobjNC20b`: `tagify()` of a tagifiable
    object did not return another such object — then the renderer's tie, which is about `embJNode`, applies) and satisfies the
    renderer's side conditions (`tiedN`); `hv1` / `hv2`: `_versions.py` pins both packages (`C20_react_pinned`); `hver1` /
    `hver2`: `packaging` accepts the two version strings and writes them back as they are. -/
theorem src_jsx_tagifyC20b (h : JSXTag_tagifyC20b_available = true)
    (hw : walk_attrs_and_childrenC20b_available = true) (hv : JSXTag_tagify_visitorC20b_available = true)
    (hc : JSXTag_copyC20b_available = true) (hs : JSXTagAttrDict_setitemC20b_available = true)
    (hn : JSX_normalize_attr_name_available = true)
    (hr1 : render_react_js_available = true) (hr2 : serialize_attr_available = true) (hr3 : serialize_style_attr_available = true)
    (hL : lib_dependencyC20b_available = true) (hI : HTMLDependency_init_available = true)
    (hd1 : HTMLDependency_validate_dicts_available = true) (hd2 : HTMLDependency_validate_dict_available = true)
    (hT : Tag_initC15b_available = true) (hA : TagAttrDict_initC15b_available = true) (hu : TagAttrDict_update_available = true)
    (hav : normalize_attr_value_available = true) (han : normalize_attr_name_available = true)
    (hTL : TagList_init_available = true) (ht : tagchilds_to_tagnodes_available = true)
    (hf : util_flatten_available = true) (hfr : util_flatten_recurse_available = true) (hit : is_tag_node_available = true)
    (G : Globals) (ι : Str → Option Int) (hι : IntTexts ι) (name : Str) (ps : JProps) (ks : JNodes)
    (hok : walkOkNC20b (.comp name ps ks) = true)
    (hclean : noTobjNC20b ((JNode.comp name ps ks).walk .demanded).node = true)
    (htied : tiedN ((JNode.comp name ps ks).walk .demanded).node = true)
    (v1 v2 : Str) (hv1 : alookup (chars% "react") Generated.reactVersions = some v1)
    (hv2 : alookup (chars% "react-dom") Generated.reactVersions = some v2)
    (hver1 : G.mkVersion v1 = some (versionObjC10b 0 v1)) (hver2 : G.mkVersion v2 = some (versionObjC10b 0 v2))
    (fuel : Nat) (hf1 : whNC20b (.comp name ps ks) + 1 ≤ fuel) (hf2 : hN ((JNode.comp name ps ks).walk .demanded).node ≤ fuel)
    (hf3 : 5 ≤ fuel) :
    ∃ r rd,
      projDepC10b r = embDepObjC10b "HTMLDependency"
          (.dict [(chars% "package", .str (chars% "htmltools")), (chars% "subdir", .str (chars% "lib/" ++ chars% "react"))])
          (libDepInfoC20b (chars% "react") v1 (chars% "react.production.min.js")) .none ∧
      projDepC10b rd = embDepObjC10b "HTMLDependency"
          (.dict [(chars% "package", .str (chars% "htmltools")), (chars% "subdir", .str (chars% "lib/" ++ chars% "react-dom"))])
          (libDepInfoC20b (chars% "react-dom") v2 (chars% "react-dom.production.min.js")) .none ∧
      JSXTag_tagifyC20b G (fuel + 1) (embInNC20b ι (.comp name ps ks))
        = match ((JNode.comp name ps ks).walk .demanded).node.renderJs 2 ['\n'] with
          | .error e => .error (embErr e)
          | .ok component =>
            .ok (scriptObjC20b (jsWrap name component) r rd ((JNode.comp name ps ks).metasIn.map (embMetaC20b ι))) := by
  first
  | exact absurd h (by decide)
  | skip
  all_goals (
    have hl1 := src_lib_dependencyC20b hL hI hd1 hd2 G (chars% "react") (chars% "react.production.min.js")
      (fun v hv' => by rw [hv1] at hv'; cases hv'; exact hver1)
    have hl2 := src_lib_dependencyC20b hL hI hd1 hd2 G (chars% "react-dom") (chars% "react-dom.production.min.js")
      (fun v hv' => by rw [hv2] at hv'; cases hv'; exact hver2)
    rw [hv1] at hl1
    rw [hv2] at hl2
    obtain ⟨fs1, e1⟩ := lib_dep_objC20b _ _ _ hl1
    obtain ⟨fs2, e2⟩ := lib_dep_objC20b _ _ _ hl2
    refine ⟨.obj "HTMLDependency" fs1, .obj "HTMLDependency" fs2, by simpa [e1] using hl1, by simpa [e2] using hl2, ?_⟩
    rw [JSXTag_tagifyC20b]
    have hwalk := src_walk_attrs_and_childrenC20b hw hv hc hs hn G ι (.comp name ps ks) hok fuel hf1 [] .demanded
    have hrender := src_render_react_js hr1 hr2 hr3 G ι hι _ htied fuel hf2 2 ['\n']
    rw [← embOut_eq_embJNC20b ι _ hclean] at hrender
    simp only [ok_bind', pure_eq_ok', hwalk, pyUnpack2_tuple', List.nil_append]
    have h2 : (PVal.int 2) = PVal.int ((2 : Nat) : Int) := rfl
    rw [h2, hrender]
    cases hrj : ((JNode.comp name ps ks).walk .demanded).node.renderJs 2 ['\n'] with
    | error e => simp [embRes]
    | ok component =>
      have hname : pyGetAttr (embInNC20b ι (.comp name ps ks)) "name" = .ok (.str name) := by
        simp [embInNC20b, pyGetAttr, fieldGet?]
      simp only [embRes, ok_bind', hname, pyStrJ_str, pyConcat3, pure_eq_ok', char10C20b, char39C20b, char34C20b,
        pyJoinJ, pyIterJ_list, strsOfJ_str_cons, strsOfJ, asStr_str,
        pyAddJ_str, mkHTMLC20b, mkHTML, pyStr_str, e1, e2, pyIter_list]
      obtain ⟨f', rfl⟩ : ∃ f', fuel = f' + 5 := ⟨fuel - 5, by omega⟩
      simp only [List.cons_append, List.nil_append]
      have hkid : ∀ (js : Str) (v : PVal), v ∈ PVal.html js :: PVal.obj "HTMLDependency" fs1 :: PVal.obj "HTMLDependency" fs2
          :: List.map (embMetaC20b ι) (JNode.walk Discipline.demanded (JNode.comp name ps ks)).metas →
          plainC11 v = true ∧ isInstance v ["dict"] = false := by
        intro js v hv'
        simp only [List.mem_cons, List.mem_map] at hv'
        rcases hv' with rfl | rfl | rfl | ⟨m, _, rfl⟩
        · simp [plainC11, isInstance, builtinClasses, isNone]
        · exact plain_depC20b _
        · exact plain_depC20b _
        · cases m with
          | mnode n => simp [embMetaC20b, embInNC20b, plainC11, isInstance, classBases, isNone]
          | dep d => exact plain_depC20b _
      refine (Tag_init_scriptC20b hT hA hu hav han hTL ⟨ht, hf, hfr, hit⟩ G f' _ _ _ (fun v hv' => (hkid _ v hv').1)
        (fun v hv' => (hkid _ v hv').2)).trans ?_
      simp only [scriptObjC20b, jsWrap, walk_metas, List.singleton_append, List.cons_append, List.nil_append, List.append_assoc])

theorem pyJoinJ_strs_tupleC20b (sep : Str) (l : List Str) :
    pyJoinJ (.str sep) (.tuple (l.map PVal.str)) = .ok (.str (joinStr sep l)) := by
  simp [pyJoinJ, asStr, jsxText?, pyIterJ, pyIter, strsOfJ_strs]

/-- `jsx(*args)` (`jsx.__new__` for `cls = jsx`) as the source has it: the `jsx` string whose text is the arguments joined by
    line breaks -/
theorem src_jsx_newC20b (h : jsx_newC20b_available = true) (G : Globals) (ss : List Str) :
    jsx_newC20b G (.tuple (ss.map PVal.str)) = .ok (mkJsx (joinStr ['\n'] ss)) := by
  first
  | exact absurd h (by decide)
  | (unfold jsx_newC20b
     simp only [char10C20b, pyJoinJ_strs_tupleC20b, ok_bind', pure_eq_ok', pyJsxNewC20b, asStr_str])

/-- `jsx.__add__(self, other)` as the source has it is what the primitive `pyAddJ` (Py/PrimC20.lean) states for a `jsx` left
    operand: `jsx + str` is a plain `str`, `jsx + jsx` a `jsx` -/
theorem src_jsx_addC20b (h : jsx_addC20b_available = true) (hn : jsx_newC20b_available = true) (G : Globals)
    (add : PVal → PVal → PyM PVal) (a b : Str) :
    jsx_addC20b G (mkJsx a) (.str b) = pyAddJ add (mkJsx a) (.str b)
    ∧ jsx_addC20b G (mkJsx a) (mkJsx b) = pyAddJ add (mkJsx a) (mkJsx b) := by
  first
  | exact absurd h (by decide)
  | skip
  all_goals (
    have hnew := src_jsx_newC20b hn G [a ++ b]
    simp only [List.map_cons, List.map_nil, joinStr] at hnew
    constructor
    · unfold jsx_addC20b
      simp [pyStrAddC20b, asStr_jsx, asStr_str, isInstanceJ, jsxText?, isInstance, builtinClasses, pyAddJ, mkJsx, fieldGet?, asStr]
    · unfold jsx_addC20b
      simp only [pyStrAddC20b, asStr_jsx, ok_bind', pure_eq_ok', truthy_bool']
      have : isInstanceJ (mkJsx b) ["jsx"] = true := by simp [isInstanceJ, jsxText?, mkJsx, fieldGet?]
      simp only [this, if_true, hnew, ok_bind']
      simp [pyAddJ, jsxText?, mkJsx, fieldGet?])

/-- the names of the parameters of `JSXTag.__init__` other than `*args` / `**kwargs`: a keyword of that name does not reach
    `**kwargs` -/
def jsxReservedC20b : List Str := [chars% "self", chars% "_name", chars% "allowedProps"]

theorem kwFree_selfC20b (kw : List (Str × JVal)) (h : kwFreeC20b jsxReservedC20b kw = true) :
    kwFreeC20b [chars% "self"] kw = true := by
  rw [kwFreeC20b, List.all_eq_true] at h ⊢
  intro kv hkv
  have := h kv hkv
  simp only [jsxReservedC20b, List.contains_cons, List.contains_nil, Bool.or_false, Bool.not_eq_true', Bool.or_eq_false_iff] at this ⊢
  exact this.1

/-- the function `jsx_tag_create(name, allowedProps)` returns, called with `*kids, **kw` — as the source has it = `jsxInit`
    (`JSXTag(name, *args, allowedProps=allowedProps, **kwargs)`): the component, or NotImplementedError -/
theorem src_jsx_create_tagC20b (h : jsx_create_tagC20b_available = true) (hI : JSXTag_initC20b_available = true)
    (hA : JSXTagAttrDict_initC20b_available = true) (hu : JSXTagAttrDict_updateC20b_available = true)
    (hm : JSXTagAttrDict_updateMapC20b_available = true) (hnn : JSX_normalize_attr_name_available = true)
    (hT : TagList_init_available = true) (ht : tagchilds_to_tagnodes_available = true)
    (hf : util_flatten_available = true) (hr : util_flatten_recurse_available = true) (hn : is_tag_node_available = true)
    (G : Globals) (ι : Str → Option Int) (upper : Str → Str) (fuel : Nat)
    (name : Str) (allowed : Option (List Str)) (kw : List (Str × JVal)) (kids : JNodes)
    (hup : G.upperC20b (nameInitial name) = some (upper (nameInitial name)))
    (hkw : kwFreeC20b jsxReservedC20b kw = true)
    (hk : noJsxKidsC20b kids = true) :
    jsx_create_tagC20b G (fuel + 6) (.str name) (embAllowedC20b allowed) (.tuple (embJNodes ι kids)) (embKwC20b ι kw)
      = embRes (embJNode ι) (jsxInit upper name allowed kw kids) := by
  first
  | exact absurd h (by decide)
  | skip
  all_goals (
    rw [jsx_create_tagC20b]
    have hkw' := hkw
    unfold jsxReservedC20b at hkw'
    simp only [pyIter_tuple, ok_bind', pure_eq_ok', pyKwRest_embKwC20b ι kw _ hkw',
      src_jsx_tag_initC20b hI hA hu hm hnn hT ⟨ht, hf, hr, hn⟩ G ι upper fuel name allowed kw kids hup (kwFree_selfC20b kw hkw) hk])

/-- `jsx_tag_create(name, allowedProps)` as the source has it: the closure over its two arguments (whose body is
    `jsx_create_tagC20b`: `src_jsx_create_tagC20b`), named `name` -/
theorem src_jsx_tag_createC20b (h : jsx_tag_createC20b_available = true) (G : Globals) (name : Str) (a : PVal) :
    jsx_tag_createC20b G (.str name) a
      = .ok (.obj "closure" [("fn", .str "jsx_tag_create.<inner>".toList), ("captured", .list [.str name, a]),
          ("__name__", .str name)]) := by
  first
  | exact absurd h (by decide)
  | (unfold jsx_tag_createC20b
     simp [mkClosureC17, pySetFuncNameC20b, asStr_str, pySetAttr, fieldSet])

end HtmlVerif.SrcTie
