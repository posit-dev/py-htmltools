/-
Source tie (DESIGN §14) for attribute normalisation and merging: the Lean functions regenerated from the text of
`TagAttrDict._normalize_attr_name`, `_normalize_attr_value`, `__setitem__` and `update` compute, for every input,
what the model (Model/Attrs.lean) computes.  Obligations of C15 and C03.
No loop body is spelled out in these proofs: the loop rule `forIn_sim` takes the body from the regenerated
definition by unification, and what is proved about it is its effect on one pass.
-/
import HtmlVerif.Generated.Src
import HtmlVerif.Lemmas.PyLoop
import HtmlVerif.Lemmas.SrcTie
import HtmlVerif.Props.SrcEscape
import HtmlVerif.Model.Attrs

namespace HtmlVerif.SrcTie
open HtmlVerif HtmlVerif.Py HtmlVerif.Generated.Src

theorem src_normalize_attr_name (h : normalize_attr_name_available = true) (G : Globals) (x : Str) :
    normalize_attr_name G (.str x) = .ok (.str (normAttrName x)) := by
  first
  | exact absurd h (by decide)
  | (unfold normalize_attr_name normAttrName
     by_cases hx : x.getLast? = some '_' <;>
       simp [endswith_char, slice_dropLast, hx, replaceChar_single])

/-- in the source: `None` for a dropped value, `TypeError` for other types -/
theorem src_normalize_attr_value (h : normalize_attr_value_available = true) (G : Globals) (v : AttrArg) :
    normalize_attr_value G (embArg v) = embRes (fun o => match o with | some w => embVal w | none => PVal.none) (normAttrValue v) := by
  first
  | exact absurd h (by decide)
  | (cases v <;> rfl)

theorem isNone_embVal (w : AttrVal) : isNone (embVal w) = false := by cases w <;> rfl

theorem src_setitem (h : TagAttrDict_setitem_available = true) (h1 : normalize_attr_value_available = true)
    (h2 : normalize_attr_name_available = true) (G : Globals) (cur : Attrs) (k : Str) (v : AttrArg) :
    TagAttrDict_setitem G (embAttrs cur) (.str k) (embArg v) = embRes embAttrs (attrsSetItem cur k v) := by
  first
  | exact absurd h (by decide)
  | (unfold TagAttrDict_setitem attrsSetItem
     rw [src_normalize_attr_value h1]
     cases hv : normAttrValue v with
     | error e => simp [embRes]
     | ok o =>
       cases o with
       | none => simp [embRes, isNone]
       | some w =>
         simp only [embRes, ok_bind, isNone_embVal, Bool.not_false, Bool.false_eq_true, truthy_bool, if_true, if_false,
           src_normalize_attr_name h2, pySetItem, embAttrs, dictSet_emb, pure_eq_ok])

theorem isInstance_embVal (a : AttrVal) : isInstance (embVal a) ["HTML"] = a.isHtml := by cases a <;> rfl

theorem ite_bind_ok {α β : Type} {c : Prop} [Decidable c] {x : PyM α} {v : α} (hx : x = .ok v) (a : α) (K : α → PyM β) :
    (if c then x >>= K else K a) = K (if c then v else a) := by
  split <;> simp only [hx, ok_bind]

/-- `update` once `args` is fixed, for any list of dicts, whatever the outer loop's body is and whatever else its
    state carries besides `attrz` (its first component): enough that one pass over a dict folds `pairStep` over it -/
theorem update_outer (cfg : Cfg) (cur : Attrs) {ρ : Type} (ds : List (List (Str × AttrArg)))
    (ob : PVal → PVal × ρ → PyM (ForInStep (PVal × ρ))) (init : PVal × ρ) (h0 : init.1 = embAttrs [])
    (hob : ∀ (d : List (Str × AttrArg)) (acc : Attrs) (s : PVal × ρ), s.1 = embAttrs acc →
      Sim (fun (r : ForInStep (PVal × ρ)) (b' : Attrs) => ∃ s', r = .yield s' ∧ s'.1 = embAttrs b') embErr
        (ob (embArgDict d) s) (d.foldlM (fun acc kv => pairStep cfg kv acc) acc)) :
    (do
      let l ← pyIter (PVal.tuple (ds.map embArgDict))
      let s ← forIn l init ob
      let self ← pyDictUpdate (embAttrs cur) s.1
      Except.ok self : PyM PVal) = embRes embAttrs (attrsUpdate cfg cur ds) := by
  have hl := forIn_sim (fun (s : PVal × ρ) (b : Attrs) => s.1 = embAttrs b)
    embErr embArgDict ds ob (fun d acc => d.foldlM (fun acc kv => pairStep cfg kv acc) acc) init [] h0
    (fun d _ s b hR => hob d b s hR)
  have hb := Sim.bind (R' := fun (t : PVal) (b : Attrs) => t = embAttrs (dictUpdate cur b)) hl
    (k := fun s => do
      let self ← pyDictUpdate (embAttrs cur) s.1
      Except.ok self)
    (by
      intro s b hR
      refine ⟨embAttrs (dictUpdate cur b), ?_, rfl⟩
      simp only [hR, embAttrs, pyDictUpdate, pure_eq_ok, ok_bind, dictUpdate_emb])
  simp only [pyIter_tuple, ok_bind]
  rw [attrsUpdate_fold]
  generalize List.foldlM (m := Except Err) (fun (acc : Attrs) (d : List (Str × AttrArg)) =>
    List.foldlM (fun acc kv => pairStep cfg kv acc) acc d) [] ds = y at hb ⊢
  cases y with
  | error e => exact hb
  | ok b => obtain ⟨t, ht, rfl⟩ := hb; exact ht

/-- the inner loop of `update` over the items of a dict, whatever its body is and whatever else its state carries:
    enough that one pass does what `pairStep` does -/
theorem update_inner (cfg : Cfg) {ρ : Type} (ib : PVal → PVal × ρ → PyM (ForInStep (PVal × ρ)))
    (hib : ∀ (k : Str) (v : AttrArg) (acc : Attrs) (rest : ρ),
      Sim (fun (r : ForInStep (PVal × ρ)) (b' : Attrs) => ∃ s', r = .yield s' ∧ s'.1 = embAttrs b') embErr
        (ib (PVal.tuple [PVal.str k, embArg v]) (embAttrs acc, rest)) (pairStep cfg (k, v) acc))
    (d : List (Str × AttrArg)) (acc : Attrs) (r0 : ρ) :
    Sim (fun (s : PVal × ρ) (b : Attrs) => s.1 = embAttrs b) embErr
      (forIn (d.map ((fun kv : Str × PVal => PVal.tuple [PVal.str kv.1, kv.2]) ∘ fun kv : Str × AttrArg => (kv.1, embArg kv.2)))
        (embAttrs acc, r0) ib)
      (d.foldlM (fun acc kv => pairStep cfg kv acc) acc) := by
  refine forIn_sim (fun (s : PVal × ρ) (b : Attrs) => s.1 = embAttrs b) embErr _ d ib
    (fun kv acc => pairStep cfg kv acc) (embAttrs acc, r0) acc rfl ?_
  intro kv _ s acc' hs
  obtain ⟨k, v⟩ := kv
  obtain ⟨t1, t2⟩ := s
  simp only at hs; subst hs
  exact hib k v acc' t2

/-- `src_update` below, for any module constants `G` whose two escape tables are those of `cfg` -/
theorem src_update_of (h : TagAttrDict_update_available = true) (h1 : normalize_attr_value_available = true)
    (h2 : normalize_attr_name_available = true) (h3 : html_escape_available = true)
    (h4 : HTML_add_available = true) (h5 : HTML_radd_available = true) (h6 : HTML_as_string_available = true)
    (G : Globals) (cfg : Cfg) (hT : G.HTML_ESCAPE_TABLE = embTbl cfg.textTbl)
    (hA : G.HTML_ATTRS_ESCAPE_TABLE = embTbl cfg.attrTbl) (hsp : escText cfg [' '] = [' '])
    (ht : keysPlain cfg.textTbl = true) (ha : keysPlain cfg.attrTbl = true)
    (cur : Attrs) (args : List (List (Str × AttrArg))) (kw : List (Str × AttrArg)) :
    TagAttrDict_update G (embAttrs cur) (.tuple (args.map embArgDict)) (embArgDict kw)
      = embRes embAttrs (attrsUpdate cfg cur (if kw.isEmpty then args else args ++ [kw])) := by
  first
  | exact absurd h (by decide)
  | exact absurd h4 (by decide)
  | exact absurd h5 (by decide)
  | skip
  all_goals (
    have hv := fun v => src_normalize_attr_value h1 G v
    have hn := fun k => src_normalize_attr_name h2 G k
    have he := fun x => src_html_escape_of h3 G cfg hT hA ht ha x true
    simp only [if_true] at he
    -- the three shapes of `+` that `prev + " " + val` meets, from the tie of `HTML.__add__` / `__radd__`
    have addSS : ∀ x y, pyAdd G (.str x) (.str y) = .ok (.str (x ++ y)) :=
      fun x y => src_add_of h4 h5 h3 h6 G cfg hT hA ht ha (.plain x) (.plain y)
    have addHH : ∀ x y, pyAdd G (.html x) (.html y) = .ok (.html (x ++ y)) :=
      fun x y => src_add_of h4 h5 h3 h6 G cfg hT hA ht ha (.html x) (.html y)
    have addHS : ∀ x, pyAdd G (.html x) (.str [' ']) = .ok (.html (x ++ [' '])) := by
      intro x
      have := src_add_of h4 h5 h3 h6 G cfg hT hA ht ha (.html x) (.plain [' '])
      rwa [addVal, hsp] at this
    -- `args + (kwargs,)` when `kwargs` is non-empty
    have hadd : pyAdd G (PVal.tuple (args.map embArgDict)) (PVal.tuple [embArgDict kw])
        = .ok (PVal.tuple ((args ++ [kw]).map embArgDict)) := by simp [pyAdd, pyAddBase]
    have hargs : (if truthy (embArgDict kw) = true then PVal.tuple ((args ++ [kw]).map embArgDict)
        else PVal.tuple (args.map embArgDict))
        = PVal.tuple ((if kw.isEmpty then args else args ++ [kw]).map embArgDict) := by cases kw <;> rfl
    unfold TagAttrDict_update
    dsimp only [pure_eq_ok, truthy_bool]
    rw [ite_bind_ok hadd, hargs]
    refine update_outer cfg cur _ _ _ rfl ?_
    intro d acc s hs
    obtain ⟨s0, srest⟩ := s
    simp only at hs; subst hs
    simp only [embArgDict, pyItems_dict, pyIter_list, ok_bind, List.map_map]
    refine Sim.bind (update_inner cfg _ ?_ d acc _) (fun s b hR => ⟨_, rfl, _, rfl, hR⟩)
    -- one pass of the inner loop
    intro k v acc' rest'
    simp only [pyUnpack2_tuple, ok_bind, hv, pairStep]
    cases hnv : normAttrValue v with
    | error e => exact rfl
    | ok o =>
      cases o with
      | none => exact ⟨_, rfl, _, rfl, rfl⟩
      | some w =>
        simp only [embRes, ok_bind, isNone_embVal, Bool.false_eq_true, if_false, hn, pyIn, embAttrs, dictGet_emb, pure_eq_ok,
          truthy_bool, pyGetItem]
        cases hl : alookup (normAttrName k) acc' with
        | none =>
          simp only [Option.map_none, Option.isSome_none, Bool.false_eq_true, if_false, pySetItem, pure_eq_ok, ok_bind,
            dictSet_emb]
          exact ⟨_, rfl, _, rfl, rfl⟩
        | some old =>
          simp only [Option.map_some, Option.isSome_some, if_true, ok_bind, isInstance_embVal, pyAnd, pure_eq_ok, truthy_bool]
          cases old <;> cases w <;>
            simp only [AttrVal.isHtml, Bool.not_true, Bool.not_false, Bool.false_eq_true, if_true, if_false, truthy_bool,
              ok_bind, embVal_plain, embVal_html, he, mkHTML_str, addSS, addHS, addHH, pySetItem, pure_eq_ok,
              List.append_assoc, List.cons_append, List.nil_append] <;>
            exact ⟨_, rfl, _, rfl, by rw [← dictSet_emb]; rfl⟩)

/-- `TagAttrDict.update(*args, **kwargs)` as the source has it = `attrsUpdate` on the positional dicts followed by the
    keyword dict when it is non-empty.  `hsp`: a space is not escaped by the text table (what `prev + " " + val`
    relies on when `prev` is `HTML`). -/
theorem src_update (h : TagAttrDict_update_available = true) (h1 : normalize_attr_value_available = true)
    (h2 : normalize_attr_name_available = true) (h3 : html_escape_available = true)
    (h4 : HTML_add_available = true) (h5 : HTML_radd_available = true) (h6 : HTML_as_string_available = true)
    (cfg : Cfg) (hsp : escText cfg [' '] = [' '])
    (ht : keysPlain cfg.textTbl = true) (ha : keysPlain cfg.attrTbl = true)
    (cur : Attrs) (args : List (List (Str × AttrArg))) (kw : List (Str × AttrArg)) :
    TagAttrDict_update (globalsOf cfg) (embAttrs cur) (.tuple (args.map embArgDict)) (embArgDict kw)
      = embRes embAttrs (attrsUpdate cfg cur (if kw.isEmpty then args else args ++ [kw])) :=
  src_update_of h h1 h2 h3 h4 h5 h6 (globalsOf cfg) cfg rfl rfl hsp ht ha cur args kw

/-- `update` for the tables as they are in the source right now -/
theorem src_update_now (h : TagAttrDict_update_available = true) (h1 : normalize_attr_value_available = true)
    (h2 : normalize_attr_name_available = true) (h3 : html_escape_available = true)
    (h4 : HTML_add_available = true) (h5 : HTML_radd_available = true) (h6 : HTML_as_string_available = true)
    (cur : Attrs) (args : List (List (Str × AttrArg))) (kw : List (Str × AttrArg)) :
    TagAttrDict_update (globalsOf cfgNow) (embAttrs cur) (.tuple (args.map embArgDict)) (embArgDict kw)
      = embRes embAttrs (attrsUpdate cfgNow cur (if kw.isEmpty then args else args ++ [kw])) :=
  src_update h h1 h2 h3 h4 h5 h6 cfgNow src_tables_ok.2.2 src_tables_ok.1 src_tables_ok.2.1 cur args kw

end HtmlVerif.SrcTie
