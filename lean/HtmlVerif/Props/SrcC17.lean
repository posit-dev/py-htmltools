/-
Source tie (DESIGN §14) for C17 — the Tag context manager and the display-hook wrapper.  The Lean functions regenerated from
the *text* of `wrap_displayhook_handler`, the function defined inside it, `Tag.append`, `Tag.__enter__` and `Tag.__exit__`
(htmltools/_core.py; harness/pytr_c17.py says how state, function values and bound methods are translated) compute what the
display-hook model (Model/Hook.lean) computes:

* `src_handler_wrapperC17` — the inner function, for **every** displayed value kind and **every** meaning of calling the
  handler (`call`): the handler is called with exactly the value the model's `wrapFilter` hands on, or not at all.
* `src_wrap_displayhook_handlerC17` — `wrap_displayhook_handler(h)` is the closure over `h`.
* `src_Tag_enterC17` — `__enter__` is the model's `enterTag` (RuntimeError and an untouched state on re-entering; otherwise
  `prev_displayhook` saved and the wrapper around this tag's `append` installed), on every state.
* `src_Tag_exitC17` — `__exit__` is the model's `exitTag` — the hook is restored *before* the tag is handed over, and it stays
  restored when the hand-over raises — for every application function that does what `callHook` does for a tag
  (`CallTieC17`); `src_Tag_exit_applyC17` discharges that for the generated `applyCallableC17`.
* `src_applyCallableC17` — applying what sits in `sys.displayhook` (the recorder, the wrapper of a tag, `None`) to a displayed
  value is the model's `callHook`, for every value, state and hook, any fuel above the value's nesting depth + 8: the wrapper
  runs the translated inner function, whose handler `tag.append` runs the translated `Tag.append` → `TagList.append` →
  `TagList.extend` → `_tagchilds_to_tagnodes` → `flatten` (the C14 translations) on the heap object of that tag.
  `src_display_stmtC17` is the same statement as the model's `display v`.
  The C14 functions are tied here to the display-hook model's `Val.flat` / `toNodes` directly (`src_flattenC17`,
  `src_tagchildsC17`, `src_TagList_extendC17`, `src_TagList_appendC17`, `src_Tag_appendC17`): the C14 theorems are about
  another value universe (tags by value).

States: `embStC17 m s` for every model state `s` and every choice `m` of the tag fields the model does not speak about.
The state after an exception is part of every statement about a state-passing function (`PySM`, Py/PrimC17.lean).

Every theorem takes `<fn>_available = true` for the function and for every translated function it calls; when a function has
left the translatable fragment the flag is `false` and the first alternative (`absurd`) proves the theorem vacuously.
The two loops of the C14 functions are tied once, on Python values (Lemmas/SrcFlatten.lean: no loop body is spelled out);
here the class tests they make are supplied for the embedded values (`isInstance_embValC17`, Lemmas/SrcC17.lean).
-/
import HtmlVerif.Generated.Src
import HtmlVerif.Lemmas.SrcC17
import HtmlVerif.Lemmas.SrcC14
import HtmlVerif.Lemmas.SrcFlatten

set_option linter.unusedSimpArgs false   -- the simp sets cover equivalent spellings of the source, not only the current one
set_option linter.unusedVariables false

namespace HtmlVerif.SrcTie
open HtmlVerif HtmlVerif.Py HtmlVerif.Hook HtmlVerif.Generated.Src

/-- what the wrapper does with the value the model's `wrapFilter` hands on: call the handler with it — once, with nothing
    else — or do nothing; `None` is returned -/
def handOnC17 (call : CallC17) (handler : PVal) : Option Val → PySM PVal
  | Option.none => pure .none
  | some v' => do let _ ← call handler [embValC17 v']; pure .none

/-- the function defined inside `wrap_displayhook_handler`, as the source has it, on every displayed value kind:
    a Tag / TagList / Tagifiable object (also one that has `_repr_html_` too) is handed on as it is, an object that only has
    `_repr_html_` as `HTML(value._repr_html_())`, `None` and `...` are dropped, anything else is handed on as it is -/
theorem src_handler_wrapperC17 (h : handler_wrapperC17_available = true) (G : Globals) (call : CallC17) (handler : PVal) (v : Val) :
    handler_wrapperC17 G call handler (embValC17 v) = handOnC17 call handler (wrapFilter v) := by
  first
  | exact absurd h (by decide)
  | unfold handler_wrapperC17
    simp only [isInstance_cons2, isInstance_embValC17]
    cases v <;>
      simp [valClassesC17, embValC17, embTagListC17, tagRefC17, mkRefC17, ellipsisC17, pyInConstsC17, singletonC17, isNone, wrapFilter,
        handOnC17, pyReprHtml, mkHTML, pyStr]

/-- `wrap_displayhook_handler(handler)` returns the closure of its inner function over `handler` -/
theorem src_wrap_displayhook_handlerC17 (h : wrap_displayhook_handlerC17_available = true) (G : Globals) (handler : PVal) :
    wrap_displayhook_handlerC17 G handler = .ok (wrapperC17 handler) := by
  first
  | exact absurd h (by decide)
  | unfold wrap_displayhook_handlerC17
    first | rfl | simp [wrapperC17]

/-- `tag_t.__enter__()` as the source has it = the model's `enterTag`, on every state in which the tag's saved hook is not the
    `unset` marker (a state no program reaches: `unset` stands for a `None` that `__exit__` installed, and `None` saved as
    `prev_displayhook` is indistinguishable, for the code, from "not entered") -/
theorem src_Tag_enterC17 (h : Tag_enterC17_available = true) (hw : wrap_displayhook_handlerC17_available = true)
    (G : Globals) (call : CallC17) (m : TagId → TagMetaC17) (s : St) (t : TagId) (hp : (s.tags t).prev ≠ some .unset) :
    Tag_enterC17 G call (tagRefC17 t) (embStC17 m s)
      = match enterTag t s with
        | .ok s' => (.ok .none, embStC17 m s')
        | .error e => (.error (embErr e), embStC17 m s) := by
  first
  | exact absurd h (by decide)
  | unfold Tag_enterC17 enterTag
    cases hq : (s.tags t).prev with
    | some x =>
      have hx : x ≠ .unset := fun hx => hp (by rw [hq, hx])
      simp [PySM.run_bind, PySM.run_pure, PySM.run_throw, heapGet_prevC17, hq, embPrevC17, isNone_embHookC17 x hx, embErr]
    | none =>
      simp only [PySM.run_bind, PySM.run_pure, PySM.run_throw, heapGet_prevC17, hq, embPrevC17, isNone, truthy_bool,
        src_wrap_displayhook_handlerC17 hw, PySM.lift_ok, sysGet_hookC17, heapSet_prev_hookC17, sysSet_wrapC17,
        Bool.not_true, Bool.not_false, Bool.false_eq_true, if_true, if_false, ite_applyC17, pure_bind, bind_assoc]
      first | rfl | simp [setPrevC17, St.entered]

/-- the application function does, for the displayed value `v`, what the model's `callHook` does: on every state and for every
    hook, the new state — or the exception, with the state as it was -/
def CallTieC17 (m : TagId → TagMetaC17) (call : CallC17) (v : Val) : Prop :=
  ∀ (h : HookId) (s : St), call (embHookC17 h) [embValC17 v] (embStC17 m s)
    = match callHook h v s with
      | .ok s' => (.ok .none, embStC17 m s')
      | .error e => (.error (embErr e), embStC17 m s)

/-- `tag_t.__exit__(…)` as the source has it = the model's `exitTag`: outcome *and* state (the restored hook also when the
    previous hook raises), for every application function that is tied to `callHook` on the tag -/
theorem src_Tag_exitC17 (h : Tag_exitC17_available = true) (G : Globals) (call : CallC17) (m : TagId → TagMetaC17) (s : St)
    (t : TagId) (a b c : PVal) (hcall : CallTieC17 m call (.tagRef t)) :
    Tag_exitC17 G call (tagRefC17 t) a b c (embStC17 m s) = embOutC17 m (exitTag t s) := by
  first
  | exact absurd h (by decide)
  | unfold Tag_exitC17
    simp only [PySM.run_bind, PySM.run_pure, heapGet_prevC17, embPrev_eq_hookC17, sysSet_hookC17, sysGet_hookC17, pure_bind,
      bind_assoc]
    have hc := hcall (prevHookC17 (s.tags t).prev) { s with hook := prevHookC17 (s.tags t).prev }
    simp only [embValC17] at hc
    simp only [hc, exitTag, embOutC17]
    cases (s.tags t).prev <;> simp only [prevHookC17] <;> cases callHook _ (Val.tagRef t) _ <;> rfl

theorem isNest_embValC17 (c : Val) : isNestPy (embValC17 c) = valIsNestC17 c := by
  simp only [isNestPy, isInstance_embValC17]
  cases c <;> rfl

theorem flat_leafC17 (c : Val) (h : valIsNestC17 c = false) :
    c.flat.map embValC17 = if isNone (embValC17 c) then [] else [embValC17 c] := by
  cases c <;> first | rfl | exact Bool.noConfusion h

/-- `_flatten_recurse(x, result)` where iterating `x` yields the values `vs`, for any fuel above their nesting depth: `result`
    followed by the model's flattening -/
theorem flatten_recurseC17 (h : util_flatten_recurse_available = true) (G : Globals) (fuel : Nat) :
    ∀ (vs : Vals), valsDepthC17 vs < fuel → ∀ (X : PVal) (acc : List PVal), pyIter X = .ok (embValsC17 vs) →
      util_flatten_recurse G fuel X (.list acc) = .ok (.list (acc ++ vs.flat.map embValC17)) := by
  induction fuel with
  | zero => intro vs hd; omega
  | succ f ih =>
    intro vs hd X acc hX
    rw [flat_toListC17, List.map_flatMap]
    refine flatten_recurse_items h G f embValC17 (fun c => c.flat.map embValC17) vs.toList X acc
      (by rw [hX, embValsC17_toList]) ?nest ?leaf
    case leaf => intro c _ hn; exact flat_leafC17 c (by rwa [isNest_embValC17] at hn)
    case nest =>
      intro c hc hn b
      have hdc := depth_memC17 vs c hc
      cases c with
      | list ys => exact ih ys (by simp only [valDepthC17] at hdc; omega) _ b rfl
      | tuple ys => exact ih ys (by simp only [valDepthC17] at hdc; omega) _ b rfl
      | tagList its =>
        have := ih (Vals.ofList (its.map Item.toVal)) (by rw [depth_ofItemsC17]; simp only [valDepthC17] at hdc; omega)
          (embValC17 (.tagList its)) b (by simp [embValC17, embTagListC17, pyIter, embVals_ofItemsC17])
        rw [this, flat_ofItemsC17]
        rfl
      | _ => rw [isNest_embValC17] at hn; cases hn

/-- `flatten(x)` where iterating `x` yields the values `vs` -/
theorem src_flattenC17 (h : util_flatten_available = true) (hr : util_flatten_recurse_available = true) (G : Globals)
    (vs : Vals) (X : PVal) (hX : pyIter X = .ok (embValsC17 vs)) (fuel : Nat) (hf : valsDepthC17 vs + 1 < fuel) :
    util_flatten G fuel X = .ok (.list (vs.flat.map embValC17)) := by
  first
  | exact absurd h (by decide)
  | obtain ⟨f, rfl⟩ : ∃ f, fuel = f + 1 := ⟨fuel - 1, by omega⟩
    rw [util_flatten]
    simp only [pure_eq_ok, ok_bind, flatten_recurseC17 hr G f vs (by omega) X [] hX, List.nil_append]

/-! ### `_tagchilds_to_tagnodes`: the loop over `enumerate(result)` -/

/-- what the loop does with a value `flatten` can yield: what the model's `nodeOf` says -/
theorem convItem_embValC17 (hn : is_tag_node_available = true) (G : Globals) (a : Val) (hl : valIsLeafC17 a = true) :
    convItem G (embValC17 a) = embRes embItemC17 (nodeOf a) := by
  first
  | exact absurd hn (by decide)
  | unfold convItem is_tag_node
    simp only [isInstance_cons2, isInstance_embValC17, pure_eq_ok, ok_bind, truthy_bool]
    cases a <;> first | exact Bool.noConfusion hl | simp [valClassesC17, embValC17, embItemC17, tagRefC17, nodeOf, embRes, embErr, pyStr]

/-- `_tagchilds_to_tagnodes(x)` where `x` is not a `str` and iterating it yields the values `vs`: flatten, then the loop -/
theorem src_tagchildsC17 (hc : NormCallees) (G : Globals)
    (vs : Vals) (X : PVal) (hX : pyIter X = .ok (embValsC17 vs)) (hs : isInstance X ["str"] = false)
    (fuel : Nat) (hf : valsDepthC17 vs + 2 < fuel) :
    tagchilds_to_tagnodes G fuel X = embRes (fun r => .list (r.map embItemC17)) (toNodes vs.flat) := by
  obtain ⟨f, rfl⟩ : ∃ f, fuel = f + 1 := ⟨fuel - 1, by omega⟩
  rw [tagchilds_of_flatten hc.tagchilds G f X _ hs (src_flattenC17 hc.flatten hc.recurse G vs X hX f (by omega))]
  have key : ∀ L : List Val, (∀ a ∈ L, valIsLeafC17 a = true) →
      (L.map embValC17).mapM (convItem G) = match toNodes L with
        | .ok r => .ok (r.map embItemC17)
        | .error e => .error (embErr e) := by
    intro L hleaf
    induction L with
    | nil => rfl
    | cons a r ih =>
      simp only [List.map_cons, List.mapM_cons, convItem_embValC17 hc.isnode G a (hleaf a (by simp)),
        ih (fun x hx => hleaf x (by simp [hx])), toNodes]
      cases nodeOf a <;> cases toNodes r <;> rfl
  rw [key _ (flat_leavesC17 vs)]
  cases toNodes vs.flat <;> rfl

/-- `self.extend(other)` on a TagList of stored children, `other` not a `str`, iterating it yields `vs` -/
theorem src_TagList_extendC17 (h : TagList_extend_available = true) (hc : NormCallees)
    (G : Globals) (its : List Item) (vs : Vals) (X : PVal) (hX : pyIter X = .ok (embValsC17 vs))
    (hs : isInstance X ["str"] = false) (fuel : Nat) (hf : valsDepthC17 vs + 3 < fuel) :
    TagList_extend G fuel (embTagListC17 its) X
      = embRes (fun new => embTagListC17 (its ++ new)) (toNodes vs.flat) := by
  first
  | exact absurd h (by decide)
  | obtain ⟨f, rfl⟩ : ∃ f, fuel = f + 1 := ⟨fuel - 1, by omega⟩
    rw [TagList_extend]
    simp only [pure_eq_ok, src_tagchildsC17 hc G vs X hX hs f (by omega)]
    cases toNodes vs.flat with
    | error e => rfl
    | ok r => simp [embRes, embTagListC17, userListExtend_tl]

/-- `self.append(v)` on a TagList of stored children = the model's `toItems v` appended -/
theorem src_TagList_appendC17 (h : TagList_append_available = true) (he : TagList_extend_available = true) (hc : NormCallees)
    (G : Globals) (its : List Item) (v : Val) (fuel : Nat) (hf : valDepthC17 v + 4 < fuel) :
    TagList_append G fuel (embTagListC17 its) (embValC17 v) (.tuple [])
      = embRes (fun new => embTagListC17 (its ++ new)) (toItems v) := by
  first
  | exact absurd h (by decide)
  | obtain ⟨f, rfl⟩ : ∃ f, fuel = f + 1 := ⟨fuel - 1, by omega⟩
    rw [TagList_append]
    have key := src_TagList_extendC17 he hc G its (.cons v .nil) (.list [embValC17 v]) rfl rfl f
      (by simp only [valsDepthC17]; omega)
    simp only [Vals.flat, List.append_nil] at key
    simp only [pure_eq_ok, pyIter_tuple, ok_bind, List.singleton_append, key, toItems, bind_ok_self]

theorem src_Tag_appendC17 (h : Tag_appendC17_available = true) (G : Globals) (fuel : Nat) (m : TagMetaC17) (ts : TagSt) (v : Val)
    (hA : ∀ its, TagList_append G fuel (embTagListC17 its) (embValC17 v) (.tuple [])
            = embRes (fun new => embTagListC17 (its ++ new)) (toItems v)) :
    Tag_appendC17 G (fuel + 1) (embTagC17 m ts) (.tuple [embValC17 v])
      = embRes (fun new => embTagC17 m { ts with children := ts.children ++ new }) (toItems v) := by
  first
  | exact absurd h (by decide)
  | rw [Tag_appendC17]
    have hg : pyGetAttr (embTagC17 m ts) "children" = .ok (embTagListC17 ts.children) := by
      simp [embTagC17, pyGetAttr, fieldGet?]
    simp only [pure_eq_ok, hg, ok_bind, pyStarSplit1C17, hA]
    cases toItems v with
    | error e => rfl
    | ok new => simp [embRes, embTagC17, pySetAttr, fieldSet]

/-- the generated `applyCallableC17` does what the model's `callHook` does, given the tie for `TagList.append` on the value
    the wrapper hands on -/
theorem src_applyCallable_stepC17 (ha : Tag_appendC17_available = true) (hw : handler_wrapperC17_available = true)
    (G : Globals) (fuel : Nat) (m : TagId → TagMetaC17) (v : Val)
    (hA : ∀ v', wrapFilter v = some v' → ∀ its, TagList_append G fuel (embTagListC17 its) (embValC17 v') (.tuple [])
            = embRes (fun new => embTagListC17 (its ++ new)) (toItems v')) :
    CallTieC17 m (applyCallableC17 G (fuel + 3)) v := by
  first
  | exact absurd ha (by decide)
  | exact absurd hw (by decide)
  | skip
  all_goals (
    intro hk s
    cases hk with
    | outer =>
      simp only [embStC17, callHook, List.map_append, List.map_cons, List.map_nil]
      rfl
    | unset => rfl
    | wrap t =>
      -- the closure runs the translated inner function with the bound method `tag_t.append` as the handler …
      have hwrap : applyCallableC17 G (fuel + 3) (embHookC17 (.wrap t)) [embValC17 v]
          = handler_wrapperC17 G (applyCallableC17 G (fuel + 2)) (appendOfC17 t) (embValC17 v) := rfl
      rw [hwrap, src_handler_wrapperC17 hw]
      simp only [callHook]
      cases hwf : wrapFilter v with
      | none => rfl
      | some v' =>
        -- … and the bound method runs the translated `Tag.append` on the heap object of the tag
        have hmeth : applyCallableC17 G (fuel + 2) (appendOfC17 t) [embValC17 v']
            = heapUpdateByC17 (tagRefC17 t) (fun o => Tag_appendC17 G (fuel + 1) o (.tuple [embValC17 v'])) := rfl
        have hh : (embStC17 m s).heap t = embTagC17 (m t) (s.tags t) := rfl
        simp only [handOnC17, PySM.run_bind, hmeth, heapUpdateByC17, refId_tagRefC17, hh,
          src_Tag_appendC17 ha G fuel (m t) (s.tags t) v' (hA v' hwf)]
        cases toItems v' with
        | error e => rfl
        | ok new =>
          simp only [embRes, PySM.run_pure]
          rw [embSt_addChildrenC17])

theorem wrapFilter_depthC17 (v v' : Val) (h : wrapFilter v = some v') : valDepthC17 v' ≤ valDepthC17 v := by
  cases v <;> simp [wrapFilter] at h <;> subst h <;> simp [valDepthC17]

/-- applying what sits in `sys.displayhook` to a displayed value = the model's `callHook`: for every hook (the recorder, the
    wrapper installed by any tag's `__enter__`, `None`), every value, every state; any fuel above the nesting depth + 8 -/
theorem src_applyCallableC17 (ha : Tag_appendC17_available = true) (hw : handler_wrapperC17_available = true)
    (hta : TagList_append_available = true) (he : TagList_extend_available = true) (hc : NormCallees)
    (G : Globals) (m : TagId → TagMetaC17) (v : Val) (fuel : Nat) (hf : valDepthC17 v + 8 ≤ fuel) :
    CallTieC17 m (applyCallableC17 G fuel) v := by
  obtain ⟨f, rfl⟩ : ∃ f, fuel = f + 3 := ⟨fuel - 3, by omega⟩
  refine src_applyCallable_stepC17 ha hw G f m v ?_
  intro v' hv its
  have := wrapFilter_depthC17 v v' hv
  exact src_TagList_appendC17 hta he hc G its v' f (by omega)

/-- `tag_t.__exit__(…)` with function values applied by the generated `applyCallableC17` = the model's `exitTag`, outcome and
    state, on every state -/
theorem src_Tag_exit_applyC17 (h : Tag_exitC17_available = true) (ha : Tag_appendC17_available = true)
    (hw : handler_wrapperC17_available = true)
    (hta : TagList_append_available = true) (he : TagList_extend_available = true)
    (ht : tagchilds_to_tagnodes_available = true) (hf' : util_flatten_available = true)
    (hr' : util_flatten_recurse_available = true) (hn : is_tag_node_available = true)
    (G : Globals) (m : TagId → TagMetaC17) (s : St) (t : TagId) (a b c : PVal) (fuel : Nat) (hf : 8 ≤ fuel) :
    Tag_exitC17 G (applyCallableC17 G fuel) (tagRefC17 t) a b c (embStC17 m s) = embOutC17 m (exitTag t s) :=
  src_Tag_exitC17 h G _ m s t a b c
    (src_applyCallableC17 ha hw hta he ⟨ht, hf', hr', hn⟩ G m (.tagRef t) fuel (by simpa [valDepthC17] using hf))

/-- the statement `sys.displayhook(v)` (what the REPL / the recorder's caller does with a value) with the generated application
    function = the model's `display v`, outcome and state -/
theorem src_display_stmtC17 (ha : Tag_appendC17_available = true) (hw : handler_wrapperC17_available = true)
    (hta : TagList_append_available = true) (he : TagList_extend_available = true)
    (ht : tagchilds_to_tagnodes_available = true) (hf' : util_flatten_available = true)
    (hr' : util_flatten_recurse_available = true) (hn : is_tag_node_available = true)
    (G : Globals) (m : TagId → TagMetaC17) (s : St) (v : Val) (fuel : Nat) (hf : valDepthC17 v + 8 ≤ fuel) :
    applyCallableC17 G fuel (embStC17 m s).displayhook [embValC17 v] (embStC17 m s)
      = embOutC17 m ((Prog.display v).exec s) := by
  have := src_applyCallableC17 ha hw hta he ⟨ht, hf', hr', hn⟩ G m v fuel hf s.hook s
  show applyCallableC17 G fuel (embHookC17 s.hook) [embValC17 v] (embStC17 m s) = _
  rw [this]
  simp only [Prog.exec, embOutC17]
  cases callHook s.hook v s <;> rfl

end HtmlVerif.SrcTie
