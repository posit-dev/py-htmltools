/-
Source tie (DESIGN §14) for the renderer on the embedding `embT` and the globals of the C11 tie: `HTMLDocument.render` /
`Tag.render` call `tagify`, `get_dependencies` (tied on `embT`) and `get_html_string` on the same objects.  Instances of
`render_depth` (Props/SrcRender.lean); used by `src_Tag_renderC11` / `src_HTMLDocument_renderC11` (Props/SrcC11.lean).
-/
import HtmlVerif.Generated.Src
import HtmlVerif.Lemmas.SrcC11
import HtmlVerif.Props.SrcRender

namespace HtmlVerif.SrcTie
open HtmlVerif HtmlVerif.Py HtmlVerif.Generated.Src

theorem globalsC11_void (cfg : Cfg) (af : PVal → PVal → PVal → PyM PVal) : (globalsC11 cfg af).VOID_TAG_NAMES = cfg.void := rfl
theorem globalsC11_noesc (cfg : Cfg) (af : PVal → PVal → PVal → PyM PVal) : (globalsC11 cfg af).NO_ESCAPE_TAG_NAMES = cfg.noesc := rfl

/-- `Tag.get_html_string(indent, eol)` as the source has it = `Node.render` (RuntimeError iff an un-expanded tagifiable
    object that is not self-rendering is reached), for every tag tree, every indent and every eol -/
theorem src_render_tagC11 (h1 : Tag_get_html_string_available = true) (h2 : TagList_get_html_string_available = true)
    (hn : normalize_text_available = true) (he : html_escape_available = true) (hs : HTML_as_string_available = true)
    (cfg : Cfg) (af : PVal → PVal → PVal → PyM PVal) (tv : Node → PVal) (ht : keysPlain cfg.textTbl = true) (ha : keysPlain cfg.attrTbl = true)
    (t : Node) (htag : t.isTag = true) (fuel : Nat) (hf : 2 * nodeDepth t ≤ fuel) (i : Nat) (eol : Str) :
    Tag_get_html_string (globalsC11 cfg af) fuel (embT tv t) (.int i) (.str eol)
      = if t.hasTobj then .error .runtimeError else .ok (.str (t.render cfg i eol)) := by
  exact (render_depth h1 h2 _ cfg (renderGlobals_of_tables hn he hs _ cfg rfl rfl rfl rfl ht ha) _ (renderEmb_embT tv) _).1
    t htag (Nat.le_refl _) fuel hf i eol

/-- `TagList.get_html_string(indent, eol, add_ws=, _escape_strings=)` as the source has it = `renderList` -/
theorem src_render_listC11 (h1 : Tag_get_html_string_available = true) (h2 : TagList_get_html_string_available = true)
    (hn : normalize_text_available = true) (he : html_escape_available = true) (hs : HTML_as_string_available = true)
    (cfg : Cfg) (af : PVal → PVal → PVal → PyM PVal) (tv : Node → PVal) (ht : keysPlain cfg.textTbl = true) (ha : keysPlain cfg.attrTbl = true)
    (ks : Nodes) (fuel : Nat) (hf : 2 * kidsDepth ks + 1 ≤ fuel) (i : Nat) (eol : Str) (aw esc : Bool) :
    TagList_get_html_string (globalsC11 cfg af) fuel (.obj "TagList" [("data", .list (embTs tv ks))]) (.int i) (.str eol)
      (.bool aw) (.bool esc)
      = if ks.hasTobjKids then .error .runtimeError else .ok (.str (renderList cfg ks i eol aw esc)) := by
  rw [embTs_toList]
  exact (render_depth h1 h2 _ cfg (renderGlobals_of_tables hn he hs _ cfg rfl rfl rfl rfl ht ha) _ (renderEmb_embT tv) _).2
    ks (Nat.le_refl _) fuel hf i eol aw esc

end HtmlVerif.SrcTie
