/-
C09 — Tagifiable objects render as their expansion, spliced in place.

Model: `Model/Tagify.lean`.  (a) `Node.expand` / `Nodes.expandAll` is the forward specification
(a returned TagList is spliced into the sibling list in order, possibly empty; any other result takes
the object's place; tags recurse; metadata is kept).  (b) `tagifyLoop` is `TagList.tagify` as written:
a working copy, the index counting down, slice assignment `cp[i:i+1] = …` or item assignment.

`HTMLDocument.render()` (third observation point of the property) builds its tree from
`content.tagify()` and is the subject of C11; its corollary for tagifiable content is stated there
over `expandAll`.  Everything here is about `TagList.tagify/render` and `Tag.tagify/render`.
-/
import HtmlVerif.Lemmas.Tagify

namespace HtmlVerif.C09
open HtmlVerif HtmlVerif.Tagify

/-! ### the algorithm computes the specification -/

/-- **Loop invariant of `TagList.tagify`**, for *any* behaviour `r` of the children's `tagify()`
    (compliant with the protocol or not).  With `orig` the copied list: once the iterations with
    indices `≥ i` are done the working copy is `take i orig ++ (expansion of drop i orig)`; i.e. running
    the whole loop from `orig` is the same as running the remaining `i` iterations from that state.
    The elements at indices `< i` are still the original ones although the list has changed length. -/
theorem C09_loop_invariant (r : Node → TagifyResult) (orig : List Node) (i : Nat) (hi : i ≤ orig.length) :
    tagifyLoop r orig orig.length
      = tagifyLoop r (orig.take i ++ (orig.drop i).flatMap (stepSpec r)) i := by
  rw [tagifyLoop_all, tagifyLoop_spec r i (orig.take i) _ (List.length_take_of_le hi), ← List.flatMap_append,
    List.take_append_drop]

/-- backwards iteration with slice assignment = one forward pass: whatever the children return,
    the result is the left-to-right concatenation of what each child contributes -/
theorem C09_loop_is_forward (r : Node → TagifyResult) (orig : List Node) :
    tagifyLoop r orig orig.length = orig.flatMap (stepSpec r) :=
  tagifyLoop_all r orig

theorem loop_is_expandAll (f : Nat) (ks : Nodes) (hf : ks.tdepthKids ≤ f)
    (h : ∀ c : Node, c.tdepth ≤ f → stepSpec (tagifyFuel f) c = c.expand.toList) :
    tagifyLoop (tagifyFuel f) ks.toList ks.length = ks.expandAll.toList := by
  rw [Nodes.length_eq, tagifyLoop_all, Nodes.toList_expandAll]
  exact flatMap_congr_mem fun c hc => h c (Nat.le_trans (Nodes.tdepth_le_of_mem hc) hf)

/-- with enough fuel for the nested `tagify()` calls, what a child contributes is its expansion -/
theorem C09_child_is_spec (f : Nat) (n : Node) (h : n.tdepth ≤ f) :
    stepSpec (tagifyFuel f) n = n.expand.toList := by
  induction f generalizing n with
  | zero =>
    have ht : n.isTagifiable = false := by cases n <;> first | rfl | cases h
    rw [stepSpec, ht, Node.expand_of_not_tagifiable ht]
    rfl
  | succ f ih =>
    cases n with
    | tag nm w a c | tobjL rh c =>
      simp [stepSpec, tagifyFuel, loop_is_expandAll f c (Nat.le_of_succ_le_succ h) ih, Node.expand, TagifyResult.splice]
    | tobj1 rh c =>
      rw [Node.expand, ← ih c (Nat.le_of_succ_le_succ h)]
      simp only [stepSpec, tagifyFuel, Node.isTagifiable_tobj1, if_true]
      cases c.isTagifiable <;> rfl
    | _ => rfl

/-- **`TagList.tagify` ≡ forward splice.** -/
theorem C09_tagify_is_spec (ks : Nodes) : tagifyNodes ks = ks.expandAll := by
  apply Nodes.toList_inj
  rw [tagifyNodes, Nodes.toList_ofList]
  exact loop_is_expandAll _ ks (Nat.le_refl _) (C09_child_is_spec _)

/-- `Tag.tagify`: same tag, children replaced by their expansion -/
theorem C09_tagify_tag (n : Str) (w : Bool) (a : Attrs) (kids : Nodes) :
    tagifyTag (.tag n w a kids) = .tag n w a kids.expandAll := by
  simp [tagifyTag, C09_tagify_is_spec]

/-! ### "spliced in place", spelled out on the specification -/

theorem expandAll_at (pre post : Nodes) (x : Node) :
    (pre ++ Nodes.cons x post).expandAll = pre.expandAll ++ (x.expand ++ post.expandAll) := by
  rw [Nodes.expandAll_append, Nodes.expandAll]

/-- a list-kind object anywhere in a sibling list is replaced by its expanded content, in order,
    between the expansions of what precedes and what follows it (content may be empty) -/
theorem C09_splice_in_place (pre post c : Nodes) (rh : Option Str) :
    (pre ++ Nodes.cons (.tobjL rh c) post).expandAll = pre.expandAll ++ (c.expandAll ++ post.expandAll) :=
  expandAll_at pre post _

/-- an object whose result is a single node (here: a tag) has that node, expanded, in its place -/
theorem C09_single_in_place (pre post : Nodes) (rh : Option Str) (n : Str) (w : Bool) (a : Attrs) (k : Nodes) :
    (pre ++ Nodes.cons (.tobj1 rh (.tag n w a k)) post).expandAll
      = pre.expandAll ++ Nodes.cons (.tag n w a k.expandAll) post.expandAll :=
  expandAll_at pre post _

/-- … a str / HTML / dependency result likewise -/
theorem C09_leaf_in_place (pre post : Nodes) (rh : Option Str) (x : Node) (hx : x.isTagifiable = false) :
    (pre ++ Nodes.cons (.tobj1 rh x) post).expandAll = pre.expandAll ++ Nodes.cons x post.expandAll := by
  rw [expandAll_at, Node.expand, Node.expand_of_not_tagifiable hx]
  rfl

/-! ### nothing un-expanded is left -/

mutual
  theorem C09_expand_tagified (n : Node) : n.expand.tagifiedKids = true := by
    cases n with
    | tag nm w a kids => simp [Node.expand, Nodes.tagifiedKids, Node.tagified, C09_expandAll_tagified kids]
    | tobjL rh c => exact C09_expandAll_tagified c
    | tobj1 rh c => exact C09_expand_tagified c
    | _ => rfl
  /-- the expansion is fully tagified: no tagifiable object remains below any tag -/
  theorem C09_expandAll_tagified (ks : Nodes) : ks.expandAll.tagifiedKids = true := by
    cases ks with
    | nil => rfl
    | cons h t =>
      simp [Nodes.expandAll, Nodes.tagifiedKids_append, C09_expand_tagified h, C09_expandAll_tagified t]
end

mutual
  theorem C09_tagified_no_tobj_tag (n : Node) (h : n.tagified = true) : n.hasTobj = false := by
    cases n with
    | tag nm w a kids =>
      rw [Node.hasTobj, C09_tagified_no_tobj kids h]
      split
      · rfl
      · split <;> rfl
    | _ => rfl
  /-- a fully tagified tree has no object the renderer would stumble over -/
  theorem C09_tagified_no_tobj (ks : Nodes) (h : ks.tagifiedKids = true) : ks.hasTobjKids = false := by
    cases ks with
    | nil => simp [Nodes.hasTobjKids]
    | cons a t =>
      simp only [Nodes.tagifiedKids, Bool.and_eq_true] at h
      have ht := C09_tagified_no_tobj t h.2
      cases a with
      | tag nm w a kids => simpa [Nodes.hasTobjKids, ht] using C09_tagified_no_tobj_tag _ h.1
      | tobjL rh c | tobj1 rh c => cases h.1
      | _ => simpa [Nodes.hasTobjKids] using ht
end

/-- **after expansion the renderer reaches no un-expanded object.**  The protocol guard ("each
    object's `tagify()` returns a fully tagified value") is satisfied by construction by the objects of
    the tree type — `tobjL` / `tobj1` call `tagify()` on their content, as `adapters.TObjL/TObj1` and
    the suite's `Foo` do; `C09_no_tobj_protocol` below is the statement with the guard explicit. -/
theorem C09_no_tobj (ks : Nodes) : ks.expandAll.hasTobjKids = false :=
  C09_tagified_no_tobj _ (C09_expandAll_tagified ks)

/-- the same for the literal loop and *arbitrary* child behaviour `r`, under the explicit guard that
    every child's `tagify()` returns fully tagified values: the result is fully tagified -/
theorem C09_no_tobj_protocol (r : Node → TagifyResult) (cp : List Node)
    (guard : ∀ c ∈ cp, c.isTagifiable = true → (r c).splice.all Node.tagified = true) :
    (tagifyLoop r cp cp.length).all Node.tagified = true := by
  rw [tagifyLoop_all]
  simp only [List.all_flatMap, List.all_eq_true]
  intro c hc
  cases ht : c.isTagifiable with
  | true => simpa [stepSpec, ht] using guard c hc ht
  | false => simp [stepSpec, ht, Node.tagified_of_not_tagifiable ht]

/-- the guard is met by the objects of the tree type (with enough fuel for the nested calls) -/
theorem C09_protocol_guard_met (f : Nat) (c : Node) (h : c.tdepth ≤ f) (ht : c.isTagifiable = true) :
    (tagifyFuel f c).splice.all Node.tagified = true := by
  have hs := C09_child_is_spec f c h
  simp only [stepSpec, ht, if_true] at hs
  rw [hs, ← Nodes.tagifiedKids_iff_all]
  exact C09_expand_tagified c

/-- negative twin of the guard: an object that breaks the protocol (its `tagify()` returns a list
    that still holds an object) leaves that object in the result — the guard is needed -/
theorem C09_protocol_guard_needed :
    (tagifyLoop (fun _ => .taglist [.tobjL none .nil]) [.tobjL none .nil] 1).all Node.tagified = false := by
  decide

/-! ### tagify is idempotent; a tagified tree is a fixed point -/

mutual
  theorem C09_tagified_fixed_node (n : Node) (h : n.tagified = true) : n.expand = .cons n .nil := by
    cases n with
    | tag nm w a kids => rw [Node.expand, C09_tagified_fixed kids h]
    | tobjL rh c | tobj1 rh c => cases h
    | _ => rfl
  /-- expanding a tree without objects changes nothing -/
  theorem C09_tagified_fixed (ks : Nodes) (h : ks.tagifiedKids = true) : ks.expandAll = ks := by
    cases ks with
    | nil => rfl
    | cons a t =>
      simp only [Nodes.tagifiedKids, Bool.and_eq_true] at h
      rw [Nodes.expandAll, C09_tagified_fixed_node a h.1, C09_tagified_fixed t h.2]
      rfl
end

theorem C09_idempotent (ks : Nodes) : ks.expandAll.expandAll = ks.expandAll :=
  C09_tagified_fixed _ (C09_expandAll_tagified ks)

theorem C09_idempotent_node (n : Node) : n.expand.expandAll = n.expand :=
  C09_tagified_fixed _ (C09_expand_tagified n)

/-- … and so is the algorithm -/
theorem C09_tagify_idempotent (ks : Nodes) : tagifyNodes (tagifyNodes ks) = tagifyNodes ks := by
  simp [C09_tagify_is_spec, C09_idempotent]

/-! ### render() -/

/-- **`TagList.render()`**: never raises; the markup is that of the expanded tree (default indent,
    eol, add_ws); the reported dependencies are those of the expanded tree, in document order, resolved -/
theorem C09_render (cfg : Cfg) (ks : Nodes) :
    (renderOfList cfg ks).html = .ok (renderList cfg ks.expandAll 0 ['\n'] true true) ∧
    (renderOfList cfg ks).deps = resolveDeps (collectDepsKids ks.expandAll) := by
  simp [renderOfList, C09_tagify_is_spec, renderListChecked, C09_no_tobj]

/-- **`Tag.render()`** -/
theorem C09_render_tag (cfg : Cfg) (n : Str) (w : Bool) (a : Attrs) (kids : Nodes) :
    (renderOfTag cfg (.tag n w a kids)).html = .ok ((Node.tag n w a kids.expandAll).render cfg 0 ['\n']) ∧
    (renderOfTag cfg (.tag n w a kids)).deps = resolveDeps (collectDepsKids kids.expandAll) := by
  have h : (Node.tag n w a kids.expandAll).hasTobj = false :=
    C09_tagified_no_tobj_tag _ (C09_expandAll_tagified kids)
  simp [renderOfTag, C09_tagify_tag, renderTagChecked, h, collectDeps]

/-- dependency collection distributes over sibling lists … -/
theorem C09_deps_append (a b : Nodes) :
    collectDepsKids (a ++ b) = collectDepsKids a ++ collectDepsKids b := by
  induction a with
  | nil => rfl
  | cons h t ih => simp [collectDepsKids, ih]

/-- … so the dependencies carried by an expansion are reported at the object's position -/
theorem C09_deps_of_expansion (pre post c : Nodes) (rh : Option Str) :
    collectDepsKids (pre ++ Nodes.cons (.tobjL rh c) post).expandAll
      = collectDepsKids pre.expandAll ++ (collectDepsKids c.expandAll ++ collectDepsKids post.expandAll) := by
  rw [C09_splice_in_place, C09_deps_append, C09_deps_append]

/-! ### asking for markup without tagify -/

/-- `TagList.get_html_string` raises RuntimeError exactly when the child loop reaches an object that
    has `tagify` but no `_repr_html_` (it emits nothing in that case) -/
theorem C09_error (cfg : Cfg) (ks : Nodes) (i : Nat) (e : Str) (aw esc : Bool) :
    renderListChecked cfg ks i e aw esc = .error .runtimeError ↔ ks.hasTobjKids = true := by
  simp [renderListChecked]

theorem C09_error_tag (cfg : Cfg) (n : Node) (i : Nat) (e : Str) :
    renderTagChecked cfg n i e = .error .runtimeError ↔ n.hasTobj = true := by
  simp [renderTagChecked]

/-- otherwise it is the rendering (a self-rendering object contributes its `_repr_html_()`) -/
theorem C09_no_error (cfg : Cfg) (ks : Nodes) (i : Nat) (e : Str) (aw esc : Bool) (h : ks.hasTobjKids = false) :
    renderListChecked cfg ks i e aw esc = .ok (renderList cfg ks i e aw esc) := by
  simp [renderListChecked, h]

/-- an un-expanded list-kind object without `_repr_html_`, at any position directly in the list, is an error -/
theorem C09_error_at (pre post c : Nodes) :
    (pre ++ Nodes.cons (.tobjL none c) post).hasTobjKids = true := by
  induction pre with
  | nil => rfl
  | cons h t ih => simp [Nodes.hasTobjKids, ih]

/-! ### non-vacuity -/

/-- adjacent objects, first and last position, empty next to non-empty, object inside an object,
    object under a tag inside an object, a dependency carried by an expansion -/
def exampleTree : Nodes :=
  .cons (.tobjL none .nil) <|
  .cons (.tobjL none (.cons (.text ['a']) (.cons (.tobjL (some ['r']) (.cons (.text ['b']) .nil)) .nil))) <|
  .cons (.text ['c']) <|
  .cons (.tobj1 none (.tag ['d'] true [] (.cons (.tobj1 none (.mnode 3)) (.cons (.tobjL none .nil) .nil)))) <|
  .cons (.tobj1 none (.tobjL none (.cons (.html ['h']) (.cons (.robj ['o']) .nil)))) .nil

example : (tagifyNodes exampleTree).beq
    (.cons (.text ['a']) <| .cons (.text ['b']) <| .cons (.text ['c']) <|
     .cons (.tag ['d'] true [] (.cons (.mnode 3) .nil)) <| .cons (.html ['h']) <| .cons (.robj ['o']) .nil) = true := by
  decide

example : exampleTree.hasTobjKids = true ∧ exampleTree.expandAll.hasTobjKids = false := by decide

end HtmlVerif.C09
