/-
C01 — Rendered markup parses back to the same element tree.

The specification tokenizer / tree builder / normaliser (Spec/Html.lean) is independent of the renderer.
For every ordinary tag tree, every indent and every whitespace-only eol, the rendered string
tokenizes, builds and normalises to exactly `[expected t]`: same names, same nesting, end tag or (void
and childless) one self-closed tag, same attribute names in stored order with values that decode to
the stored values, each text run = concatenation of the adjacent text leaves up to whitespace at its ends.

Proof in three layers (Lemmas/Html*.lean):
  1. pieces → tokens, `serialize (toksOf cfg (t.pieces ..)) = t.render ..`  (HtmlTree `serialize_toksOf`, `render_eq_pieces`)
  2. renderer-free `tokenize (serialize ts) = some (mergeText ts)`          (HtmlTokenize)
  3. `build`, `normalise` on the tokens of a tree give `expected`           (HtmlBuild, HtmlExpected)
The escape tables enter only through `TextTblOk` / `AttrTblOk` (Spec/HtmlTbl.lean), which are proved here
on the tables generated from the source (Generated/Tables.lean).
-/
import HtmlVerif.Lemmas.HtmlExpected
import HtmlVerif.Generated.Tables

namespace HtmlVerif.C01
open HtmlVerif

/-! ### table side conditions, checked by the kernel on the generated tables -/

def voidCatalogue : List Str :=
  ["area", "base", "br", "col", "command", "embed", "hr", "img", "input", "keygen", "link", "meta",
   "param", "source", "track", "wbr"].map String.toList

/-- `_VOID_TAG_NAMES` is exactly the 16 catalogue names -/
theorem C01_void_names :
    Generated.voidNames.length = 16 ∧ (∀ n ∈ Generated.voidNames, n ∈ voidCatalogue)
      ∧ (∀ n ∈ voidCatalogue, n ∈ Generated.voidNames) := by
  decide +kernel

/-- `HTML_ESCAPE_TABLE`: later passes never touch earlier output, every replacement is a reference that
    decodes to its key, `&` and `<` are keys, no replacement contains `<` -/
theorem C01_text_table_ok : TextTblOk Generated.textTbl := by decide +kernel

/-- `HTML_ATTRS_ESCAPE_TABLE`: the same with `"` as the character that would end the context -/
theorem C01_attr_table_ok : AttrTblOk Generated.attrTbl := by decide +kernel

/-- sequential `str.replace` passes = the per-character map (text table shape) -/
theorem C01_escape_as_written_text (tbl : List (Char × Str)) (h : TextTblOk tbl) (s : Str) :
    htmlEscapeT tbl s = s.flatMap (escCharT tbl) :=
  htmlEscapeT_perChar tbl (tblOk_seq h) s

/-- sequential `str.replace` passes = the per-character map (attribute table shape) -/
theorem C01_escape_as_written_attr (tbl : List (Char × Str)) (h : AttrTblOk tbl) (s : Str) :
    htmlEscapeT tbl s = s.flatMap (escCharT tbl) :=
  htmlEscapeT_perChar tbl (tblOk_seq h) s

/-- escaped text contains no `<` and decodes to the original -/
theorem C01_text_inert_decodes (tbl : List (Char × Str)) (h : TextTblOk tbl) (s : Str) :
    '<' ∉ htmlEscapeT tbl s ∧ decodeRefs (htmlEscapeT tbl s) = s :=
  ⟨esc_inert h s, esc_decodes_self h s⟩

/-- an escaped attribute value contains no `"` and decodes to the original -/
theorem C01_attr_inert_decodes (tbl : List (Char × Str)) (h : AttrTblOk tbl) (s : Str) :
    '"' ∉ htmlEscapeT tbl s ∧ decodeRefs (htmlEscapeT tbl s) = s :=
  ⟨esc_inert h s, esc_decodes_self h s⟩

/-- Layer 2 on its own (no renderer): the spec tokenizer inverts serialisation of well-formed tokens -/
theorem C01_tokenizer_inverts_serialize (ts : List Tok) (hok : ∀ t ∈ ts, t.ok = true) :
    tokenize (serialize ts) = some (mergeText ts) :=
  tokenize_serialize ts hok

/-! ### the property -/

theorem C01_tag (cfg : Cfg) (h1 : TextTblOk cfg.textTbl) (h2 : AttrTblOk cfg.attrTbl)
    (t : Node) (i : Nat) (eol : Str) (ho : Ordinary cfg t) (he : wsOnly eol = true) :
    ((tokenize (t.render cfg i eol)).bind build).map normalise = some [expected cfg.void t] := by
  rw [← render_eq_pieces, parse_pieces cfg h1 h2 _ (pieces_ok cfg t i eol ho.2 he)]
  have := buildN_tag cfg h1 h2 t ho.1 ho.2 i eol he [] [] [] []
  rw [List.append_nil] at this
  simp [this, buildN, flushN_nil, expected]

theorem C01_list (cfg : Cfg) (h1 : TextTblOk cfg.textTbl) (h2 : AttrTblOk cfg.attrTbl)
    (ks : Nodes) (i : Nat) (eol : Str) (aw : Bool) (ho : ks.ordinaryKids cfg.noesc = true)
    (he : wsOnly eol = true) :
    ((tokenize (renderList cfg ks i eol aw true)).bind build).map normalise
      = some (expectedKids cfg.void ks) := by
  unfold renderList
  rw [← renderKids_eq_pieces, parse_pieces cfg h1 h2 _ (kids_ok cfg ks i eol true aw ho he)]
  have := buildN_kids cfg h1 h2 ks ho i eol he true aw [] [] (fun _ => rfl) [] []
  rw [List.append_nil] at this
  simp [this, buildN, flushN_expStep, expectedKids]

/-- the tables generated from the source; `C01_tag_now` / `C01_list_now` are the property at them -/
def cfgNow : Cfg :=
  { void := Generated.voidNames, noesc := Generated.noescNames,
    textTbl := Generated.textTbl, attrTbl := Generated.attrTbl }

theorem C01_tag_now (t : Node) (i : Nat) (eol : Str) (ho : Ordinary cfgNow t) (he : wsOnly eol = true) :
    ((tokenize (t.render cfgNow i eol)).bind build).map normalise = some [expected cfgNow.void t] :=
  C01_tag cfgNow C01_text_table_ok C01_attr_table_ok t i eol ho he

theorem C01_list_now (ks : Nodes) (i : Nat) (eol : Str) (aw : Bool)
    (ho : ks.ordinaryKids cfgNow.noesc = true) (he : wsOnly eol = true) :
    ((tokenize (renderList cfgNow ks i eol aw true)).bind build).map normalise
      = some (expectedKids cfgNow.void ks) :=
  C01_list cfgNow C01_text_table_ok C01_attr_table_ok ks i eol aw ho he

/-! ### non-vacuity -/

/-- `div(class_='a"b', br(), " x ", "<&>", meta, span("y"))`: void child, metacharacters, adjacent text
    leaves, metadata, attribute that needs escaping -/
def sample : Node :=
  .tag "div".toList true [("class".toList, .plain "a\"b".toList)]
    (.cons (.tag "br".toList false [] .nil) (.cons (.text " x ".toList) (.cons (.text "<&>".toList)
      (.cons (.mnode 0) (.cons (.tag "span".toList false [] (.cons (.text "y".toList) .nil)) .nil)))))

example : Ordinary cfgNow sample ∧ wsOnly "\r\n".toList = true := by decide +kernel

example : (expected cfgNow.void sample).beq
    (.elem "div".toList [("class".toList, "a\"b".toList)] false
      [.elem "br".toList [] true [], .text "x <&>".toList, .elem "span".toList [] false [.text "y".toList]])
    = true := by
  decide +kernel

/-- and the statement itself evaluated on the sample (model output) -/
example : (parseHtml (sample.render cfgNow 1 "\r\n".toList)).map (PTree.beqList · [expected cfgNow.void sample])
    = some true := by
  decide +kernel

end HtmlVerif.C01
