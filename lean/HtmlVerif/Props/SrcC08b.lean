/-
Source tie (DESIGN §14) for C08b: the Lean functions that `harness/pytranslate.py` (plug-ins harness/pytr_c08b.py,
pytr_z08b.py) regenerates from the *text* of

  HTML.__init__ / __str__ / __repr__ / _repr_html_, HTMLDependency.__repr__ / __str__,
  Tag.__copy__, HTMLDocument.__copy__, _copy_tag_nodes, HTMLDependency.__copy__

compute what the model says (Model/Ident.lean: `icopyShallow`, `icopy`, `icopyAll`; the HTML value `Node.html s`).

**By value.**  `HTML(x)` is `UserString(str(x))` (`src_HTML_init_C08b` = the primitive `mkHTML` every other translation uses for the
constructor call); `str(h)`, `repr(h)`, `h._repr_html_()` are the text (`src_HTML_views_C08b` = the primitives `pyStr` / `pyReprHtml`
on an `HTML`); `repr(dep)` is `depReprTextC08b` (a specification function of Lemmas/SrcC08b.lean — the model has none).
The copy functions return an object of the same class with the same fields in the same order and the same values
(`src_Tag_copy_obj_C08b`, for *any* instance; `src_copy_tag_nodes_C08b`, `src_HTMLDependency_copy_C08b` for every tree) — this is all a
universe of values without identity can say: the structural half of C08 (`C08_tagify_refines`, `icopy_erase`).

**With identity.**  The same source text translated over a heap of objects (Py/PrimC08b.lean): `Tag.__copy__`
appends exactly the three objects of the model's `icopyShallow` at the counter `heap.length` (`src_Tag_copy_heap_C08b`,
`src_Tag_copy_ident_C08b`, `src_Tag_copy_fresh_C08b`), `HTMLDocument.__copy__` three objects likewise
(`src_HTMLDocument_copy_heap_C08b`); `_copy_tag_nodes` is the
model's `icopyAll` for trees without dependencies and without un-expanded tagifiable objects
(`src_copy_tag_nodes_heap_C08b_partial` / `src_copy_tag_nodes_fresh_C08b_partial`; what is missing for those is said at the theorem).
`HTMLDependency.__copy__` over the heap is translated and validated against the interpreter (op `srcc08b`: the object graphs
agree) but tied by value only.

Every theorem about a regenerated function takes `<fn>_available = true` and is vacuous (the `exact absurd h (by decide)`
alternative of the opening `first`) when the function has left the translatable fragment.
-/
import HtmlVerif.Generated.Src
import HtmlVerif.Lemmas.SrcC08b
import HtmlVerif.Lemmas.Ident
import HtmlVerif.Model.ReadOps
import HtmlVerif.Lemmas.ReadOps

set_option linter.unusedSimpArgs false
set_option linter.unusedVariables false

namespace HtmlVerif.SrcTie
open HtmlVerif HtmlVerif.Py HtmlVerif.Generated.Src HtmlVerif.Ident

/-- `HTML.__init__(self, html)` on a new instance (`HTML.__new__(HTML)`) as the source has it is `UserString(str(html))`: the
    primitive `mkHTML` the other translations use for `HTML(x)` — every `x`, errors of `str(x)` included -/
theorem src_HTML_init_C08b (h : HTML_initC08b_available = true) (G : Globals) (x : PVal) :
    HTML_initC08b G (.obj "HTML" []) x = mkHTML x := by
  first
  | exact absurd h (by decide)
  | (unfold HTML_initC08b mkHTML
     cases hx : pyStr x with
     | error e => rfl
     | ok v =>
       obtain ⟨s, rfl⟩ := pyStr_ok_str_C08b x v hx
       rfl)

theorem src_HTML_init_again_C08b (h : HTML_initC08b_available = true) (G : Globals) (t : Str) (x : PVal) :
    HTML_initC08b G (.html t) x = mkHTML x := by
  first
  | exact absurd h (by decide)
  | exact (show _ = HTML_initC08b G (.obj "HTML" []) x by unfold HTML_initC08b; rfl).trans (src_HTML_init_C08b h G x)

def hvalTextC08b : HVal → Str
  | .plain s => s
  | .html s => s
  | .ob s => s

/-- `HTML(v)` for the model's values (a `str`, an `HTML`, an object whose `str()` is `s`): the HTML value with that text,
    verbatim — no escaping happens at construction (C04) -/
theorem src_HTML_init_model_C08b (h : HTML_initC08b_available = true) (G : Globals) (v : HVal) :
    HTML_initC08b G (.obj "HTML" []) (embH v) = .ok (embH (.html (hvalTextC08b v))) := by
  first
  | exact absurd h (by decide)
  | (rw [src_HTML_init_C08b h]
     cases v <;> rfl)

theorem src_HTML_str_C08b (h : HTML_strC08b_available = true) (h2 : HTML_as_string_available = true) (G : Globals) (s : Str) :
    HTML_strC08b G (.html s) = .ok (.str s) := by
  first
  | exact absurd h (by decide)
  | exact absurd h2 (by decide)
  | (unfold HTML_strC08b
     simp [HTML_as_string])

theorem src_HTML_repr_C08b (h : HTML_reprC08b_available = true) (h2 : HTML_as_string_available = true) (G : Globals) (s : Str) :
    HTML_reprC08b G (.html s) = .ok (.str s) := by
  first
  | exact absurd h (by decide)
  | exact absurd h2 (by decide)
  | (unfold HTML_reprC08b
     simp [HTML_as_string])

theorem src_HTML_repr_html_C08b (h : HTML_repr_htmlC08b_available = true) (h2 : HTML_as_string_available = true) (G : Globals)
    (s : Str) : HTML_repr_htmlC08b G (.html s) = .ok (.str s) := by
  first
  | exact absurd h (by decide)
  | exact absurd h2 (by decide)
  | (unfold HTML_repr_htmlC08b
     simp [HTML_as_string])

/-- the three views of an `HTML` as the source has them are the stated semantics of `str(x)` and `x._repr_html_()` on an
    `HTML` (Py/Prim.lean), i.e. the primitives the renderer's translation calls are what the methods do -/
theorem src_HTML_views_C08b (h1 : HTML_strC08b_available = true) (h2 : HTML_reprC08b_available = true)
    (h3 : HTML_repr_htmlC08b_available = true) (h4 : HTML_as_string_available = true) (G : Globals) (s : Str) :
    HTML_strC08b G (.html s) = pyStr (.html s) ∧ HTML_reprC08b G (.html s) = pyStr (.html s)
    ∧ HTML_repr_htmlC08b G (.html s) = pyReprHtml (.html s) :=
  ⟨src_HTML_str_C08b h1 h4 G s, src_HTML_repr_C08b h2 h4 G s, src_HTML_repr_html_C08b h3 h4 G s⟩

theorem src_HTML_views_other_C08b (h1 : HTML_strC08b_available = true) (h2 : HTML_reprC08b_available = true)
    (h3 : HTML_repr_htmlC08b_available = true) (h4 : HTML_as_string_available = true) (G : Globals) (s : Str) :
    HTML_strC08b G (.str s) = .error .attributeError ∧ HTML_reprC08b G (.str s) = .error .attributeError
    ∧ HTML_repr_htmlC08b G (.str s) = .error .attributeError := by
  first
  | exact absurd h1 (by decide)
  | exact absurd h2 (by decide)
  | exact absurd h3 (by decide)
  | exact absurd h4 (by decide)
  | (unfold HTML_strC08b HTML_reprC08b HTML_repr_htmlC08b
     simp [HTML_as_string, pyGetAttr])

/-- `repr(dep)` as the source has it, for any instance whose `name` is a string and whose `version` is a `Version`:
    `<HTMLDependency "name-version">` -/
theorem src_HTMLDependency_repr_obj_C08b (h : HTMLDependency_reprC08b_available = true) (G : Globals) (c : String)
    (fs : List (String × PVal)) (nm : Str) (d : DepInfo) (hn : fieldGet? "name" fs = some (.str nm))
    (hv : fieldGet? "version" fs = some (embEVersion d)) :
    HTMLDependency_reprC08b G (.obj c fs) = .ok (.str (depReprTextC08b nm d.version)) := by
  first
  | exact absurd h (by decide)
  | (unfold HTMLDependency_reprC08b
     simp only [getAttr_obj c fs _ _ hn, getAttr_obj c fs _ _ hv, ok_bind', pure_eq_ok', pyStr_str, pyStr_embEVersion_C08b,
       pyConcat5_C08b, pyAddBase_str, depReprTextC08b, List.append_assoc, List.append_nil, List.cons_append, List.nil_append])

theorem src_HTMLDependency_repr_C08b (h : HTMLDependency_reprC08b_available = true) (G : Globals) (d : DepInfo) (hh : Bool)
    (head : Nodes) :
    HTMLDependency_reprC08b G (embC08b (.dep d hh head)) = .ok (.str (depReprTextC08b d.name d.version))
    ∧ HTMLDependency_reprC08b G (embE (.dep d hh head)) = .ok (.str (depReprTextC08b d.name d.version)) := by
  constructor
  · exact src_HTMLDependency_repr_obj_C08b h G _ _ d.name d (by simp [fieldGet?]) (by simp [fieldGet?])
  · exact src_HTMLDependency_repr_obj_C08b h G _ _ d.name d (by simp [fieldGet?]) (by simp [fieldGet?])

/-- `str(dep)` as the source has it is `str()` of what `self.as_html_tags()` returns with its default arguments
    (`lib_prefix="lib"`, `include_version=True`) — `str()` decided by the class of that value over the translated
    `Tag.__str__` / `TagList.__str__`; an error of `as_html_tags` is the error of `str(dep)`.  (The two callees are tied to the
    model by `src_as_html_tags`, Props/SrcC12.lean, and `src_TagList_str`, Props/SrcC18.lean; their embeddings of a dependency
    differ — recorded file-system answers in the one, the serialised form in the other — and are not composed here.) -/
theorem src_HTMLDependency_str_def_C08b (h : HTMLDependency_strC08b_available = true)
    (h1 : HTMLDependency_as_html_tags_available = true) (h2 : Tag_str_available = true) (h3 : TagList_str_available = true)
    (G : Globals) (fuel : Nat) (x : PVal) :
    HTMLDependency_strC08b G (fuel + 1) x
      = (HTMLDependency_as_html_tags G fuel x (.str ['l', 'i', 'b']) (.bool true)
          >>= pyStrDispC08b (Tag_str G fuel) (TagList_str G fuel)) := by
  first
  | exact absurd h (by decide)
  | exact absurd h1 (by decide)
  | exact absurd h2 (by decide)
  | exact absurd h3 (by decide)
  | (rw [HTMLDependency_strC08b]
     all_goals (
       generalize HTMLDependency_as_html_tags G fuel x (.str ['l', 'i', 'b']) (.bool true) = r
       cases r with
       | error e => rfl
       | ok t =>
         simp only [ok_bind', pure_eq_ok']
         cases pyStrDispC08b (Tag_str G fuel) (TagList_str G fuel) t <;> rfl))

/-- when `as_html_tags()` returns a TagList (it always does: `TagList(*metas, *links, *scripts, self.head)`), `str(dep)` is
    `TagList.__str__` of it -/
theorem src_HTMLDependency_str_list_C08b (h : HTMLDependency_strC08b_available = true)
    (h1 : HTMLDependency_as_html_tags_available = true) (h2 : Tag_str_available = true) (h3 : TagList_str_available = true)
    (G : Globals) (fuel : Nat) (x : PVal) (fs : List (String × PVal))
    (ht : HTMLDependency_as_html_tags G fuel x (.str ['l', 'i', 'b']) (.bool true) = .ok (.obj "TagList" fs)) :
    HTMLDependency_strC08b G (fuel + 1) x = TagList_str G fuel (.obj "TagList" fs) := by
  rw [src_HTMLDependency_str_def_C08b h h1 h2 h3, ht]
  rfl

/-- `Tag.__copy__` as the source has it, on ANY instance `self` of a class with the default `__new__` whose `__dict__` has
    distinct attribute names and holds values that `copy()` returns by value as they are (`copyPlainC08b`: everything except
    an object with a `__copy__` of its own): a new instance of the same class with the same attributes in the same order
    and the same values.  The loop of the dict comprehension is never spelled out (`dictcomp_loop_C08b`: one pass examined). -/
theorem src_Tag_copy_obj_C08b (h : Tag_copyC08b_available = true) (G : Globals) (c : String) (fs : List (String × PVal))
    (hc : plainNewC08b c = true) (hp : (fs.any fun f => pseudoField f.1) = false)
    (hv : ∀ kv ∈ fs, copyPlainC08b kv.2 = true) (hk : (fs.map (·.1)).Nodup) :
    Tag_copyC08b G (.obj c fs) = .ok (.obj c fs) := by
  first
  | exact absurd h (by decide)
  | skip
  all_goals (
    unfold Tag_copyC08b
    simp only [pyClassAttr_obj_C08b c fs hc hp, pyNewC08b_mk c hc, pyObjDict_obj_C08b c fs hp, pyItems_dict, pyIter_list,
      ok_bind', pure_eq_ok']
    rw [dictcomp_loop_C08b _ [] _ (by
      intro kv hkv a
      obtain ⟨x, hx, rfl⟩ := List.mem_map.mp hkv
      simp only [pyUnpack2_tuple', ok_bind', pyCopyFieldC08b_plain _ (hv x hx), pySetItem, pure_eq_ok'])]
    simp only [ok_bind', dictcomp_fold_C08b fs hk, pyObjDictUpdate_new_C08b c fs hc hk])

/-- `HTMLDocument.__copy__` as the source has it (the same text as `Tag.__copy__`), on any instance -/
theorem src_HTMLDocument_copy_obj_C08b (h : HTMLDocument_copyC08b_available = true) (G : Globals) (c : String) (fs : List (String × PVal))
    (hc : plainNewC08b c = true) (hp : (fs.any fun f => pseudoField f.1) = false)
    (hv : ∀ kv ∈ fs, copyPlainC08b kv.2 = true) (hk : (fs.map (·.1)).Nodup) :
    HTMLDocument_copyC08b G (.obj c fs) = .ok (.obj c fs) := by
  first
  | exact absurd h (by decide)
  | skip
  all_goals (
    unfold HTMLDocument_copyC08b
    simp only [pyClassAttr_obj_C08b c fs hc hp, pyNewC08b_mk c hc, pyObjDict_obj_C08b c fs hp, pyItems_dict, pyIter_list,
      ok_bind', pure_eq_ok']
    rw [dictcomp_loop_C08b _ [] _ (by
      intro kv hkv a
      obtain ⟨x, hx, rfl⟩ := List.mem_map.mp hkv
      simp only [pyUnpack2_tuple', ok_bind', pyCopyFieldC08b_plain _ (hv x hx), pySetItem, pure_eq_ok'])]
    simp only [ok_bind', dictcomp_fold_C08b fs hk, pyObjDictUpdate_new_C08b c fs hc hk])

theorem copyPlain_attrs_C08b (a : Attrs) : copyPlainC08b (embAttrs a) = true := rfl
theorem copyPlain_taglist_C08b (l : List PVal) : copyPlainC08b (eqTagList l) = true := by
  simp [copyPlainC08b, eqTagList, hasCopyMethodC08b, fieldGet?]

theorem src_Tag_copy_C08b (h : Tag_copyC08b_available = true) (G : Globals) (nm : Str) (ws : Bool) (a : Attrs) (kids : Nodes) :
    Tag_copyC08b G (embC08b (.tag nm ws a kids)) = .ok (embC08b (.tag nm ws a kids)) := by
  rw [embC08b]
  refine src_Tag_copy_obj_C08b h G _ _ rfl (by simp [pseudoField]) ?_ (by simp)
  intro kv hkv
  simp only [List.mem_cons, List.not_mem_nil, or_false] at hkv
  rcases hkv with rfl | rfl | rfl | rfl | rfl
  · rfl
  · rfl
  · exact copyPlain_attrs_C08b _
  · exact copyPlain_taglist_C08b _
  · rfl

theorem src_Tag_copy_refines_C08b (h : Tag_copyC08b_available = true) (G : Globals) (i a k : Nat) (nm : Str) (ws : Bool)
    (at' : Attrs) (kids : ITrees) (n : Nat) :
    Tag_copyC08b G (embC08b (ITree.tag i a k nm ws at' kids).erase)
      = .ok (embC08b ((ITree.tag i a k nm ws at' kids).icopyShallow n).1.erase) := by
  rw [Ident.icopyShallow_erase, ITree.erase]
  exact src_Tag_copy_C08b h G nm ws at' kids.eraseAll

/-- an `HTMLDocument` as the object `__copy__` sees: `_content` (a TagList) and `_html_attr_args` (the keyword arguments) -/
def embDocC08b (content : Nodes) (args : List (Str × AttrArg)) : PVal :=
  .obj "HTMLDocument" [("_content", eqTagList (embsC08b content)), ("_html_attr_args", embArgDict args)]

theorem src_HTMLDocument_copy_C08b (h : HTMLDocument_copyC08b_available = true) (G : Globals) (content : Nodes)
    (args : List (Str × AttrArg)) :
    HTMLDocument_copyC08b G (embDocC08b content args) = .ok (embDocC08b content args) := by
  rw [embDocC08b]
  refine src_HTMLDocument_copy_obj_C08b h G _ _ rfl (by simp [pseudoField]) ?_ (by simp)
  intro kv hkv
  simp only [List.mem_cons, List.not_mem_nil, or_false] at hkv
  rcases hkv with rfl | rfl
  · exact copyPlain_taglist_C08b _
  · rfl

/-- `HTMLDependency.__copy__` by value on any instance with distinct attribute names whose `source` / `script` / `stylesheet` /
    `meta` are plain data and whose `head` is None or a value `_copy_tag_nodes` (one level of fuel down) returns as it is -/
theorem src_HTMLDependency_copy_obj_C08b (a2 : HTMLDependency_copyC08b_available = true) (G : Globals) (n : Nat) (c : String)
    (fs : List (String × PVal)) (src scr sty met hd : PVal)
    (hc : plainNewC08b c = true) (hp : (fs.any fun f => pseudoField f.1) = false) (hk : (fs.map (·.1)).Nodup)
    (h1 : fieldGet? "source" fs = some src) (h2 : fieldGet? "script" fs = some scr)
    (h3 : fieldGet? "stylesheet" fs = some sty) (h4 : fieldGet? "meta" fs = some met) (h5 : fieldGet? "head" fs = some hd)
    (p1 : plainDataC08b src = true) (p2 : plainDataC08b scr = true) (p3 : plainDataC08b sty = true)
    (p4 : plainDataC08b met = true) (p5 : isNone hd = false → copy_tag_nodesC08b G n hd = .ok hd) :
    HTMLDependency_copyC08b G (n + 1) (.obj c fs) = .ok (.obj c fs) := by
  first
  | exact absurd a2 (by decide)
  | skip
  all_goals (
    rw [HTMLDependency_copyC08b]
    simp only [pyClassAttr_obj_C08b c fs hc hp, pure_eq_ok', ok_bind', pyNewC08b_mk c hc,
      pyObjDict_obj_C08b c fs hp, pyObjDictUpdate_new_C08b c fs hc hk, getAttr_obj c fs _ _ h1, getAttr_obj c fs _ _ h2, getAttr_obj c fs _ _ h3,
      getAttr_obj c fs _ _ h4, getAttr_obj c fs _ _ h5, pyDeepcopyC08b_plain _ p1, pyDeepcopyC08b_plain _ p2,
      pyDeepcopyC08b_plain _ p3, pyDeepcopyC08b_plain _ p4, pySetAttr_same_C08b c fs _ _ h1, pySetAttr_same_C08b c fs _ _ h2,
      pySetAttr_same_C08b c fs _ _ h3, pySetAttr_same_C08b c fs _ _ h4, truthy_bool']
    cases hn : isNone hd with
    | true => simp only [Bool.not_true, Bool.false_eq_true, if_false]
    | false => simp only [Bool.not_false, if_true, p5 hn, ok_bind', pySetAttr_same_C08b c fs _ _ h5])

/-- the two functions together, by induction on the fuel: a child list needs one level per Tag nesting and two per
    dependency nesting.  The `enumerate` loop is obtained by unification (`forIn_enum_keep_k_C08b`: the invariant is "what the code
    after the loop reads is the original list"); one pass is examined per kind of child. -/
theorem src_copy_group_C08b (a1 : copy_tag_nodesC08b_available = true) (a2 : HTMLDependency_copyC08b_available = true)
    (a3 : Tag_copyC08b_available = true) (G : Globals) (n : Nat) :
    (∀ ks, cpFuelKidsC08b ks + 1 ≤ n → copy_tag_nodesC08b G n (eqTagList (embsC08b ks)) = .ok (eqTagList (embsC08b ks)))
    ∧ (∀ d hh k, cpFuelKidsC08b k + 2 ≤ n →
        HTMLDependency_copyC08b G n (embC08b (.dep d hh k)) = .ok (embC08b (.dep d hh k))) := by
  first
  | exact absurd a1 (by decide)
  | exact absurd a2 (by decide)
  | skip
  all_goals (
    induction n with
    | zero => exact ⟨fun ks h => by omega, fun d hh k h => by omega⟩
    | succ n ih =>
      refine ⟨?_, ?_⟩
      · intro ks hf
        rw [copy_tag_nodesC08b]
        simp only [pyCopyDispC08b_taglist, ok_bind', pure_eq_ok', pyEnumerate_taglist_C08b, pyIter_list]
        refine forIn_enum_keep_k_C08b _ _ _ _ _ rfl ?_
        intro i x hix s hs
        have hs' : s.1 = eqTagList (embsC08b ks) := by injection hs
        have hx : x ∈ ks.toList.map embC08b := by rw [← embsC08b_toList]; exact List.mem_of_getElem? hix
        obtain ⟨c, hc, rfl⟩ := List.mem_map.mp hx
        have hfc := cpFuel_le_kids_C08b ks c hc
        rcases embC08b_cases c with ⟨nm, ws, a, k, rfl⟩ | ⟨d, hh, k, rfl⟩ | ⟨m, rfl⟩ | hk
        · have hk : cpFuelKidsC08b k + 1 ≤ n := by simp only [cpFuelC08b] at hfc; omega
          exact keep_step_C08b _ (by simp only [pyUnpack2_tuple', ok_bind', embTag_isTag_C08b, truthy_bool', if_true, embTag_disp_C08b, src_Tag_copy_C08b a3,
              embTag_children_C08b, ih.1 k hk, embTag_setChildren_C08b, hs', pySetItemU_same_C08b _ _ _ hix]; rfl) (by rfl)
        · have hk : cpFuelKidsC08b k + 2 ≤ n := by simp only [cpFuelC08b] at hfc; omega
          exact keep_step_C08b _ (by simp only [pyUnpack2_tuple', ok_bind', embDep_isTag_C08b, embDep_isMeta_C08b, truthy_bool', if_true, Bool.false_eq_true,
              if_false, embDep_disp_C08b, ih.2 d hh k hk, hs', pySetItemU_same_C08b _ _ _ hix]; rfl) (by rfl)
        · exact keep_step_C08b _ (by simp only [pyUnpack2_tuple', ok_bind', embMeta_isTag_C08b, embMeta_isMeta_C08b, truthy_bool', if_true, Bool.false_eq_true,
              if_false, embMeta_disp_C08b, hs', pySetItemU_same_C08b _ _ _ hix]; rfl) (by rfl)
        · simp only [keptC08b, Bool.and_eq_true, Bool.not_eq_true'] at hk
          exact keep_step_C08b _ (by simp only [pyUnpack2_tuple', ok_bind', hk.1, hk.2, truthy_bool', Bool.false_eq_true, if_false]; rfl) (by exact hs)
      · intro d hh k hf
        have hk : cpFuelKidsC08b k + 1 ≤ n := by omega
        rw [embC08b]
        refine src_HTMLDependency_copy_obj_C08b a2 G n _ _ (embESource d.source) (embEKvs d.script) (embEKvs d.stylesheet) (embEKvs d.metas)
          (if hh then eqTagList (embsC08b k) else .none) rfl (by simp [pseudoField]) (by simp) (by simp [fieldGet?])
          (by simp [fieldGet?]) (by simp [fieldGet?]) (by simp [fieldGet?]) (by simp [fieldGet?]) (plainData_source_C08b _)
          (plainData_ekvs_C08b _) (plainData_ekvs_C08b _) (plainData_ekvs_C08b _) ?_
        cases hh with
        | false => intro h; cases h
        | true => intro _; exact ih.1 k hk)

/-- `_copy_tag_nodes(x)` as the source has it, by value, on the child list of any tree: an equal list (new TagList, new Tags
    with new attrs and children, new metadata nodes and dependencies — by value, the same) -/
theorem src_copy_tag_nodes_C08b (a1 : copy_tag_nodesC08b_available = true) (a2 : HTMLDependency_copyC08b_available = true)
    (a3 : Tag_copyC08b_available = true) (G : Globals) (ks : Nodes) (fuel : Nat) (hf : cpFuelKidsC08b ks + 1 ≤ fuel) :
    copy_tag_nodesC08b G fuel (eqTagList (embsC08b ks)) = .ok (eqTagList (embsC08b ks)) :=
  (src_copy_group_C08b a1 a2 a3 G fuel).1 ks hf

theorem src_HTMLDependency_copy_C08b (a1 : copy_tag_nodesC08b_available = true) (a2 : HTMLDependency_copyC08b_available = true)
    (a3 : Tag_copyC08b_available = true) (G : Globals) (d : DepInfo) (hh : Bool) (k : Nodes) (fuel : Nat)
    (hf : cpFuelKidsC08b k + 2 ≤ fuel) :
    HTMLDependency_copyC08b G fuel (embC08b (.dep d hh k)) = .ok (embC08b (.dep d hh k)) :=
  (src_copy_group_C08b a1 a2 a3 G fuel).2 d hh k hf

/-- the structural half of C08 (`icopyAll_erase`, `C08_tagify_refines`) for the source text: what `_copy_tag_nodes` returns on
    the value of a child list is the value of the model's `icopyAll` of it, at any counter -/
theorem src_copy_tag_nodes_refines_C08b (a1 : copy_tag_nodesC08b_available = true) (a2 : HTMLDependency_copyC08b_available = true)
    (a3 : Tag_copyC08b_available = true) (G : Globals) (ks : ITrees) (n fuel : Nat)
    (hf : cpFuelKidsC08b ks.eraseAll + 1 ≤ fuel) :
    copy_tag_nodesC08b G fuel (eqTagList (embsC08b ks.eraseAll)) = .ok (eqTagList (embsC08b (ks.icopyAll n).1.eraseAll)) := by
  rw [ITrees.icopyAll_erase]
  exact src_copy_tag_nodes_C08b a1 a2 a3 G _ fuel hf

/-- … and `copy(dep)` is the value of the model's `icopy` of the dependency -/
theorem src_HTMLDependency_copy_refines_C08b (a1 : copy_tag_nodesC08b_available = true)
    (a2 : HTMLDependency_copyC08b_available = true) (a3 : Tag_copyC08b_available = true) (G : Globals) (i : Nat) (d : IDep)
    (hh : Bool) (hid : Nat) (hd : ITrees) (n fuel : Nat) (hf : cpFuelKidsC08b hd.eraseAll + 2 ≤ fuel) :
    HTMLDependency_copyC08b G fuel (embC08b (ITree.dep i d hh hid hd).erase)
      = .ok (embC08b ((ITree.dep i d hh hid hd).icopy n).1.erase) := by
  rw [ITree.icopy_erase, ITree.erase]
  exact src_HTMLDependency_copy_C08b a1 a2 a3 G _ hh _ fuel hf

/-- `Tag.__copy__` over the heap, on a reference to ANY instance: the new instance is allocated first, the attribute values
    are copied in `__dict__` order, the copies become the attributes of the new instance -/
theorem src_Tag_copy_heap_obj_C08b (h : Tag_copyHC08b_available = true) (G : Globals) (H : List PVal) (c : String) (i : Nat)
    (fs : List (String × PVal)) (hi : H[i]? = some (.obj c fs)) (hc : plainNewC08b c = true)
    (hp : (fs.any fun f => pseudoField f.1) = false) (hk : (fs.map (·.1)).Nodup) :
    Tag_copyHC08b G (mkRefC08b c i) H
      = (do let fs' ← copyFieldsHC08b fs
            hObjDictUpdateC08b (mkRefC08b c H.length) (.dict (itemsC08b fs'))
            pure (mkRefC08b c H.length)) (H ++ [PVal.obj c []]) := by
  first
  | exact absurd h (by decide)
  | skip
  all_goals (
    unfold Tag_copyHC08b
    simp only [pyClassAttr_mkRef_C08b c i hc, HMC08b.lift_ok, pure_bind]
    rw [HMC08b.run_bind_ok (hNew_mk_C08b c hc H),
      HMC08b.run_bind_ok (hObjDict_ok_C08b _ c c i fs (getElem?_append_some_C08b hi) hp)]
    simp only [pyItems_dict, pyIter_list, HMC08b.lift_ok, pure_bind]
    rw [show PVal.dict [] = PVal.dict (itemsC08b []) from rfl, dictcomp_loopH_C08b fs [] (by simpa using hk) _ (by
      intro kv hkv a
      simp only [pyUnpack2_tuple', HMC08b.lift_ok, pure_bind, pySetItem, pure_eq_ok'])]
    simp only [bind_assoc, pure_bind, List.nil_append])

/-- the same for `HTMLDocument.__copy__` (the same text) -/
theorem src_HTMLDocument_copy_heap_obj_C08b (h : HTMLDocument_copyHC08b_available = true) (G : Globals) (H : List PVal) (c : String) (i : Nat)
    (fs : List (String × PVal)) (hi : H[i]? = some (.obj c fs)) (hc : plainNewC08b c = true)
    (hp : (fs.any fun f => pseudoField f.1) = false) (hk : (fs.map (·.1)).Nodup) :
    HTMLDocument_copyHC08b G (mkRefC08b c i) H
      = (do let fs' ← copyFieldsHC08b fs
            hObjDictUpdateC08b (mkRefC08b c H.length) (.dict (itemsC08b fs'))
            pure (mkRefC08b c H.length)) (H ++ [PVal.obj c []]) := by
  first
  | exact absurd h (by decide)
  | skip
  all_goals (
    unfold HTMLDocument_copyHC08b
    simp only [pyClassAttr_mkRef_C08b c i hc, HMC08b.lift_ok, pure_bind]
    rw [HMC08b.run_bind_ok (hNew_mk_C08b c hc H),
      HMC08b.run_bind_ok (hObjDict_ok_C08b _ c c i fs (getElem?_append_some_C08b hi) hp)]
    simp only [pyItems_dict, pyIter_list, HMC08b.lift_ok, pure_bind]
    rw [show PVal.dict [] = PVal.dict (itemsC08b []) from rfl, dictcomp_loopH_C08b fs [] (by simpa using hk) _ (by
      intro kv hkv a
      simp only [pyUnpack2_tuple', HMC08b.lift_ok, pure_bind, pySetItem, pure_eq_ok'])]
    simp only [bind_assoc, pure_bind, List.nil_append])

/-- **`Tag.__copy__` on a heap that holds the tag** (`TagAtC08b`: the Tag object `i`, its TagAttrDict `a`, its TagList `k`):
    exactly three objects are appended — the new Tag (whose `attrs` / `children` are the next two), a new TagAttrDict with the
    same entries, a new TagList with the same items — nothing else changes, and the reference to the first is returned -/
theorem src_Tag_copy_heap_C08b (h : Tag_copyHC08b_available = true) (G : Globals) (H : List PVal) (i a k : Nat) (nm : Str)
    (ws : Bool) (attrs : List (Str × PVal)) (kids : List PVal) (ht : TagAtC08b H i a k nm ws attrs kids) :
    Tag_copyHC08b G (mkRefC08b "Tag" i) H
      = .ok (mkRefC08b "Tag" H.length,
             H ++ [tagObjC08b nm ws (H.length + 1) (H.length + 2), .dict attrs, .obj "TagList" [("data", .list kids)]]) := by
  have hpn : plainNewC08b "Tag" = true := rfl
  rw [src_Tag_copy_heap_obj_C08b h G H "Tag" i _ ht.tag hpn (by simp [pseudoField]) (by simp [tagObjC08b])]
  have ha : (H ++ [PVal.obj "Tag" []])[a]? = some (.dict attrs) := getElem?_append_some_C08b ht.attrs
  have hk : (H ++ [PVal.obj "Tag" []] ++ [PVal.dict attrs])[k]? = some (.obj "TagList" [("data", .list kids)]) := by
    rw [List.append_assoc]; exact getElem?_append_some_C08b ht.kids
  simp only [copyFieldsHC08b, hCopyField_str_C08b, hCopyField_bool_C08b, hCopyField_none_C08b, pure_bind, bind_assoc]
  rw [HMC08b.run_bind_ok (hCopyField_ref_C08b _ _ a _ ha rfl), HMC08b.run_bind_ok (hCopyField_ref_C08b _ _ k _ hk rfl)]
  have hn : (H ++ [PVal.obj "Tag" []] ++ [PVal.dict attrs] ++ [PVal.obj "TagList" [("data", PVal.list kids)]])[H.length]?
      = some (PVal.obj "Tag" []) := by simp
  rw [HMC08b.run_bind_ok (hObjDictUpdate_ok_C08b _ "Tag" H.length _ _ _ hn (pyObjDictUpdate_new_C08b "Tag" _ hpn (by simp)))]
  simp [HMC08b.run_pure, tagObjC08b, List.set_append]

/-- **`Tag.__copy__` ↔ `ITree.icopyShallow`.**  Let the model tag `x = .tag i a k nm ws at kids` be held by the heap `H` (its
    three objects at the ids the model gives them; `vs` are the values of its children, whatever they are).  With the
    model's fresh-id counter at `H.length`, the source's `Tag.__copy__` returns the reference to the Tag the model's
    `icopyShallow` creates, the heap afterwards holds that copy — same name, same `add_ws`, same attribute entries, the *same*
    child values — at exactly the model's ids, the counter afterwards is the new heap's length, and every object that was in
    the heap is still there unchanged (in particular the original tag). -/
theorem src_Tag_copy_ident_C08b (h : Tag_copyHC08b_available = true) (G : Globals) (H : List PVal) (i a k : Nat) (nm : Str)
    (ws : Bool) (at' : Attrs) (kids : ITrees) (vs : List PVal)
    (ht : TagAtC08b H i a k nm ws (attrKvsC08b at') vs) :
    ∃ H', Tag_copyHC08b G (mkRefC08b "Tag" i) H = .ok (mkRefC08b "Tag" H.length, H')
      ∧ ((ITree.tag i a k nm ws at' kids).icopyShallow H.length).1
          = .tag H.length (H.length + 1) (H.length + 2) nm ws at' kids
      ∧ TagAtC08b H' H.length (H.length + 1) (H.length + 2) nm ws (attrKvsC08b at') vs
      ∧ ((ITree.tag i a k nm ws at' kids).icopyShallow H.length).2 = H'.length
      ∧ (∀ (j : Nat) (o : PVal), H[j]? = some o → H'[j]? = some o)
      ∧ TagAtC08b H' i a k nm ws (attrKvsC08b at') vs := by
  refine ⟨_, src_Tag_copy_heap_C08b h G H i a k nm ws _ vs ht, rfl, ⟨by simp, by simp, by simp⟩, by simp [ITree.icopyShallow],
    fun j o hj => getElem?_append_some_C08b hj, ⟨getElem?_append_some_C08b ht.tag, getElem?_append_some_C08b ht.attrs,
      getElem?_append_some_C08b ht.kids⟩⟩

/-- **Freshness of `Tag.__copy__`** (the independence half for the shallow copy): the three objects of the copy are new —
    their ids are the three consecutive ids from the old heap length on, pairwise distinct, and none of them is an id of
    an object that existed before the call; in particular none is an id of the original tag or of anything below it
    (`x.ids`, all of which are ids of objects in the heap).  What the copy *shares* with the original is exactly the child
    values (`kids`, unchanged in the model's `icopyShallow` too): a shallow copy. -/
theorem src_Tag_copy_fresh_C08b (h : Tag_copyHC08b_available = true) (G : Globals) (H : List PVal) (i a k : Nat) (nm : Str)
    (ws : Bool) (at' : Attrs) (kids : ITrees) (vs : List PVal)
    (ht : TagAtC08b H i a k nm ws (attrKvsC08b at') vs)
    (hx : ∀ j ∈ (ITree.tag i a k nm ws at' kids).ids, j < H.length) :
    ∃ n H', Tag_copyHC08b G (mkRefC08b "Tag" i) H = .ok (mkRefC08b "Tag" n, H')
      ∧ TagAtC08b H' n (n + 1) (n + 2) nm ws (attrKvsC08b at') vs
      ∧ [n, n + 1, n + 2].Nodup
      ∧ (∀ j ∈ [n, n + 1, n + 2], H.length ≤ j ∧ j < H'.length ∧ j ∉ (ITree.tag i a k nm ws at' kids).ids) := by
  obtain ⟨H', h1, _, h3, h4, _, _⟩ := src_Tag_copy_ident_C08b h G H i a k nm ws at' kids vs ht
  refine ⟨H.length, H', h1, h3, by simp, ?_⟩
  have hl : H'.length = H.length + 3 := by rw [← h4]; rfl
  intro j hj
  simp only [List.mem_cons, List.not_mem_nil, or_false] at hj
  refine ⟨by omega, by omega, fun hm => ?_⟩
  have := hx j hm
  omega

/-- the heap holds an HTMLDocument: the document object `d`, its `_content` TagList `c` with the items `kids`, its
    `_html_attr_args` dict `a` with the entries `args` -/
structure DocAtC08b (H : List PVal) (d c a : Nat) (kids : List PVal) (args : List (Str × PVal)) : Prop where
  doc : H[d]? = some (.obj "HTMLDocument" [("_content", mkRefC08b "TagList" c), ("_html_attr_args", mkRefC08b "dict" a)])
  content : H[c]? = some (.obj "TagList" [("data", .list kids)])
  args : H[a]? = some (.dict args)

/-- **`HTMLDocument.__copy__` on a heap that holds the document**: three objects are appended — the new document, a new
    TagList with the same items, a new dict with the same entries — and nothing else changes -/
theorem src_HTMLDocument_copy_heap_C08b (h : HTMLDocument_copyHC08b_available = true) (G : Globals) (H : List PVal) (d c a : Nat)
    (kids : List PVal) (args : List (Str × PVal)) (hd : DocAtC08b H d c a kids args) :
    HTMLDocument_copyHC08b G (mkRefC08b "HTMLDocument" d) H
      = .ok (mkRefC08b "HTMLDocument" H.length,
             H ++ [.obj "HTMLDocument" [("_content", mkRefC08b "TagList" (H.length + 1)),
                                        ("_html_attr_args", mkRefC08b "dict" (H.length + 2))],
                   .obj "TagList" [("data", .list kids)], .dict args]) := by
  have hpn : plainNewC08b "HTMLDocument" = true := rfl
  rw [src_HTMLDocument_copy_heap_obj_C08b h G H "HTMLDocument" d _ hd.doc hpn (by simp [pseudoField]) (by simp)]
  have hc : (H ++ [PVal.obj "HTMLDocument" []])[c]? = some (.obj "TagList" [("data", .list kids)]) :=
    getElem?_append_some_C08b hd.content
  have ha : (H ++ [PVal.obj "HTMLDocument" []] ++ [PVal.obj "TagList" [("data", .list kids)]])[a]? = some (.dict args) := by
    rw [List.append_assoc]; exact getElem?_append_some_C08b hd.args
  simp only [copyFieldsHC08b, pure_bind, bind_assoc]
  rw [HMC08b.run_bind_ok (hCopyField_ref_C08b _ _ c _ hc rfl), HMC08b.run_bind_ok (hCopyField_ref_C08b _ _ a _ ha rfl)]
  have hn : (H ++ [PVal.obj "HTMLDocument" []] ++ [PVal.obj "TagList" [("data", PVal.list kids)]] ++ [PVal.dict args])[H.length]?
      = some (PVal.obj "HTMLDocument" []) := by simp
  rw [HMC08b.run_bind_ok (hObjDictUpdate_ok_C08b _ "HTMLDocument" H.length _ _ _ hn
    (pyObjDictUpdate_new_C08b "HTMLDocument" _ hpn (by simp)))]
  simp [HMC08b.run_pure, List.set_append]

/-- `_copy_tag_nodes` over the heap as the source has it is: `cp = copy(x)`, then one pass of `copyPassC08b` (Lemmas/SrcC08b.lean:
    what the loop body does, as a function of the position and the item) per item of the new list, in order; the result is
    `cp`.  The loop body is obtained by unification; what is examined is that each pass does to the heap what `copyPassC08b`
    does (`YieldsLikeC08b`), whatever the loop state is. -/
theorem src_copy_tag_nodes_heap_def_C08b (h : copy_tag_nodesHC08b_available = true) (G : Globals) (fuel : Nat) (x : PVal) :
    copy_tag_nodesHC08b G (fuel + 1) x = (do
      let cp ← hCopyDispC08b (Tag_copyHC08b G) (HTMLDependency_copyHC08b G fuel) x
      let vs ← hItemsC08b cp
      copyLoopC08b G fuel cp 0 vs
      pure cp) := by
  first
  | exact absurd h (by decide)
  | skip
  all_goals (
    funext H
    rw [copy_tag_nodesHC08b]
    simp only [hEnumerateC08b, bind_assoc, pyEnumerate_of_iter _ _ (pyIter_list _), HMC08b.lift_ok, pure_bind, pyIter_list]
    refine congrFun (bind_congr fun cp => bind_congr fun vs => ?_) H
    funext H'
    refine forIn_copyLoop_C08b G fuel cp _ ?_ (pure cp) vs 0 _ H'
    intro m v s H1
    simp only [pyUnpack2_tuple', HMC08b.lift_ok, pure_bind, copyPassC08b, bind_assoc, pair_fst_C08b, pair_snd_C08b]
    cases isInstance v ["Tag"] <;> simp only [truthy_bool', Bool.false_eq_true, if_true, if_false]
    · cases isInstance v ["MetadataNode"] <;> simp only [truthy_bool', Bool.false_eq_true, if_true, if_false]
      · exact YieldsLikeC08b.pure _ _
      · exact YieldsLikeC08b.bind _ _ _ _ fun c H2 => YieldsLikeC08b.last _ _ _
    · refine YieldsLikeC08b.bind _ _ _ _ fun c H2 => ?_
      refine YieldsLikeC08b.bind _ _ _ _ fun ch H3 => ?_
      refine YieldsLikeC08b.bind _ _ _ _ fun r H4 => ?_
      exact YieldsLikeC08b.bind _ _ _ _ fun _ H5 => YieldsLikeC08b.last _ _ _)

/-- one pass of the loop on the child `x` at position `m` of the new list object `nl`: the child is replaced by (the value
    standing for) the model's `icopy` of it at the counter `H.length`, the counter afterwards is the new heap's length, and
    nothing else that was in the heap changes -/
def PassOKC08b (G : Globals) (x : ITree) : Prop :=
  ∀ (fuel : Nat) (H : List PVal) (nl m : Nat) (data : List PVal) (v : PVal),
    cpFuelIC08b x ≤ fuel → H[nl]? = some (tagListObjC08b data) → data[m]? = some v → ReprC08b H x v →
    (∀ j ∈ x.ids, j < nl) →
    ∃ H' v', copyPassC08b G fuel (mkRefC08b "TagList" nl) (.int (m : Nat)) v H = .ok (⟨⟩, H')
      ∧ H'[nl]? = some (tagListObjC08b (data.set m v'))
      ∧ ReprC08b H' (x.icopy H.length).1 v'
      ∧ H'.length = (x.icopy H.length).2
      ∧ (∀ j, j < H.length → j ≠ nl → H'[j]? = H[j]?)

/-- `_copy_tag_nodes` on the list object `l` holding the children `ks`: the result is a new list object (the first new id)
    whose items stand for the model's `icopyAll` of the children, the counter afterwards is the new heap's length, and
    nothing that was in the heap changes -/
def ListOKC08b (G : Globals) (ks : ITrees) : Prop :=
  ∀ (fuel : Nat) (H : List PVal) (l : Nat) (vs : List PVal),
    cpFuelKidsIC08b ks ≤ fuel → H[l]? = some (tagListObjC08b vs) → ReprsC08b H ks vs → (∀ j ∈ ks.idsAll, j < H.length) →
    ∃ H' vs', copy_tag_nodesHC08b G (fuel + 1) (mkRefC08b "TagList" l) H = .ok (mkRefC08b "TagList" H.length, H')
      ∧ H'[H.length]? = some (tagListObjC08b vs')
      ∧ ReprsC08b H' (ks.icopyAll (H.length + 1)).1 vs'
      ∧ H'.length = (ks.icopyAll (H.length + 1)).2
      ∧ (∀ j, j < H.length → H'[j]? = H[j]?)

/-- a child that is neither a Tag nor a metadata node is kept -/
theorem passOK_kept_C08b (G : Globals) (x : ITree) (hx : x.icopy = fun n => (x, n)) (hi : x.ids = [])
    (hk : ∀ H v, ReprC08b H x v → isInstance v ["Tag"] = false ∧ isInstance v ["MetadataNode"] = false) :
    PassOKC08b G x := by
  intro fuel H nl m data v _ hnl hm hr _
  obtain ⟨h1, h2⟩ := hk H v hr
  refine ⟨H, v, ?_, ?_, ?_, ?_, fun j _ _ => rfl⟩
  · simp [copyPassC08b, h1, h2]; rfl
  · rw [set_same_C08b data m v hm]; exact hnl
  · rw [hx]; exact hr
  · rw [hx]

/-- a bare metadata node: a new object with the same attributes takes its place -/
theorem passOK_mnode_C08b (G : Globals) (i : Nat) (n : Nat) : PassOKC08b G (.mnode i n) := by
  intro fuel H nl m data v _ hnl hm hr hids
  obtain ⟨rfl, hi⟩ := hr
  have hnlt := getElem?_lt_C08b hnl
  have hmlt := getElem?_lt_C08b hm
  have h1 : isInstance (mkRefC08b "MetadataNode" i) ["Tag"] = false := by simp [isInstance, mkRefC08b, classBases]
  have h2 : isInstance (mkRefC08b "MetadataNode" i) ["MetadataNode"] = true := by simp [isInstance, mkRefC08b]
  have hnl' : (H ++ [PVal.obj "MetadataNode" [("n", PVal.int n)]])[nl]? = some (tagListObjC08b data) :=
    getElem?_append_some_C08b hnl
  refine ⟨(H ++ [PVal.obj "MetadataNode" [("n", PVal.int n)]]).set nl
      (tagListObjC08b (data.set m (mkRefC08b "MetadataNode" H.length))), mkRefC08b "MetadataNode" H.length, ?_, ?_, ?_, ?_, ?_⟩
  · simp only [copyPassC08b, h1, h2, Bool.false_eq_true, if_false, if_true]
    rw [HMC08b.run_bind_ok (hCopyDisp_meta_C08b _ _ H i _ hi)]
    exact hSetItemU_ok_C08b _ "TagList" nl data m _ hnl' hmlt
  · exact List.getElem?_set_self (by simp; omega)
  · refine ⟨rfl, ?_⟩
    rw [List.getElem?_set_ne (by omega)]
    simp
  · simp [ITree.icopy]
  · intro j hj hjn
    rw [List.getElem?_set_ne (Ne.symm hjn), List.getElem?_append_left hj]

/-- the loop over the rest `suf` of the children, from position `m` on (`pre'`: what the positions before `m` hold by now):
    the items are replaced by the values standing for the model's `icopyAll` of `suf` -/
def LoopOKC08b (G : Globals) (suf : ITrees) : Prop :=
  ∀ (fuel : Nat) (H : List PVal) (nl m : Nat) (pre' sufVals : List PVal),
    cpFuelKidsIC08b suf ≤ fuel → pre'.length = m → H[nl]? = some (tagListObjC08b (pre' ++ sufVals)) →
    ReprsC08b H suf sufVals → (∀ j ∈ suf.idsAll, j < nl) →
    ∃ H' sufVals', copyLoopC08b G fuel (mkRefC08b "TagList" nl) m sufVals H = .ok (⟨⟩, H')
      ∧ H'[nl]? = some (tagListObjC08b (pre' ++ sufVals'))
      ∧ ReprsC08b H' (suf.icopyAll H.length).1 sufVals'
      ∧ H'.length = (suf.icopyAll H.length).2
      ∧ (∀ j, j < H.length → j ≠ nl → H'[j]? = H[j]?)

/-- one pass on the first child, then the loop over the others: what the pass allocated is framed off -/
theorem loopOK_cons_C08b (G : Globals) (h : ITree) (t : ITrees) (hh : PassOKC08b G h) (ht : LoopOKC08b G t)
    (hplain : plainTreeC08b h = true) : LoopOKC08b G (.cons h t) := by
  intro fuel H nl m pre' sufVals hf hm hnl hr hids
  obtain ⟨v, tv, rfl, hrh, hrt⟩ := hr
  simp only [cpFuelKidsIC08b] at hf
  have hnlt := getElem?_lt_C08b hnl
  have hdm : (pre' ++ v :: tv)[m]? = some v := by
    rw [← hm]; simp
  obtain ⟨H1, v', hp1, hp2, hp3, hp4, hp5⟩ :=
    hh fuel H nl m (pre' ++ v :: tv) v (by omega) hnl hdm hrh (fun j hj => hids j (by simp [ITrees.idsAll, hj]))
  have hle1 : H.length ≤ H1.length := by rw [hp4]; exact ITree.icopy_le h H.length
  have hset : (pre' ++ v :: tv).set m v' = (pre' ++ [v']) ++ tv := by
    rw [← hm]; simp
  rw [hset] at hp2
  have hrt1 : ReprsC08b H1 t tv := by
    refine ReprsC08b.frame H H1 t tv hrt (fun j hj => ?_)
    have := hids j (by simp [ITrees.idsAll, hj])
    exact hp5 j (by omega) (by omega)
  obtain ⟨H2, tv', hq1, hq2, hq3, hq4, hq5⟩ :=
    ht fuel H1 nl (m + 1) (pre' ++ [v']) tv (by omega) (by simp [hm]) hp2 hrt1
      (fun j hj => hids j (by simp [ITrees.idsAll, hj]))
  have hidsh := (ITree.icopy_ids h H.length (plainTree_noTobj_C08b h hplain)).1
  refine ⟨H2, v' :: tv', ?_, ?_, ?_, ?_, ?_⟩
  · simp only [copyLoopC08b]
    rw [HMC08b.run_bind_ok hp1]
    exact hq1
  · rw [hq2]; simp
  · simp only [ITrees.icopyAll]
    refine ⟨v', tv', rfl, ?_, ?_⟩
    · refine ReprC08b.frame H1 H2 _ v' hp3 (fun j hj => ?_)
      have := hidsh j hj
      exact hq5 j (by omega) (by omega)
    · rw [← hp4]; exact hq3
  · simp only [ITrees.icopyAll]; rw [← hp4]; exact hq4
  · intro j hj hjn
    rw [hq5 j (by omega) hjn, hp5 j hj hjn]

theorem listOK_of_loop_C08b (hav : copy_tag_nodesHC08b_available = true) (G : Globals) (ks : ITrees)
    (hloop : LoopOKC08b G ks) : ListOKC08b G ks := by
  intro fuel H l vs hf hl hr hids
  have h0 : (H ++ [tagListObjC08b vs])[H.length]? = some (tagListObjC08b ([] ++ vs)) := by simp
  have hr0 : ReprsC08b (H ++ [tagListObjC08b vs]) ks vs :=
    ReprsC08b.frame H _ ks vs hr (fun j hj => List.getElem?_append_left (hids j hj))
  obtain ⟨H', vs', h1, h2, h3, h4, h5⟩ :=
    hloop fuel (H ++ [tagListObjC08b vs]) H.length 0 [] vs hf rfl h0 hr0 hids
  have hlen : (H ++ [tagListObjC08b vs]).length = H.length + 1 := by simp
  rw [hlen] at h3 h4 h5
  refine ⟨H', vs', ?_, by simpa using h2, h3, h4, ?_⟩
  · rw [src_copy_tag_nodes_heap_def_C08b hav]
    rw [HMC08b.run_bind_ok (hCopyDisp_taglist_C08b _ _ H l vs hl)]
    rw [HMC08b.run_bind_ok (hItems_ok_C08b _ "TagList" H.length vs (by simp))]
    rw [HMC08b.run_bind_ok h1]
    rfl
  · intro j hj
    rw [h5 j (by omega) (by omega), List.getElem?_append_left hj]

/-- a Tag child: `copy(child)` (three new objects), `_copy_tag_nodes(child.children)` one level of fuel down (a new list and
    the copies of the children), the new list becomes the copy's `children`, the copy takes the child's place -/
theorem passOK_tag_C08b (hav : Tag_copyHC08b_available = true) (G : Globals) (i a k : Nat) (nm : Str) (ws : Bool) (at' : Attrs)
    (kids : ITrees) (hlist : ListOKC08b G kids) (hplain : plainTreesC08b kids = true) :
    PassOKC08b G (.tag i a k nm ws at' kids) := by
  intro fuel H nl m data v hf hnl hm hr hids
  obtain ⟨rfl, vs, ht, hk⟩ := hr
  simp only [cpFuelIC08b] at hf
  obtain ⟨f, rfl⟩ : ∃ f, fuel = f + 1 := ⟨fuel - 1, by omega⟩
  have hnlt := getElem?_lt_C08b hnl
  have hilt : i < nl := hids i (by simp [ITree.ids])
  -- 1. copy(child): three new objects, nothing old changes
  obtain ⟨H1, e1, _, hnew, hl1, hold1, _⟩ := src_Tag_copy_ident_C08b hav G H i a k nm ws at' kids vs ht
  replace hl1 : H1.length = H.length + 3 := hl1.symm
  have hfr1 : ∀ j, j < H.length → H1[j]? = H[j]? := fun j hj =>
    (hold1 j _ (List.getElem?_eq_getElem hj)).trans (List.getElem?_eq_getElem hj).symm
  -- 2. child.children
  have e2 : hGetAttrC08b (mkRefC08b "Tag" i) "children" H1 = .ok (mkRefC08b "TagList" k, H1) :=
    hGetAttr_ref_C08b H1 "Tag" i _ "children" _ (hold1 i _ ht.tag) (by simp [tagObjC08b, pyGetAttr, fieldGet?])
  -- 3. _copy_tag_nodes(child.children)
  obtain ⟨H2, vs', e3, h32, h33, h34, h35⟩ :=
    hlist f H1 k vs (by omega) (hold1 k _ ht.kids)
      (ReprsC08b.frame H H1 kids vs hk fun j hj => hfr1 j (by have := hids j (by simp [ITree.ids, hj]); omega))
      (fun j hj => by have := hids j (by simp [ITree.ids, hj]); omega)
  rw [hl1] at e3 h32 h33 h34 h35
  have hle2 : H.length + 4 ≤ H2.length := by rw [h34]; exact ITrees.icopyAll_le kids (H.length + 4)
  -- 4. child_cp.children = …, 5. cp[i] = child_cp
  have hn : nl ≠ H.length := Nat.ne_of_lt hnlt
  have e4 := hSetAttr_children_C08b H2 H.length nm ws (H.length + 1) (H.length + 2) (H.length + 3)
    (by rw [h35 _ (by omega)]; exact hnew.tag)
  have e5 := hSetItemU_ok_C08b (H2.set H.length (tagObjC08b nm ws (H.length + 1) (H.length + 3))) "TagList" nl data m
    (mkRefC08b "Tag" H.length) (by rw [List.getElem?_set_ne hn.symm, h35 nl (by omega), hfr1 nl hnlt]; exact hnl)
    (getElem?_lt_C08b hm)
  have hinst : isInstance (mkRefC08b "Tag" i) ["Tag"] = true := by simp [isInstance, mkRefC08b]
  have hids2 := (ITrees.icopyAll_ids kids (H.length + 4) (plainTrees_noTobj_C08b kids hplain)).1
  refine ⟨(H2.set H.length (tagObjC08b nm ws (H.length + 1) (H.length + 3))).set nl
    (tagListObjC08b (data.set m (mkRefC08b "Tag" H.length))), mkRefC08b "Tag" H.length, ?_, ?_, ?_, ?_, ?_⟩
  · simp only [copyPassC08b, hinst, if_true, hCopyDisp_tag_C08b]
    rw [HMC08b.run_bind_ok e1, HMC08b.run_bind_ok e2, HMC08b.run_bind_ok e3, HMC08b.run_bind_ok e4]
    exact e5
  · exact List.getElem?_set_self (by simp; omega)
  · simp only [ITree.icopy]
    refine ⟨rfl, vs', ⟨?_, ?_, ?_⟩, ?_⟩
    · rw [List.getElem?_set_ne hn]; exact List.getElem?_set_self (by omega)
    · rw [List.getElem?_set_ne (by omega), List.getElem?_set_ne (Nat.ne_of_lt (Nat.lt_succ_self _)), h35 _ (by omega)]
      exact hnew.attrs
    · rw [List.getElem?_set_ne (by omega), List.getElem?_set_ne (by omega)]; exact h32
    · refine ReprsC08b.frame H2 _ _ vs' h33 (fun j hj => ?_)
      have := hids2 j hj
      rw [List.getElem?_set_ne (by omega), List.getElem?_set_ne (by omega)]
  · simp only [ITree.icopy, List.length_set, h34]
  · intro j hj hjn
    rw [List.getElem?_set_ne (Ne.symm hjn), List.getElem?_set_ne (Nat.ne_of_gt hj), h35 j (by omega), hfr1 j hj]

mutual
  theorem passOK_all_C08b (h1 : Tag_copyHC08b_available = true) (h2 : copy_tag_nodesHC08b_available = true) (G : Globals)
      (x : ITree) (hp : plainTreeC08b x = true) : PassOKC08b G x := by
    cases x with
    | text s | html s | robj s =>
      exact passOK_kept_C08b G _ (by funext n; rfl) rfl (by intro H v hr; cases hr; simp [isInstance, builtinClasses, classBases])
    | mnode i n => exact passOK_mnode_C08b G i n
    | tag i a k nm ws at' kids =>
      have hk : plainTreesC08b kids = true := by simpa [plainTreeC08b] using hp
      exact passOK_tag_C08b h1 G i a k nm ws at' kids (listOK_of_loop_C08b h2 G kids (loopOK_all_C08b h1 h2 G kids hk)) hk
    | dep | tobjL | tobj1 => simp [plainTreeC08b] at hp
  theorem loopOK_all_C08b (h1 : Tag_copyHC08b_available = true) (h2 : copy_tag_nodesHC08b_available = true) (G : Globals)
      (ks : ITrees) (hp : plainTreesC08b ks = true) : LoopOKC08b G ks := by
    cases ks with
    | nil =>
      intro fuel H nl m pre' sufVals _ _ hnl hr _
      cases hr
      exact ⟨H, [], rfl, hnl, rfl, rfl, fun j _ _ => rfl⟩
    | cons h t =>
      simp only [plainTreesC08b, Bool.and_eq_true] at hp
      exact loopOK_cons_C08b G h t (passOK_all_C08b h1 h2 G h hp.1) (loopOK_all_C08b h1 h2 G t hp.2) hp.1
end

/-- **`_copy_tag_nodes` over the heap ↔ `ITrees.icopyAll`** — *partial*: for trees of Tags, strings, `HTML`, self-rendering objects
    and bare metadata nodes (`plainTreesC08b`).  Let the list object `l` hold the values `vs` standing for the model's children
    `ks` in the heap `H`.  Then `_copy_tag_nodes(l)` as the source has it returns the reference to a new list object — the first
    new id, `H.length` — whose items stand, in the heap afterwards, for the model's `icopyAll` of the children at the counter
    `H.length + 1` (every Tag with its new TagAttrDict and TagList at exactly the model's ids, every bare metadata node a
    new object, every other child the same value), the counter afterwards is the new heap's length, and every object that was
    in the heap is unchanged.
    What is missing for the full statement: dependencies (`HTMLDependency.__copy__` over the heap is translated and validated
    against the interpreter — op `srcc08b` — but not tied: its `deepcopy` of the item lists is a fuel-recursive primitive with a
    memo, and the model's `IDep.fresh` consumes an id for `source` also when it is None, so the ids do not correspond one for
    one) and un-expanded tagifiable objects (kept as they are; the model's `noTobj` guard). -/
theorem src_copy_tag_nodes_heap_C08b_partial (h1 : Tag_copyHC08b_available = true) (h2 : copy_tag_nodesHC08b_available = true)
    (G : Globals) (ks : ITrees) (hp : plainTreesC08b ks = true) (fuel : Nat) (H : List PVal) (l : Nat) (vs : List PVal)
    (hf : cpFuelKidsIC08b ks + 1 ≤ fuel) (hl : H[l]? = some (tagListObjC08b vs)) (hr : ReprsC08b H ks vs)
    (hids : ∀ j ∈ ks.idsAll, j < H.length) :
    ∃ H' vs', copy_tag_nodesHC08b G fuel (mkRefC08b "TagList" l) H = .ok (mkRefC08b "TagList" H.length, H')
      ∧ H'[H.length]? = some (tagListObjC08b vs')
      ∧ ReprsC08b H' (ks.icopyAll (H.length + 1)).1 vs'
      ∧ H'.length = (ks.icopyAll (H.length + 1)).2
      ∧ (∀ j, j < H.length → H'[j]? = H[j]?) := by
  obtain ⟨f, rfl⟩ : ∃ f, fuel = f + 1 := ⟨fuel - 1, by omega⟩
  exact listOK_of_loop_C08b h2 G ks (loopOK_all_C08b h1 h2 G ks hp) f H l vs (by omega) hl hr hids

/-- **Freshness and independence of `_copy_tag_nodes`** (partial, same trees): every mutable object of the copy — the new list
    and everything the model's `icopyAll` lists — has an id in `[H.length, H'.length)`, no id occurs twice, none is the id of
    an object of the original (`l` or an id below the original children), and replacing any object of the copy leaves every
    object that was in the heap before the call as it was -/
theorem src_copy_tag_nodes_fresh_C08b_partial (h1 : Tag_copyHC08b_available = true) (h2 : copy_tag_nodesHC08b_available = true)
    (G : Globals) (ks : ITrees) (hp : plainTreesC08b ks = true) (fuel : Nat) (H : List PVal) (l : Nat) (vs : List PVal)
    (hf : cpFuelKidsIC08b ks + 1 ≤ fuel) (hl : H[l]? = some (tagListObjC08b vs)) (hr : ReprsC08b H ks vs)
    (hids : ∀ j ∈ ks.idsAll, j < H.length) :
    ∃ H' vs', copy_tag_nodesHC08b G fuel (mkRefC08b "TagList" l) H = .ok (mkRefC08b "TagList" H.length, H')
      ∧ ReprsC08b H' (ks.icopyAll (H.length + 1)).1 vs'
      ∧ InR (H.length :: (ks.icopyAll (H.length + 1)).1.idsAll) H.length H'.length
      ∧ (∀ i ∈ H.length :: (ks.icopyAll (H.length + 1)).1.idsAll, i ∉ l :: ks.idsAll)
      ∧ (∀ i ∈ H.length :: (ks.icopyAll (H.length + 1)).1.idsAll, ∀ (o : PVal) (j : Nat), j < H.length →
          (H'.set i o)[j]? = H[j]?) := by
  obtain ⟨H', vs', e, _, hr', hlen, hfr⟩ := src_copy_tag_nodes_heap_C08b_partial h1 h2 G ks hp fuel H l vs hf hl hr hids
  have hin := ITrees.icopyAll_ids ks (H.length + 1) (plainTrees_noTobj_C08b ks hp)
  have hle := ITrees.icopyAll_le ks (H.length + 1)
  have hc : InR (H.length :: (ks.icopyAll (H.length + 1)).1.idsAll) H.length H'.length := by
    rw [hlen]; exact InR.cons hin hle
  have hlt := getElem?_lt_C08b hl
  refine ⟨H', vs', e, hr', hc, ?_, ?_⟩
  · intro i hi hm
    have := (hc.1 i hi).1
    rcases List.mem_cons.mp hm with rfl | hm
    · omega
    · have := hids i hm; omega
  · intro i hi o j hj
    have := (hc.1 i hi).1
    rw [List.getElem?_set_ne (by omega)]
    exact hfr j hj

/-! ### the hypotheses are satisfiable -/

/-- `div(class="x")("t", MetadataNode())` laid out from id 0 (Tag 0, its TagAttrDict 1, its TagList 2, the metadata node 3)
    and a list object 4 holding the tag -/
def exHeapC08b : List PVal :=
  [tagObjC08b ['d'] true 1 2, .dict (attrKvsC08b [(['c'], .plain ['x'])]),
   tagListObjC08b [.str ['t'], mkRefC08b "MetadataNode" 3], .obj "MetadataNode" [("n", .int 7)],
   tagListObjC08b [mkRefC08b "Tag" 0]]

def exTreeC08b : ITree :=
  .tag 0 1 2 ['d'] true [(['c'], .plain ['x'])] (.cons (.text ['t']) (.cons (.mnode 3 7) .nil))

example : TagAtC08b exHeapC08b 0 1 2 ['d'] true (attrKvsC08b [(['c'], .plain ['x'])])
      [.str ['t'], mkRefC08b "MetadataNode" 3]
    ∧ ReprsC08b exHeapC08b (.cons exTreeC08b .nil) [mkRefC08b "Tag" 0]
    ∧ plainTreesC08b (.cons exTreeC08b .nil) = true
    ∧ (∀ j ∈ (ITrees.cons exTreeC08b .nil).idsAll, j < exHeapC08b.length)
    ∧ exHeapC08b[4]? = some (tagListObjC08b [mkRefC08b "Tag" 0]) := by
  refine ⟨⟨rfl, rfl, rfl⟩, ?_, rfl, by decide, rfl⟩
  exact ⟨_, _, rfl, ⟨rfl, _, ⟨rfl, rfl, rfl⟩, ⟨_, _, rfl, rfl, ⟨_, _, rfl, ⟨rfl, rfl⟩, rfl⟩⟩⟩, rfl⟩

end HtmlVerif.SrcTie
