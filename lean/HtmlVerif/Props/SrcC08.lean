/-
Source tie (DESIGN §14) for C08: the Lean functions that `harness/pytranslate.py` (plug-in harness/pytr_c08.py) regenerates
from the *text* of `_equals_impl`, `Tag.__eq__`, `TagList.__eq__`, `HTMLDependency.__eq__` (a `mutual` group, recursion
through `==` on field values bounded by fuel) and of the views `Tag.__repr__`, `Tag._repr_html_`, `TagList.__repr__`,
`TagList._repr_html_` compute what the model computes (`Node.eqv` / `Nodes.eqvKids`, Model/Equality.lean; `reprView` /
`reprHtmlView`, Model/ReadOps.lean).

`==` on field values is the stated semantics of Py/PrimC08.lean (`pyEqWith`), which calls back into the translated
`__eq__` methods through `eqDispatch`.
* `src_equals_impl`: the regenerated `_equals_impl` on ANY instance `x` (class, `__dict__`) and ANY `y` is `equalsSpec`.
  The loop body is obtained by unification (`forIn_all_k`, the rule for a loop that returns on the first failing test);
  only one pass is examined.
* `src_eq_node` (mutual structural induction `eq_node` / `eq_kids` over the left operand): for every pair of covered trees
  (`eqCov`: no un-expanded tagifiable object — those compare by identity, which the fragment does not have) and any fuel
  ≥ 4·nesting + 2, Python's `a == b` on the embedded objects (`embE`: every library object with its whole `__dict__`) is
  `Node.eqv a b`; corollaries `src_Tag_eq`, `src_TagList_eq`, `src_HTMLDependency_eq`, `src_eq_not_instance`,
  `src_Tag_vs_TagList`.
* views: `src_Tag_repr` … `src_TagList_repr_html` (`= str(self)` for any `self`), `src_views_tag` / `src_views_list`.
`Tag.__str__`, `TagList.__str__`, `_render_tag_or_taglist` are not translated (see harness/pytr_c08.py).

Every theorem about a regenerated function takes `<fn>_available = true` and has its whole proof inside the second
alternative of `first | exact absurd h (by decide) | (…)`, so that it is vacuous (and still compiles) when the function has
left the translatable fragment.
-/
import HtmlVerif.Generated.Src
import HtmlVerif.Lemmas.SrcC08
import HtmlVerif.Model.ReadOps

namespace HtmlVerif.SrcTie
open HtmlVerif HtmlVerif.Py HtmlVerif.Generated.Src

/-- `_equals_impl(x, y)` as the source has it, for any instance `x` (class `c`, `__dict__` `fs`) and any `y`: False unless
    `y` is an instance of `x`'s class; otherwise the conjunction, in `__dict__` order and stopping at the first False, of
    `getattr(x, key, None) == getattr(y, key, None)` — with `==` the stated semantics of Py/PrimC08.lean over the
    translated `__eq__` methods one level of fuel down -/
theorem src_equals_impl (h : equals_impl_available = true) (G : Globals) (fuel : Nat) (c : String)
    (fs : List (String × PVal)) (y : PVal) :
    equals_impl G (fuel + 1) (.obj c fs) y = equalsSpec (eqD G fuel) c fs y := by
  first
  | exact absurd h (by decide)
  | (rw [equals_impl]
     simp only [ok_bind, pure_eq_ok, truthy_bool, equalsSpec]
     by_cases hi : isInstanceTypeOf y (.obj c fs) = true
     · simp only [hi, Bool.not_true, Bool.false_eq_true, if_false, if_true, pyObjDict]
       by_cases hp : (fs.any fun f => pseudoField f.1) = true
       · simp only [hp, if_true, throw_eq_error, error_bind]
       · simp only [hp, Bool.false_eq_true, if_false, pure_eq_ok, ok_bind, pyKeys, pyIter_list, List.map_map]
         refine (forIn_all_k (fun kv : String × PVal => PVal.str kv.1.toList) fs _ (fieldTest (eqD G fuel) (.obj c fs) y)
           (PVal.bool false) _ ?h0 ?step _ (fun o => match o with | some r => .ok r | none => .ok (.bool true)) ?hk).trans ?fin
         case h0 => rfl
         case hk => intro s; obtain ⟨s1, s2⟩ := s; cases s1 <;> rfl
         case step =>
           intro kv _ s hs
           obtain ⟨s1, s2⟩ := s
           simp only at hs; subst hs
           simp only [fieldTest]
           cases pyGetAttrD (.obj c fs) (.str kv.1.toList) .none with
           | error e => rfl
           | ok a =>
             cases pyGetAttrD y (.str kv.1.toList) .none with
             | error e => rfl
             | ok b =>
               simp only [ok_bind, pyEqDeep]
               cases pyEqWith (eqD G fuel) a b with
               | error e => rfl
               | ok r => cases r <;> simp
         case fin =>
           cases allOk (fieldTest (eqD G fuel) (.obj c fs) y) fs with
           | error e => rfl
           | ok b => cases b <;> rfl
     · simp only [hi, Bool.false_eq_true, if_false, Bool.not_false, if_true])

theorem src_Tag_eq_def (h : Tag_eq_available = true) (G : Globals) (fuel : Nat) (x y : PVal) :
    Tag_eq G (fuel + 1) x y = equals_impl G fuel x y := by
  first
  | exact absurd h (by decide)
  | (rw [Tag_eq]
     all_goals (simp only [pure_eq_ok]; cases equals_impl G fuel x y <;> rfl))

theorem src_TagList_eq_def (h : TagList_eq_available = true) (G : Globals) (fuel : Nat) (x y : PVal) :
    TagList_eq G (fuel + 1) x y = equals_impl G fuel x y := by
  first
  | exact absurd h (by decide)
  | (rw [TagList_eq]
     all_goals (simp only [pure_eq_ok]; cases equals_impl G fuel x y <;> rfl))

theorem src_HTMLDependency_eq_def (h : HTMLDependency_eq_available = true) (G : Globals) (fuel : Nat) (x y : PVal) :
    HTMLDependency_eq G (fuel + 1) x y = equals_impl G fuel x y := by
  first
  | exact absurd h (by decide)
  | (rw [HTMLDependency_eq]
     all_goals (simp only [pure_eq_ok]; cases equals_impl G fuel x y <;> rfl))

/-- availability of the whole group -/
structure EqAvail : Prop where
  impl : equals_impl_available = true
  tag : Tag_eq_available = true
  list : TagList_eq_available = true
  dep : HTMLDependency_eq_available = true

theorem src_eq_dispatch (av : EqAvail) (G : Globals) (fuel : Nat) (c : String) (fs : List (String × PVal)) (y : PVal)
    (hc : eqLibClass c = true) :
    eqD G (fuel + 2) (.obj c fs) y = equalsSpec (eqD G fuel) c fs y := by
  simp only [eqLibClass, Bool.or_eq_true, beq_iff_eq] at hc
  rcases hc with (rfl | rfl) | rfl <;>
    simp only [eqD, eqDispatch, pyClassOf, src_Tag_eq_def av.tag, src_TagList_eq_def av.list, src_HTMLDependency_eq_def av.dep,
      src_equals_impl av.impl]

theorem eq_builtin_lib (av : EqAvail) (G : Globals) (f : Nat) (a : PVal) (c : String) (fs)
    (ha : eqKind a = .builtin) (hc : eqLibClass c = true) :
    pyEqWith (eqD G (f + 2)) a (.obj c fs) = .ok false ∧ pyEqWith (eqD G (f + 2)) (.obj c fs) a = .ok false := by
  constructor
  · rw [pyEqWith_builtin_lib _ _ _ _ ha hc, src_eq_dispatch av _ _ _ _ _ hc,
      equalsSpec_not_inst _ _ _ _ (not_inst_builtin _ _ _ (unwrapHtml_builtin a ha) hc)]
    rfl
  · rw [pyEqWith_lib _ _ _ _ hc (by rw [ha]; simp), src_eq_dispatch av _ _ _ _ _ hc,
      equalsSpec_not_inst _ _ _ _ (not_inst_builtin _ _ _ ha hc)]
    rfl

theorem eq_leaf_step (av : EqAvail) (G : Globals) (f : Nat) (a b : Node) (ha : eqFuel a = 0) (hca : eqCov a = true)
    (hb : eqCov b = true) :
    pyEqWith (eqD G (f + 2)) (embE a) (embE b) = .ok (a.eqv b) := by
  cases a with
  | tag | dep => simp [eqFuel] at ha
  | tobjL | tobj1 => simp [eqCov] at hca
  | text s | html s =>
    cases b with
    | tobjL | tobj1 => simp [eqCov] at hb
    | tag | dep => exact (eq_builtin_lib av G f _ _ _ rfl rfl).1
    | text t | html t => rfl
    | _ => simp [embE, pyEqWith, pyEqFlat, eqKind, eqLibClass, eqHelperField, Node.eqv]
  | robj s | mnode s =>
    cases b with
    | tobjL | tobj1 => simp [eqCov] at hb
    | _ =>
      simp [embE, pyEqWith_flat_obj, pyEqFlat, eqKind, eqLibClass, eqHelperField, eqHelper, fieldGet?, eqScalar, eq_natCast_beq,
        Node.eqv]

theorem eq_taglist_step (av : EqAvail) (G : Globals) (k k' : Nodes) (f : Nat)
    (HK : pyEqListWith (eqD G f) (embEs k) (embEs k') = .ok (k.eqvKids k')) :
    pyEqWith (eqD G (f + 2)) (eqTagList (embEs k)) (eqTagList (embEs k')) = .ok (k.eqvKids k') := by
  unfold eqTagList
  rw [pyEqWith_lib _ _ _ _ rfl (by simp [eqKind, eqLibClass]), src_eq_dispatch av _ _ _ _ _ rfl]
  simp [equalsSpec, isInstanceTypeOf, isInstance, pyClassOf, pseudoField, allOk, fieldTest, pyGetAttrD, fieldGet?,
    pyEqWith_list_list, embEs_length, HK]
  by_cases hl : k.length = k'.length
  · simp [hl]
    cases k.eqvKids k' <;> rfl
  · have : k.eqvKids k' = false := by
      cases hq : k.eqvKids k' with
      | false => rfl
      | true => exact absurd (Nodes.eqvKids_length k k' hq) hl
    simp [hl, this]
    rfl

theorem eq_tag_step (av : EqAvail) (G : Globals) (n : Str) (w : Bool) (a : Attrs) (k : Nodes) (b : Node) (f : Nat)
    (hb : eqCov b = true)
    (HK : ∀ k', eqCovKids k' = true → pyEqListWith (eqD G f) (embEs k) (embEs k') = .ok (k.eqvKids k')) :
    pyEqWith (eqD G (f + 4)) (embE (.tag n w a k)) (embE b) = .ok ((Node.tag n w a k).eqv b) := by
  have hlib : eqLibClass "Tag" = true := rfl
  rw [embE, pyEqWith_lib _ _ _ _ hlib (eqKind_embE b hb), src_eq_dispatch av _ _ _ _ _ hlib]
  cases b with
  | tag n' w' a' k' =>
    have hk := eq_taglist_step av G k k' f (HK k' (by simpa [eqCov] using hb))
    have := equalsSpec_pairs (eqD G (f + 2)) "Tag"
      [("name", .str n, .str n', n == n'), ("add_ws", .bool w, .bool w', w == w'),
       ("attrs", embAttrs a, embAttrs a', attrsEqv a a'), ("children", eqTagList (embEs k), eqTagList (embEs k'), k.eqvKids k'),
       ("prev_displayhook", .none, .none, true)]
      (by simp) (by simp [pseudoField])
      (by simp [pyEqWith_str_str, pyEqWith_bool_bool, pyEqWith_attrs, pyEqWith_none_none, hk])
    simpa [embE, Node.eqv, Bool.and_assoc, asBool] using congrArg (· >>= asBool) this
  | tobjL | tobj1 => simp [eqCov] at hb
  | _ =>
    rw [equalsSpec_not_inst _ _ _ _ (not_inst_lib _ _ _ hlib (by simp [embE, pyClassOf]))]
    rfl

theorem eq_dep_step (av : EqAvail) (G : Globals) (d : DepInfo) (hh : Bool) (k : Nodes) (b : Node) (f : Nat)
    (ha : eqCov (.dep d hh k) = true) (hb : eqCov b = true)
    (HK : ∀ k', eqCovKids k' = true → pyEqListWith (eqD G f) (embEs k) (embEs k') = .ok (k.eqvKids k')) :
    pyEqWith (eqD G (f + 4)) (embE (.dep d hh k)) (embE b) = .ok ((Node.dep d hh k).eqv b) := by
  have hlib : eqLibClass "HTMLDependency" = true := rfl
  rw [embE, pyEqWith_lib _ _ _ _ hlib (eqKind_embE b hb), src_eq_dispatch av _ _ _ _ _ hlib]
  cases b with
  | dep d' hh' k' =>
    have hcb : eqCovKids k' = true ∧ (hh' = true ∨ Nodes.isNil k' = true) := by simpa [eqCov] using hb
    have hca : eqCovKids k = true ∧ (hh = true ∨ Nodes.isNil k = true) := by simpa [eqCov] using ha
    have hk := eq_taglist_step av G k k' f (HK k' hcb.1)
    have hhead : pyEqWith (eqD G (f + 2)) (if hh then eqTagList (embEs k) else .none) (if hh' then eqTagList (embEs k') else .none)
        = .ok (hh == hh' && k.eqvKids k') := by
      cases hh <;> cases hh'
      · have h1 : k = .nil := by cases k <;> simp_all [Nodes.isNil]
        have h2 : k' = .nil := by cases k' <;> simp_all [Nodes.isNil]
        subst h1 h2; rfl
      · exact (eq_builtin_lib av G f .none "TagList" _ rfl rfl).1
      · exact (eq_builtin_lib av G f .none "TagList" _ rfl rfl).2
      · simpa using hk
    have := equalsSpec_pairs (eqD G (f + 2)) "HTMLDependency"
      [("name", .str d.name, .str d'.name, d.name == d'.name), ("version", embEVersion d, embEVersion d', d.vrank == d'.vrank),
       ("source", embESource d.source, embESource d'.source, sourceEqv d.source d'.source),
       ("script", embEKvs d.script, embEKvs d'.script, kvDictsEqv d.script d'.script),
       ("stylesheet", embEKvs d.stylesheet, embEKvs d'.stylesheet, kvDictsEqv d.stylesheet d'.stylesheet),
       ("meta", embEKvs d.metas, embEKvs d'.metas, kvDictsEqv d.metas d'.metas),
       ("all_files", .bool d.allFiles, .bool d'.allFiles, d.allFiles == d'.allFiles),
       ("head", if hh then eqTagList (embEs k) else .none, if hh' then eqTagList (embEs k') else .none, hh == hh' && k.eqvKids k')]
      (by simp) (by simp [pseudoField])
      (by simp [pyEqWith_str_str, pyEqWith_bool_bool, pyEqWith_version, pyEqWith_source, pyEqWith_ekvs, hhead])
    simpa [embE, Node.eqv, depInfoEqv, Bool.and_assoc, asBool] using congrArg (· >>= asBool) this
  | tobjL | tobj1 => simp [eqCov] at hb
  | _ =>
    rw [equalsSpec_not_inst _ _ _ _ (not_inst_lib _ _ _ hlib (by simp [embE, pyClassOf]))]
    rfl

theorem eq_kids_cons (o : PVal → PVal → PyM PVal) (h : Node) (t : Nodes) (k' : Nodes)
    (Hh : ∀ b, eqCov b = true → pyEqWith o (embE h) (embE b) = .ok (h.eqv b))
    (Ht : ∀ k'', eqCovKids k'' = true → pyEqListWith o (embEs t) (embEs k'') = .ok (t.eqvKids k''))
    (hk' : eqCovKids k' = true) :
    pyEqListWith o (embEs (.cons h t)) (embEs k') = .ok ((Nodes.cons h t).eqvKids k') := by
  cases k' with
  | nil => rfl
  | cons y u =>
    have hc : eqCov y = true ∧ eqCovKids u = true := by simpa [eqCovKids] using hk'
    simp only [embEs, pyEqListWith, Hh y hc.1, ok_bind, Nodes.eqvKids]
    cases h.eqv y
    · rfl
    · simpa using Ht u hc.2

mutual
  theorem eq_node (av : EqAvail) (G : Globals) : (a : Node) → ∀ (b : Node) (fuel : Nat), eqCov a = true → eqCov b = true →
      eqFuel a + 2 ≤ fuel → pyEqWith (eqD G fuel) (embE a) (embE b) = .ok (a.eqv b)
    | .tag n w at' k, b, fuel, ha, hb, hf => by
      have hf' : eqFuelKids k + 6 ≤ fuel := by simpa [eqFuel] using hf
      obtain ⟨f, rfl⟩ : ∃ f, fuel = f + 4 := ⟨fuel - 4, by omega⟩
      exact eq_tag_step av G n w at' k b f hb
        (fun k' hk' => eq_kids av G k k' f (by simpa [eqCov] using ha) hk' (by omega))
    | .dep d hh k, b, fuel, ha, hb, hf => by
      have hf' : eqFuelKids k + 6 ≤ fuel := by simpa [eqFuel] using hf
      obtain ⟨f, rfl⟩ : ∃ f, fuel = f + 4 := ⟨fuel - 4, by omega⟩
      have hck : eqCovKids k = true := by
        have : eqCovKids k = true ∧ (hh = true ∨ Nodes.isNil k = true) := by simpa [eqCov] using ha
        exact this.1
      exact eq_dep_step av G d hh k b f ha hb (fun k' hk' => eq_kids av G k k' f hck hk' (by omega))
    | .text _, b, fuel, ha, hb, hf | .html _, b, fuel, ha, hb, hf | .robj _, b, fuel, ha, hb, hf
    | .mnode _, b, fuel, ha, hb, hf => by
      obtain ⟨f, rfl⟩ : ∃ f, fuel = f + 2 := ⟨fuel - 2, by omega⟩
      exact eq_leaf_step av G f _ b rfl ha hb
    | .tobjL _ _, _, _, ha, _, _ | .tobj1 _ _, _, _, ha, _, _ => by simp [eqCov] at ha
  theorem eq_kids (av : EqAvail) (G : Globals) : (k : Nodes) → ∀ (k' : Nodes) (fuel : Nat), eqCovKids k = true →
      eqCovKids k' = true → eqFuelKids k + 2 ≤ fuel →
      pyEqListWith (eqD G fuel) (embEs k) (embEs k') = .ok (k.eqvKids k')
    | .nil, k', _, _, _, _ => by cases k' <;> rfl
    | .cons h t, k', fuel, hk, hk', hf => by
      have hc : eqCov h = true ∧ eqCovKids t = true := by simpa [eqCovKids] using hk
      have hf' : eqFuel h + 2 ≤ fuel ∧ eqFuelKids t + 2 ≤ fuel := by simp [eqFuelKids] at hf; omega
      exact eq_kids_cons _ h t k' (fun b hb => eq_node av G h b fuel hc.1 hb hf'.1)
        (fun k'' hk'' => eq_kids av G t k'' fuel hc.2 hk'' hf'.2) hk'
end

theorem asBool_bind_ok {x : PyM PVal} {r : Bool} (h : (x >>= asBool) = .ok r) : x = .ok (.bool r) := by
  cases x with
  | error e => cases h
  | ok v =>
    cases v with
    | bool b =>
      have hb : b = r := by simpa [asBool] using h
      rw [hb]
    | _ => simp [asBool] at h

/-- Python's `a == b` (Py/PrimC08.lean over the translated `__eq__` methods) between any two objects of covered trees:
    the model's `Node.eqv` -/
theorem src_eq_node (av : EqAvail) (G : Globals) (a b : Node) (fuel : Nat) (ha : eqCov a = true) (hb : eqCov b = true)
    (hf : eqFuel a + 2 ≤ fuel) :
    pyEqWith (eqD G fuel) (embE a) (embE b) = .ok (a.eqv b) :=
  eq_node av G a b fuel ha hb hf

/-- `Tag.__eq__(self, other)` as the source has it (through `_equals_impl` and, for the children and the attributes, the
    `==` of the contained values) = `Node.eqv`, for every covered tag and every covered `other` (tag or not) -/
theorem src_Tag_eq (av : EqAvail) (G : Globals) (n : Str) (w : Bool) (at' : Attrs) (k : Nodes) (b : Node) (fuel : Nat)
    (ha : eqCov (.tag n w at' k) = true) (hb : eqCov b = true) (hf : eqFuel (.tag n w at' k) + 2 ≤ fuel) :
    Tag_eq G fuel (embE (.tag n w at' k)) (embE b) = .ok (.bool ((Node.tag n w at' k).eqv b)) := by
  have h := eq_node av G (.tag n w at' k) b fuel ha hb hf
  rw [embE, pyEqWith_lib _ _ _ _ rfl (eqKind_embE b hb)] at h
  simpa only [embE, eqD, eqDispatch, pyClassOf] using asBool_bind_ok h

/-- `HTMLDependency.__eq__(self, other)` as the source has it = `Node.eqv` (name, version by rank, source, script,
    stylesheet, meta, all_files, head) -/
theorem src_HTMLDependency_eq (av : EqAvail) (G : Globals) (d : DepInfo) (hh : Bool) (k : Nodes) (b : Node) (fuel : Nat)
    (ha : eqCov (.dep d hh k) = true) (hb : eqCov b = true) (hf : eqFuel (.dep d hh k) + 2 ≤ fuel) :
    HTMLDependency_eq G fuel (embE (.dep d hh k)) (embE b) = .ok (.bool ((Node.dep d hh k).eqv b)) := by
  have h := eq_node av G (.dep d hh k) b fuel ha hb hf
  rw [embE, pyEqWith_lib _ _ _ _ rfl (eqKind_embE b hb)] at h
  simpa only [embE, eqD, eqDispatch, pyClassOf] using asBool_bind_ok h

/-- `TagList.__eq__(self, other)` as the source has it, between two child lists = `Nodes.eqvKids` (same length, equal
    position by position) -/
theorem src_TagList_eq (av : EqAvail) (G : Globals) (k k' : Nodes) (fuel : Nat)
    (hk : eqCovKids k = true) (hk' : eqCovKids k' = true) (hf : eqFuelKids k + 4 ≤ fuel) :
    TagList_eq G fuel (eqTagList (embEs k)) (eqTagList (embEs k')) = .ok (.bool (k.eqvKids k')) := by
  obtain ⟨f, rfl⟩ : ∃ f, fuel = f + 2 := ⟨fuel - 2, by omega⟩
  have h := eq_taglist_step av G k k' f (eq_kids av G k k' f hk hk' (by omega))
  rw [eqTagList, pyEqWith_lib _ _ _ _ rfl (by simp [eqTagList, eqKind, eqLibClass])] at h
  exact asBool_bind_ok h

/-- an instance of one of the three classes against anything that is not an instance of its class (a `Tag` against a
    `TagList`, a string, `None`, …): False -/
theorem src_eq_not_instance (av : EqAvail) (G : Globals) (fuel : Nat) (c : String) (fs : List (String × PVal)) (y : PVal)
    (hc : eqLibClass c = true) (hy : isInstanceTypeOf y (.obj c fs) = false) :
    eqD G (fuel + 2) (.obj c fs) y = .ok (.bool false) := by
  rw [src_eq_dispatch av _ _ _ _ _ hc, equalsSpec_not_inst _ _ _ _ hy]

/-- `tag == taglist` and `taglist == tag` are False whatever they contain -/
theorem src_Tag_vs_TagList (av : EqAvail) (G : Globals) (fuel : Nat) (n : Str) (w : Bool) (at' : Attrs) (k : Nodes)
    (l : List PVal) :
    Tag_eq G (fuel + 2) (embE (.tag n w at' k)) (eqTagList l) = .ok (.bool false)
    ∧ TagList_eq G (fuel + 2) (eqTagList l) (embE (.tag n w at' k)) = .ok (.bool false) := by
  constructor
  · have := src_eq_not_instance av G fuel "Tag" _ (eqTagList l) rfl
      (by simp [embE, eqTagList, isInstanceTypeOf, isInstance, classBases, pyClassOf] :
        isInstanceTypeOf (eqTagList l) (embE (.tag n w at' k)) = false)
    simpa only [eqD, eqDispatch, pyClassOf, embE] using this
  · have := src_eq_not_instance av G fuel "TagList" [("data", .list l)] (embE (.tag n w at' k)) rfl
      (by simp [embE, isInstanceTypeOf, isInstance, classBases, pyClassOf])
    simpa only [eqD, eqDispatch, pyClassOf, eqTagList] using this

section Views
open HtmlVerif.Ident

/-- `Tag.__repr__` as the source has it is `str(self)`, whatever `self` is -/
theorem src_Tag_repr (h : Tag_repr_available = true) (G : Globals) (x : PVal) : Tag_repr G x = pyStr x := by
  first
  | exact absurd h (by decide)
  | (unfold Tag_repr
     cases hx : pyStr x <;> simp [hx])

theorem src_Tag_repr_html (h : Tag_repr_html_available = true) (G : Globals) (x : PVal) : Tag_repr_html G x = pyStr x := by
  first
  | exact absurd h (by decide)
  | (unfold Tag_repr_html
     cases hx : pyStr x <;> simp [hx])

theorem src_TagList_repr (h : TagList_repr_available = true) (G : Globals) (x : PVal) : TagList_repr G x = pyStr x := by
  first
  | exact absurd h (by decide)
  | (unfold TagList_repr
     cases hx : pyStr x <;> simp [hx])

theorem src_TagList_repr_html (h : TagList_repr_html_available = true) (G : Globals) (x : PVal) :
    TagList_repr_html G x = pyStr x := by
  first
  | exact absurd h (by decide)
  | (unfold TagList_repr_html
     cases hx : pyStr x <;> simp [hx])

/-- the views of the model (Model/ReadOps.lean): for any object `x` standing for the tag `n` whose `str(x)` is the model's
    `strView` (in whatever dependency render mode), `repr(x)` and `x._repr_html_()` as the source has them are the model's
    `reprView` and `reprHtmlView` — errors included -/
theorem src_views_tag (h1 : Tag_repr_available = true) (h2 : Tag_repr_html_available = true) (G : Globals) (x : PVal)
    (cfg : Cfg) (m : RenderMode) (n : Node) (hs : pyStr x = embRes PVal.str (strView cfg m n)) :
    Tag_repr G x = embRes PVal.str (reprView cfg m n) ∧ Tag_repr_html G x = embRes PVal.str (reprHtmlView cfg m n) :=
  ⟨(src_Tag_repr h1 G x).trans hs, (src_Tag_repr_html h2 G x).trans hs⟩

/-- the same for a child list -/
theorem src_views_list (h1 : TagList_repr_available = true) (h2 : TagList_repr_html_available = true) (G : Globals) (x : PVal)
    (cfg : Cfg) (m : RenderMode) (ks : Nodes) (hs : pyStr x = embRes PVal.str (strViewList cfg m ks)) :
    TagList_repr G x = embRes PVal.str (reprViewList cfg m ks)
    ∧ TagList_repr_html G x = embRes PVal.str (reprHtmlViewList cfg m ks) :=
  ⟨(src_TagList_repr h1 G x).trans hs, (src_TagList_repr_html h2 G x).trans hs⟩

end Views

end HtmlVerif.SrcTie
