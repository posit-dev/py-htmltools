/-
C14 — Child lists hold only normalised nodes after any sequence of operations.

Model: Model/Children.lean (the code's flatten-then-convert, the TagList/Tag operations over
`Stored = node n | raw a`).  Specification: Spec/Children.lean (`flatSpec`, `specStep`).
`+=` and `is_tag_child(int)` are modelled as the property demands (F-C14a, F-C14b); the behaviour the
pinned tree inherits from `UserList` is `TL.iaddInherited`, shown below to break the invariant.
-/
import HtmlVerif.Lemmas.Children

namespace HtmlVerif.C14
open HtmlVerif

/-! ### 1. flatten-then-convert (the code) is the one-pass flattening (the statement) -/

/-- `_tagchilds_to_tagnodes`'s two phases — `flatten`, then the number/type loop — compute exactly the
    depth-first, left-to-right specification; in particular every element produced is a `node` -/
theorem C14_toNodes_is_spec (items : Args) :
    convertLoop (flatten items) = mapOk (List.map Stored.node) items.spec :=
  Args.convert_flatten items

/-- `_tagchilds_to_tagnodes(x)` for any operand `x` (str kept whole, other iterables iterated) -/
theorem C14_tagnodes_is_spec (x : Arg) :
    chTagchildsToTagnodes x = mapOk (List.map Stored.node) (operandSpec x) := by
  unfold chTagchildsToTagnodes operandSpec childrenOf
  by_cases hs : x.isStr = true
  · unfold Arg.isStr at hs
    split at hs
    · rfl
    · cases hs
  · simp only [hs]
    cases x.iter with
    | error e => rfl
    | ok items =>
      show _ = mapOk _ (flatSpec items.toList)
      rw [flatSpec, Args.ofList_toList]
      exact Args.convert_flatten items

/-- `TagList(*args)` -/
theorem C14_init_is_spec (args : List Arg) :
    TL.init args = mapOk (List.map Stored.node) (flatSpec args) := by
  rw [TL.init, C14_tagnodes_is_spec, operandSpec_tuple, Args.toList_ofList]

/-! the specification really is the flattening the statement describes -/

/-- None is dropped -/
theorem C14_flatSpec_none (r : List Arg) : flatSpec (.none :: r) = flatSpec r := by
  rw [flatSpec_cons]
  cases flatSpec r <;> rfl

/-- a number contributes its `str()` text, in place -/
theorem C14_flatSpec_num (k : NumKind) (t : Str) (r : List Arg) :
    flatSpec (.num k t :: r) = mapOk (Node.text t :: ·) (flatSpec r) := by
  rw [flatSpec_cons]
  rfl

/-- a string (or any other node) is kept whole, in place -/
theorem C14_flatSpec_node (n : Node) (r : List Arg) :
    flatSpec (.node n :: r) = mapOk (n :: ·) (flatSpec r) := by
  rw [flatSpec_cons]
  rfl

/-- nested lists, tuples and TagLists are spliced -/
theorem C14_flatSpec_splice (xs : Args) (r : List Arg) :
    flatSpec (.list xs :: r) = flatSpec (xs.toList ++ r)
    ∧ flatSpec (.tuple xs :: r) = flatSpec (xs.toList ++ r)
    ∧ flatSpec (.taglist xs :: r) = flatSpec (xs.toList ++ r) := by
  have h : flatSpec xs.toList = xs.spec := by rw [flatSpec, Args.ofList_toList]
  simp only [flatSpec_cons, flatSpec_append, h, Arg.spec, and_self]

/-- success is exactly "every supplied value has a supported type, at every depth" -/
theorem C14_flatSpec_ok_iff (args : List Arg) :
    (∃ ns, flatSpec args = .ok ns) ↔ ∀ a ∈ args, a.supported = true := by
  have h := flatSpec_supported args
  rw [← List.all_eq_true]
  split at h
  · exact ⟨fun _ => ‹_›, fun _ => h⟩
  · simp [*]

/-- and the only failure is TypeError -/
theorem C14_flatSpec_error (args : List Arg) (e : Err) (h : flatSpec args = .error e) : e = .typeError :=
  Args.spec_error h

/-! ### 2. every operation refines its specification -/

/-! On any receiver `s`, normalised or not, each operation is `x = <new list>` for a new list that may fail:
    the in-place ones put the nodes of their operand between elements of `s`, the others build a `TagList(...)`. -/

theorem extend_eq (s : TL) (x : Arg) :
    s.extend x = rebind s (mapOk (fun ns => s ++ ns.map .node) (operandSpec x)) := by
  rw [TL.extend, C14_tagnodes_is_spec]
  cases operandSpec x <;> rfl

theorem append_eq (s : TL) (a : Arg) (r : List Arg) :
    s.append (a :: r) = rebind s (mapOk (fun ns => s ++ ns.map .node) (flatSpec (a :: r))) := by
  rw [TL.append, extend_eq, operandSpec_list, Args.toList_ofList]

theorem insert_eq (s : TL) (i : Int) (a : Arg) :
    s.insert i a = rebind s (mapOk
      (fun ns => s.take (clampIdx s.length i) ++ ns.map .node ++ s.drop (clampIdx s.length i)) (flatSpec [a])) := by
  rw [TL.insert, C14_tagnodes_is_spec, operandSpec_list, Args.toList, Args.toList]
  cases flatSpec [a] <;> rfl

theorem add_eq (s : TL) (a : Arg) :
    s.add a = match childrenOf a with
      | .ok cs => TL.init (s.toArg :: cs)
      | .error e => .error e := by
  unfold TL.add childrenOf
  split
  · rfl
  · cases a.iter <;> rfl

theorem radd_eq (s : TL) (a : Arg) :
    s.radd a = match childrenOf a with
      | .ok cs => TL.init (cs ++ [s.toArg])
      | .error e => .error e := by
  unfold TL.radd childrenOf
  split
  · rfl
  · cases a.iter <;> rfl

/-- one operation on a list that holds the nodes `s`: the outcome is the specified one (and on an error
    the list is what it was) -/
theorem C14_step_refines (s : List Node) (op : Op) :
    step (s.map Stored.node) op = StepOut.ofSpec s (specStep s op) := by
  rw [StepOut.ofSpec_eq]
  cases op <;> simp only [step, specStep, TL.iadd, TL.slice, TL.mul, TL.imul, resolve_nodes, toArg_nodes,
    C14_init_is_spec, extend_eq, insert_eq, add_eq, radd_eq, operandSpec, pySlice_map, rep_map, flatSpec_list_nodes,
    mapOk_mapOk, List.map_append, List.map_take, List.map_drop, List.length_map]
  case append args =>
    cases args with
    | nil => rfl
    | cons a r => simp only [List.map_cons, append_eq, mapOk_mapOk, List.map_append]
  case add =>
    cases childrenOf _ with
    | error e => rfl
    | ok cs => simp only [flatSpec_cons, selfArg_spec, both, mapOk_mapOk, List.map_append]
  case radd =>
    cases childrenOf _ with
    | error e => rfl
    | ok cs =>
      simp only [flatSpec_append, flatSpec_singleton, selfArg_spec]
      cases flatSpec cs <;> simp
  case slice => split <;> rfl
  case imul => rfl

/-- any history, started on a list of nodes, leaves exactly what the specification says -/
theorem C14_ops_refine (ops : List Op) (s : List Node) :
    runOps (s.map Stored.node) ops = (specOps s ops).map Stored.node := by
  induction ops generalizing s with
  | nil => rfl
  | cons op r ih =>
    simp only [runOps, specOps, C14_step_refines]
    cases specStep s op <;> simp [StepOut.ofSpec, ih]

/-- … and every intermediate outcome (value or exception, and the list after it) is the specified one -/
theorem C14_trace_refines (ops : List Op) (s : List Node) :
    trace (s.map Stored.node) ops = specTrace s ops := by
  induction ops generalizing s with
  | nil => rfl
  | cons op r ih =>
    simp only [trace, specTrace, C14_step_refines]
    cases specStep s op <;> simp [StepOut.ofSpec, ih]

/-- where `insert` writes (Python's `self[i:i] = …`): inside the list, at `i` for `0 ≤ i ≤ len`, at `len - k` for
    `i = -k`; and a slice or a repetition of a list only contains elements of that list -/
theorem C14_positions (len : Nat) :
    (∀ i : Int, clampIdx len i ≤ len)
    ∧ (∀ i : Nat, i ≤ len → clampIdx len (i : Int) = i)
    ∧ (∀ k : Nat, 0 < k → clampIdx len (-(k : Int)) = len - k)
    ∧ (∀ (s : List Node) lo hi st, ∀ x ∈ pySlice s lo hi st, x ∈ s)
    ∧ (∀ (s : List Node) n, ∀ x ∈ rep n s, x ∈ s) := by
  refine ⟨fun i => ?_, fun i h => ?_, fun k hk => ?_, fun s lo hi st x h => ?_, fun s n x h => ?_⟩
  · rw [clampIdx]
    split
    · omega
    · exact Nat.min_le_right ..
  · rw [clampIdx, if_neg (by omega), Int.toNat_natCast, Nat.min_eq_left h]
  · rw [clampIdx, if_pos (by omega), Int.add_comm, ← Int.sub_eq_add_neg, Int.toNat_sub]
  · simp only [pySlice, List.mem_filterMap] at h
    obtain ⟨i, _, hi⟩ := h
    exact List.mem_of_getElem? hi
  · simp only [rep, List.mem_flatten, List.mem_replicate] at h
    obtain ⟨l', ⟨_, rfl⟩, hx⟩ := h
    exact hx

/-! ### 3. the invariant, over arbitrary histories -/

/-- whatever `_tagchilds_to_tagnodes` returns consists of nodes only — for *any* operand, including a
    TagList whose own data is not normalised -/
theorem C14_normalise_inv (x : Arg) (r : TL) (h : chTagchildsToTagnodes x = .ok r) : Inv r := by
  rw [C14_tagnodes_is_spec] at h
  generalize operandSpec x = q at h
  cases q with
  | error e => cases h
  | ok ns => cases h; exact inv_nodes ns

/-- the operations that build a new list establish the invariant from *any* receiver state -/
theorem C14_new_lists_inv (s : TL) (r : TL) :
    (∀ args, TL.init args = .ok r → Inv r)
    ∧ (∀ a, s.add a = .ok r → Inv r)
    ∧ (∀ a, s.radd a = .ok r → Inv r)
    ∧ (∀ lo hi st, s.slice lo hi st = .ok r → Inv r)
    ∧ (∀ n, s.mul n = .ok r → Inv r) := by
  have hinit : ∀ args, TL.init args = .ok r → Inv r := fun _ => C14_normalise_inv _ r
  refine ⟨hinit, fun a h => ?_, fun a h => ?_, fun lo hi st h => ?_, fun n h => hinit _ h⟩
  · rw [add_eq] at h
    split at h
    · exact hinit _ h
    · cases h
  · rw [radd_eq] at h
    split at h
    · exact hinit _ h
    · cases h
  · rw [TL.slice] at h
    split at h
    · cases h
    · exact hinit _ h

/-- every operation preserves the invariant -/
theorem C14_step_inv (s : TL) (op : Op) (h : Inv s) : Inv (step s op).state := by
  rw [h.eq_nodes, C14_step_refines]
  cases specStep (TL.nodes s) op <;> exact inv_nodes _

/-- the invariant holds after any history -/
theorem C14_history_inv (ops : List Op) (s : TL) (h : Inv s) : Inv (runOps s ops) := by
  induction ops generalizing s with
  | nil => exact h
  | cons op r ih => exact ih _ (C14_step_inv s op h)

/-- in particular from the empty list (`TagList()`, or a fresh `Tag`'s children) -/
theorem C14_history_inv_from_empty (ops : List Op) : Inv (runOps [] ops) :=
  C14_history_inv ops [] (fun _ h => by cases h)

/-- `is_tag_node` holds for every stored element of a list satisfying the invariant … -/
theorem C14_stored_are_nodes (s : TL) (h : Inv s) : ∀ x ∈ s, x.isTagNode = true := by
  intro x hx
  cases x with
  | node n => exact n.isTagNode_true
  | raw a => cases h _ hx

/-- … hence after any history -/
theorem C14_history_stored_are_nodes (ops : List Op) (s : TL) (h : Inv s) :
    ∀ x ∈ runOps s ops, x.isTagNode = true :=
  C14_stored_are_nodes _ (C14_history_inv ops s h)

/-! ### 4. failure: TypeError, and the list is left unchanged -/

/-- atomicity, for every receiver state (normalised or not): an operation that raises leaves the list as it was -/
theorem C14_step_atomic (s : TL) (op : Op) (e : Err) (h : (step s op).result = .error e) :
    (step s op).state = s := by
  have : ∃ r, step s op = rebind s r := by
    cases op with
    | extend a | iadd a => exact ⟨_, extend_eq s _⟩
    | append args =>
      cases args with
      | nil => exact ⟨.error .typeError, rfl⟩
      | cons a r => exact ⟨_, append_eq s _ _⟩
    | insert i a => exact ⟨_, insert_eq s i _⟩
    | imul n => exact ⟨.ok _, rfl⟩
    | _ => exact ⟨_, rfl⟩
  obtain ⟨r, hr⟩ := this
  rw [hr] at h ⊢
  cases r with
  | ok v => cases h
  | error e' => rfl

/-- the only exception a child operation raises on a normalised list is TypeError (a zero slice step, which is
    not a child argument, is Python's ValueError) -/
theorem C14_step_error_kind (s : TL) (op : Op) (e : Err) (hs : Inv s) (h : (step s op).result = .error e) :
    e = .typeError ∨ (e = .valueError ∧ ∃ lo hi, op = .slice lo hi (some 0)) := by
  rw [hs.eq_nodes, C14_step_refines] at h
  cases hq : specStep (TL.nodes s) op with
  | ok v => rw [hq] at h; cases h
  | error e' => rw [hq] at h; cases h; exact specStep_error hq

/-- a child of unsupported type, at any depth of the supplied arguments, makes construction, `append` and
    `insert` raise TypeError and leaves the receiver — whatever it holds — unchanged -/
theorem C14_unsupported_rejected (s : TL) (args : List Arg) (h : ∃ a ∈ args, a.supported = false) :
    TL.init args = .error .typeError
    ∧ (s.append args).result = .error .typeError ∧ (s.append args).state = s
    ∧ (∀ i a, a.supported = false →
        (s.insert i a).result = .error .typeError ∧ (s.insert i a).state = s) := by
  have hf : flatSpec args = .error .typeError := by
    have := flatSpec_supported args
    rwa [if_neg (by simpa using h)] at this
  refine ⟨by rw [C14_init_is_spec, hf]; rfl, and_assoc.1 ⟨?_, fun i a ha => ?_⟩⟩
  · cases args with
    | nil => exact ⟨rfl, rfl⟩
    | cons a r => rw [append_eq, hf]; exact ⟨rfl, rfl⟩
  · rw [insert_eq, flatSpec_singleton, a.spec_of_unsupported ha]
    exact ⟨rfl, rfl⟩

/-! ### 5. is_tag_child accepts every value the operations accept -/

/-- every value of supported type is a TagChild (`int` and `bool` included: F-C14b) -/
theorem C14_tagchild_complete (a : Arg) (h : a.supported = true) : a.isTagChild = true := by
  cases a with
  | node n => exact n.isTagNode_true
  | seqLike k xs | bad k => cases h
  | _ => rfl

/-- stated on the operations themselves: whatever `TagList(...)`, `append` or `insert` accept as a child,
    `is_tag_child` accepts -/
theorem C14_accepted_is_tagchild (s : TL) (a : Arg) :
    ((∃ pre post r, TL.init (pre ++ a :: post) = .ok r) → a.isTagChild = true)
    ∧ ((∃ pre post, (s.append (pre ++ a :: post)).result = .ok ()) → a.isTagChild = true)
    ∧ ((∃ i, (s.insert i a).result = .ok ()) → a.isTagChild = true) := by
  cases hs : a.supported with
  | true =>
    have h := C14_tagchild_complete a hs
    exact ⟨fun _ => h, fun _ => h, fun _ => h⟩
  | false =>
    have hr := fun pre post => C14_unsupported_rejected s (pre ++ a :: post) ⟨a, by simp, hs⟩
    refine ⟨fun ⟨pre, post, r, h⟩ => ?_, fun ⟨pre, post, h⟩ => ?_, fun ⟨i, h⟩ => ?_⟩
    · cases (hr pre post).1.symm.trans h
    · cases (hr pre post).2.1.symm.trans h
    · cases ((hr [] []).2.2.2 i a hs).1.symm.trans h

/-! ### 6. Tag.insert / extend / append delegate to the children -/

/-- on a Tag, every operation other than construction acts on `children` by the same functions and touches
    nothing else -/
theorem C14_tag_delegates (t : TagM) (op : Op) (h : ∀ args, op ≠ .init args) :
    (tagStep t op).1 = (step t.children op).result
    ∧ (tagStep t op).2.children = (step t.children op).state
    ∧ (tagStep t op).2.name = t.name ∧ (tagStep t op).2.ws = t.ws ∧ (tagStep t op).2.attrs = t.attrs := by
  have : tagStep t op = t.withChildren (step t.children op) := by
    cases op with
    | init args => exact absurd rfl (h args)
    | _ => rfl
  rw [this]
  exact ⟨rfl, rfl, rfl, rfl, rfl⟩

/-- `Tag(name, *args)` gives its non-dict arguments to `TagList(*kids)` -/
theorem C14_tag_init (name : Str) (args : List Arg) (h : ∀ a ∈ args, a.isDict = false) :
    TagM.init name args = mapOk (fun c => (⟨name, true, [], c⟩ : TagM)) (TL.init args) := by
  have : args.filter (fun a => !a.isDict) = args := List.filter_eq_self.2 fun a ha => by simp [h a ha]
  rw [TagM.init, this]
  cases TL.init args <;> rfl

/-- one step on a Tag is a step on its children: the same one, except that construction first takes the dicts
    (attributes, not children) out of its arguments -/
theorem tagStep_children (t : TagM) (op : Op) : ∃ op', (op.noDictInit = true → op' = op)
    ∧ (tagStep t op).1 = (step t.children op').result ∧ (tagStep t op).2.children = (step t.children op').state := by
  by_cases hop : ∃ args, op = .init args
  · obtain ⟨args, rfl⟩ := hop
    refine ⟨.init (args.filter fun a => !a.isDict), fun h => ?_, ?_⟩
    · rw [List.filter_eq_self.2 (List.all_eq_true.1 h)]
    · simp only [tagStep, TagM.init, step]
      cases TL.init _ <;> exact ⟨rfl, rfl⟩
  · have h := C14_tag_delegates t op fun args he => hop ⟨args, he⟩
    exact ⟨op, fun _ => rfl, h.1, h.2.1⟩

/-- hence a whole history on a Tag has the outcomes and child lists of the same history on a TagList, and
    `C14_trace_refines` applies to `tag.children` as well -/
theorem C14_tag_trace_eq (ops : List Op) (t : TagM) (h : ∀ op ∈ ops, op.noDictInit = true) :
    tagTrace t ops = trace t.children ops := by
  induction ops generalizing t with
  | nil => rfl
  | cons op r ih =>
    obtain ⟨op', hop, h1, h2⟩ := tagStep_children t op
    rw [hop (h op (by simp))] at h1 h2
    rw [tagTrace, trace, ih _ (fun o ho => h o (by simp [ho])), h1, h2]

/-- so the children of a Tag obey the invariant after any history of Tag-level operations -/
theorem C14_tag_history_inv (ops : List Op) (t : TagM) (h : Inv t.children) :
    ∀ o ∈ tagTrace t ops, Inv o.state := by
  induction ops generalizing t with
  | nil => intro o ho; cases ho
  | cons op r ih =>
    obtain ⟨op', -, -, h2⟩ := tagStep_children t op
    have hstep : Inv (tagStep t op).2.children := h2 ▸ C14_step_inv _ op' h
    rw [tagTrace, List.forall_mem_cons]
    exact ⟨hstep, ih _ hstep⟩

/-! ### 7. the `+=` the pinned tree inherits from `UserList` is not the property's (F-C14a) -/

/-- `x = TagList("a"); x += [1, [2, None]]` with `UserList.__iadd__`: the list then holds an `int` and a `list` -/
theorem C14_inherited_iadd_breaks_inv :
    ∃ (s : TL) (a : Arg), Inv s ∧ (TL.iaddInherited s a).result = .ok () ∧ ¬ Inv (TL.iaddInherited s a).state := by
  refine ⟨[.node (.text ['a'])],
    .list (.cons (.num .int ['1']) (.cons (.list (.cons (.num .int ['2']) (.cons .none .nil))) .nil)), ?_, rfl, ?_⟩
  · rw [← invB_iff]; rfl
  · rw [← invB_iff]; decide

/-- `x += "cd"`: inherited, the string is split; as the property demands (and as `+`/`extend` do), kept whole -/
theorem C14_inherited_iadd_splits_str :
    (TL.iaddInherited [.node (.text ['a'])] (.node (.text ['c', 'd']))).state.map Stored.toArg
      = [.node (.text ['a']), .node (.text ['c']), .node (.text ['d'])]
    ∧ (step [.node (.text ['a'])] (.iadd (.val (.node (.text ['c', 'd']))))).state.map Stored.toArg
      = [.node (.text ['a']), .node (.text ['c', 'd'])] := by
  constructor <;> rfl

/-! ### non-vacuity -/

/-- the F-C14a history under the property's `+=`: `x = TagList("a"); x += [1, [2, None]]; x += "cd"` gives
    `['a', '1', '2', 'cd']` -/
example :
    specOps [] [.init [.node (.text ['a'])],
      .iadd (.val (.list (.cons (.num .int ['1']) (.cons (.list (.cons (.num .int ['2']) (.cons .none .nil))) .nil)))),
      .iadd (.val (.node (.text ['c', 'd'])))]
    = [.text ['a'], .text ['1'], .text ['2'], .text ['c', 'd']] := rfl

/-- an unsupported value two levels down is rejected, and the receiver keeps its elements -/
example :
    let s : TL := [.node (.text ['a'])]
    let a : Arg := .list (.cons (.tuple (.cons (.bad 0) .nil)) .nil)
    (∃ x ∈ [Arg.none, a], x.supported = false) ∧ (step s (.append [.val .none, .val a])).state = s := by
  refine ⟨⟨Arg.list (.cons (.tuple (.cons (.bad 0) .nil)) .nil), by simp, rfl⟩, ?_⟩
  exact C14_step_atomic _ _ .typeError rfl

/-- the Tag-level history `t = Tag("div", None, [1]); t.extend(t.children); t.insert(-1, (2.5, "s"))` meets the
    hypothesis of `C14_tag_trace_eq`; it leaves `['1', '2.5', 's', '1']` (index -1 inserts before the last element) -/
example :
    let ops : List Op := [.init [.none, .list (.cons (.num .int ['1']) .nil)], .extend .self,
      .insert (-1) (.val (.tuple (.cons (.num .float ['2', '.', '5']) (.cons (.node (.text ['s'])) .nil))))]
    (∀ op ∈ ops, op.noDictInit = true)
    ∧ specOps [] ops = [.text ['1'], .text ['2', '.', '5'], .text ['s'], .text ['1']] :=
  ⟨by decide, rfl⟩

/-- `is_tag_child` over-accepts (bytes is a Sequence but is rejected as a child); C14 claims only the other direction -/
example : (Arg.seqLike .bytes .nil).isTagChild = true ∧ (Arg.seqLike .bytes .nil).supported = false := ⟨rfl, rfl⟩

/-- negative indices count from the end and out-of-range ones clamp, as `self[i:i] = …` does -/
example : clampIdx 3 (-1) = 2 ∧ clampIdx 3 (-7) = 0 ∧ clampIdx 3 7 = 3 ∧ clampIdx 3 2 = 2 := by decide

end HtmlVerif.C14
