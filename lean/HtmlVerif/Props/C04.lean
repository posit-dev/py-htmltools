/-
C04 — Trusted markup is emitted verbatim and escaping happens exactly once.
-/
import HtmlVerif.Lemmas.Leaves
import HtmlVerif.Lemmas.Escape
import HtmlVerif.Model.Html
import HtmlVerif.Model.Attrs

namespace HtmlVerif.C04
open HtmlVerif

mutual
  /-- HTML() children, `_repr_html_()` results and text directly under script/style are emitted exactly
      once each, in document order, as verbatim pieces — on every rendering path, in every position -/
  theorem C04_child_verbatim (cfg : Cfg) (n : Node) (i : Nat) (e : Str) :
      (n.pieces cfg i e).filterMap Piece.raw? = n.rawLeaves cfg := by
    cases n with
    | tag name ws attrs kids =>
      obtain ⟨sc, w, h⟩ := filterMap_pieces_tag Piece.raw? (fun _ => rfl) cfg name ws attrs kids i e
      rw [h, C04_child_verbatim_kids]
      simp [Node.rawLeaves, List.filterMap_cons, apply_ite (List.filterMap Piece.raw?)]
    | _ => rfl
  theorem C04_child_verbatim_kids (cfg : Cfg) (ks : Nodes) (i : Nat) (e : Str) (first prevWs esc : Bool) :
      (ks.piecesKids cfg i e first prevWs esc).filterMap Piece.raw? = ks.rawLeavesKids cfg esc := by
    cases ks with
    | nil => rfl
    | cons h t =>
      obtain ⟨i', e', f', w', hc⟩ :=
        filterMap_piecesKids_cons Piece.raw? (fun _ => rfl) cfg h t i e first prevWs esc
      simp only [hc, C04_child_verbatim_kids cfg t, Nodes.rawLeavesKids]
      congr 1
      cases h with
      | tag n w a k => exact C04_child_verbatim cfg (.tag n w a k) i' e'
      | text s => cases esc <;> rfl
      | _ => rfl
end

/-- a verbatim piece realises to its content byte for byte -/
theorem C04_raw_realize (cfg : Cfg) (s : Str) : (Piece.raw s).realize cfg = s := rfl

/-- an HTML() attribute value is written verbatim -/
theorem C04_attr_verbatim (cfg : Cfg) (s : Str) : emitAttrVal cfg (.html s) = s := rfl

/-- text placed directly inside script/style is verbatim on both paths (single-child exit, general loop) -/
theorem C04_rawtext_both_paths (cfg : Cfg) (name : Str) (hn : name ∈ cfg.noesc) (s : Str) :
    inlineText cfg name (s, false) = s ∧
    ∀ (t : Nodes) (i : Nat) (e : Str) (first prevWs : Bool),
      ∃ pre, (Nodes.cons (.text s) t).renderKids cfg i e first prevWs (!cfg.noesc.contains name)
        = pre ++ s ++ t.renderKids cfg i e false false (!cfg.noesc.contains name) := by
  constructor
  · simp [inlineText, hn]
  · intro t i e first prevWs
    exact ⟨(if (!first && prevWs) = true then e else []) ++ (if prevWs = true then indentStr i else []),
      by simp [Nodes.renderKids, hn]⟩

/-! ### concatenation algebra -/

theorem addVal_spec (cfg : Cfg) (a b v : HVal) (h : addVal cfg a b = .ok v) :
    v.isHtml = (a.isHtml || b.isHtml) ∧ renderLeaf cfg v = renderLeaf cfg a ++ renderLeaf cfg b := by
  cases a <;> cases b <;> simp [addVal] at h <;> subst h <;>
    simp [HVal.isHtml, renderLeaf, escText, htmlEscapeT_append]

/-- any finite expression of `+` / reflected `+` / `+=` over str, HTML and other objects that evaluates:
    the result is HTML() exactly when some operand is, and rendering it as a child equals rendering the
    operands as separate adjacent children — each plain operand escaped exactly once, HTML() operands never -/
theorem C04_concat (cfg : Cfg) (e : HExpr) (v : HVal) (h : e.eval cfg = .ok v) :
    v.isHtml = e.containsHtml ∧ renderLeaf cfg v = e.operands.flatMap (renderLeaf cfg) := by
  induction e generalizing v with
  | lit w =>
    cases h
    simp [HExpr.containsHtml, HExpr.operands]
  | add a b iha ihb =>
    simp only [HExpr.eval] at h
    cases ha : a.eval cfg with
    | error _ => simp [ha] at h
    | ok va =>
      cases hb : b.eval cfg with
      | error _ => simp [ha, hb] at h
      | ok vb =>
        simp only [ha, hb] at h
        obtain ⟨ia, ra⟩ := iha va ha
        obtain ⟨ib, rb⟩ := ihb vb hb
        obtain ⟨iv, rv⟩ := addVal_spec cfg va vb v h
        simp [iv, ia, ib, rv, ra, rb, HExpr.containsHtml, HExpr.operands]

/-- regrouping: two expressions over the same operand sequence render identically -/
theorem C04_concat_regroup (cfg : Cfg) (e₁ e₂ : HExpr) (v₁ v₂ : HVal)
    (h₁ : e₁.eval cfg = .ok v₁) (h₂ : e₂.eval cfg = .ok v₂) (hops : e₁.operands = e₂.operands) :
    renderLeaf cfg v₁ = renderLeaf cfg v₂ ∧ v₁.isHtml = v₂.isHtml := by
  obtain ⟨i1, r1⟩ := C04_concat cfg e₁ v₁ h₁
  obtain ⟨i2, r2⟩ := C04_concat cfg e₂ v₂ h₂
  exact ⟨by rw [r1, r2, hops], by rw [i1, i2]; simp [HExpr.containsHtml, hops]⟩

theorem addVal_total (cfg : Cfg) {a b : HVal} (ha : ∀ s, a ≠ .ob s) (hb : ∀ s, b ≠ .ob s) :
    ∃ v, addVal cfg a b = .ok v ∧ ∀ s, v ≠ .ob s := by
  cases a with
  | ob s => exact absurd rfl (ha s)
  | _ => cases b with
    | ob s => exact absurd rfl (hb s)
    | _ => exact ⟨_, rfl, nofun⟩

/-- expressions over str and HTML only (no foreign objects) always evaluate -/
theorem C04_concat_total (cfg : Cfg) (e : HExpr) (h : ∀ o ∈ e.operands, ∀ s, o ≠ .ob s) :
    ∃ v, e.eval cfg = .ok v ∧ ∀ s, v ≠ .ob s := by
  induction e with
  | lit w => exact ⟨w, rfl, h w (by simp [HExpr.operands])⟩
  | add a b iha ihb =>
    obtain ⟨va, ea, na⟩ := iha (fun o ho => h o (by simp [HExpr.operands, ho]))
    obtain ⟨vb, eb, nb⟩ := ihb (fun o ho => h o (by simp [HExpr.operands, ho]))
    simp only [HExpr.eval, ea, eb]
    exact addVal_total cfg na nb

/-- the value, rendered as the child of an ordinary element, is exactly `renderLeaf` -/
theorem C04_leaf_as_child (cfg : Cfg) (s : Str) (i : Nat) (e : Str) :
    (Nodes.cons (.text s) .nil).renderKids cfg i e true false true = renderLeaf cfg (.plain s) ∧
    (Nodes.cons (.html s) .nil).renderKids cfg i e true false true = renderLeaf cfg (.html s) := by
  simp [Nodes.renderKids, renderLeaf]

example : (HExpr.add (.lit (.plain ['&'])) (.add (.lit (.html ['<', 'b', '>'])) (.lit (.plain ['a'])))).containsHtml = true := by
  decide

end HtmlVerif.C04
