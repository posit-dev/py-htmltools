/- Constants tie, rendering (obligations of C05, C06): indentation unit and defaults of get_html_string / Tag(). -/
import HtmlVerif.Lemmas.ConstTie
import HtmlVerif.Model.Render

namespace HtmlVerif.ConstsRender
open HtmlVerif HtmlVerif.Generated HtmlVerif.ConstTie

theorem indent_unit : (strIs indentUnitTag [' ', ' '] && strIs indentUnitList [' ', ' ']) = true := by decide +kernel

theorem indentStr_is_units (n : Nat) : indentStr n = (List.replicate n [' ', ' ']).flatten := by
  induction n with
  | zero => rfl
  | succ k ih =>
    show List.replicate (2 * (k + 1)) ' ' = _
    rw [List.replicate_succ, List.flatten_cons, ← ih]
    rfl

theorem render_defaults :
    (dfltNat dTagIndent 0 && dfltStr dTagEol (some ['\n']) && dfltNat dListIndent 0 && dfltStr dListEol (some ['\n'])
      && dfltBool dListAddWs true && dfltBool dListEscape true && dfltBool dTagAddWs true) = true := by decide +kernel

end HtmlVerif.ConstsRender
