/-
C16 — Class/style helpers and css() act as token-set and declaration algebra.

Model: `Model/ClassStyle.lean`.  Everything is parametric in what the Python runtime contributes:
`sp : Char → Bool` (`str.isspace`, behind `split()` / `strip()`) and `lower : Str → Str` (`str.lower`).
The only fact about `sp` that is used is `sp ' ' = true` (the library joins with U+0020 and splits on `sp`).

The tag is its attribute dictionary `a : Attrs` (`classOf a`, `styleOf a` are the texts of `class` / `style`,
`""` when absent); `TagObj` adds the identity needed for "returns the tag itself".  `hwf : (keysOf a).Nodup` is the
representation invariant of dictionaries (C15_wf_*).

Known finding F-C16: `C16_add_has` / `C16_add_order` carry the guard `plainOrSafe` ("the class value is a plain
string, or it is HTML()-marked and the token contains no character the merge escapes");
`C16_add_has_full_is_false` proves that the unguarded statement is false, against the escape table generated from
the source (`Generated.attrTbl`).
-/
import HtmlVerif.Lemmas.ClassStyle
import HtmlVerif.Generated.Tables

namespace HtmlVerif.C16
open HtmlVerif

/-! ### has_class -/

/-- `has_class` is whitespace-token membership -/
theorem C16_has_spec (sp : Char → Bool) (a : Attrs) (t : Str) :
    hasClass sp a t = decide (t ∈ tokens sp (classOf a)) := by
  unfold hasClass classOf textOf
  cases alookup classKey a with
  | none => simp
  | some v => by_cases h : v.str = [] <;> simp [h]

/-! ### add_class -/

/-- whatever the argument is (one token, several, none): its tokens go after those of the class value (before
    them with `prepend`).  The guard is what keeps the merge from escaping the argument. -/
theorem addClass_tokens (cfg : Cfg) (sp : Char → Bool) (hsp : sp ' ' = true) (a : Attrs) (t : Str) (p : Bool)
    (hs : plainOrSafe cfg a t = true) :
    ∃ a', addClass cfg a t p = .ok a' ∧
      tokens sp (classOf a') =
        if p then tokens sp t ++ tokens sp (classOf a) else tokens sp (classOf a) ++ tokens sp t := by
  refine ⟨_, addClass_eq cfg a t p, ?_⟩
  simp only [classOf, textOf, alookup_dictSet_self]
  cases h : alookup classKey a with
  | none => cases p <;> simp [addedVal, AttrVal.str]
  | some old =>
    cases old with
    | plain o => cases p <;> simp [addedVal, mergeVal, AttrVal.str, tokens_append_sep hsp]
    | html o =>
      have hesc : htmlEscapeT cfg.attrTbl t = t := by
        simp only [plainOrSafe, h, Bool.not_eq_true'] at hs
        simp [htmlEscapeT, hs]
      cases p <;> simp [addedVal, mergeVal, AttrVal.str, hesc, tokens_append_sep hsp]

/-- the token is appended (placed first with `prepend`) and no other token is disturbed -/
theorem C16_add_order (cfg : Cfg) (sp : Char → Bool) (hsp : sp ' ' = true) (a : Attrs) (t : Str) (p : Bool)
    (ht : isToken sp t = true) (hs : plainOrSafe cfg a t = true) :
    ∃ a', addClass cfg a t p = .ok a' ∧
      tokens sp (classOf a') = if p then t :: tokens sp (classOf a) else tokens sp (classOf a) ++ [t] := by
  simpa [tokens_of_token ht] using addClass_tokens cfg sp hsp a t p hs

/-- `add_class` makes `has_class` true for that token -/
theorem C16_add_has (cfg : Cfg) (sp : Char → Bool) (hsp : sp ' ' = true) (a : Attrs) (t : Str) (p : Bool)
    (ht : isToken sp t = true) (hs : plainOrSafe cfg a t = true) :
    ∃ a', addClass cfg a t p = .ok a' ∧ hasClass sp a' t = true := by
  obtain ⟨a', h1, h2⟩ := C16_add_order cfg sp hsp a t p ht hs
  refine ⟨a', h1, ?_⟩
  rw [C16_has_spec, h2]
  cases p <;> simp

/-- `add_class` never raises, every other name looks up what it did before, and the key order is kept (`class`
    appended when it was absent) -/
theorem C16_add_others (cfg : Cfg) (a : Attrs) (t : Str) (p : Bool) :
    ∃ a', addClass cfg a t p = .ok a' ∧ (∀ k, k ≠ classKey → alookup k a' = alookup k a) ∧
      keysOf a' = if classKey ∈ keysOf a then keysOf a else keysOf a ++ [classKey] :=
  ⟨_, addClass_eq cfg a t p, fun k hk => alookup_dictSet_ne k classKey _ a hk, keysOf_dictSet _ _ _⟩

/-- the renderer's tables as generated from the source (only `attrTbl` matters here) -/
def srcCfg : Cfg :=
  { void := Generated.voidNames, noesc := Generated.noescNames,
    textTbl := Generated.textTbl, attrTbl := Generated.attrTbl }

/-- **F-C16.** Without the guard the law is false: on an HTML()-marked class value, `add_class("d<")` stores
    `d&lt;` and `has_class("d<")` is `False` (witness `div(class_=HTML("a"))`) -/
theorem C16_add_has_full_is_false :
    ¬ ∀ (sp : Char → Bool) (a : Attrs) (t : Str) (p : Bool) (a' : Attrs), sp ' ' = true → isToken sp t = true →
        addClass srcCfg a t p = .ok a' → hasClass sp a' t = true := by
  intro h
  have := h (fun c => c == ' ') [(classKey, .html ['a'])] ['d', '<'] false
    [(classKey, .html ['a', ' ', 'd', '&', 'l', 't', ';'])] rfl rfl rfl
  exact absurd this (by decide)

/-! ### remove_class -/

/-- `remove_class` never raises -/
theorem C16_remove_total (cfg : Cfg) (sp : Char → Bool) (a : Attrs) (t : Str) :
    ∃ a', removeClass cfg sp a t = .ok a' :=
  ⟨_, removeClass_eq cfg sp a t⟩

/-- the tokens afterwards are the tokens before without `strip(t)`: every occurrence of exactly that token
    is removed, the others stay, in order -/
theorem C16_remove_spec (cfg : Cfg) (sp : Char → Bool) (hsp : sp ' ' = true) (a a' : Attrs) (t : Str)
    (hwf : (keysOf a).Nodup) (h : removeClass cfg sp a t = .ok a') :
    tokens sp (classOf a') = (tokens sp (classOf a)).filter (fun v => v != strip sp t) := by
  rcases removeClass_ok h with ⟨rfl, hc⟩ | ⟨rfl, -⟩ | ⟨rfl, -, -, hk⟩
  · rcases hc with rfl | hc
    · exact (filter_ne_of_not_token _ rfl).symm
    · simp [hc]
  · rw [classOf, textOf_dictSet, (rejoin_spec a _).2.1]
    exact tokens_joinStr hsp fun v hv => tokens_are_tokens (List.mem_filter.mp hv).1
  · rw [classOf, textOf_eq_nil_of_none (alookup_erase_self hwf)]
    exact hk.symm

/-- for a token, `strip` is the identity: exactly that token is removed -/
theorem C16_remove_token (cfg : Cfg) (sp : Char → Bool) (hsp : sp ' ' = true) (a a' : Attrs) (t : Str)
    (hwf : (keysOf a).Nodup) (ht : isToken sp t = true) (h : removeClass cfg sp a t = .ok a') :
    tokens sp (classOf a') = (tokens sp (classOf a)).filter (fun v => v != t) ∧ hasClass sp a' t = false := by
  have := C16_remove_spec cfg sp hsp a a' t hwf h
  rw [strip_of_token ht] at this
  refine ⟨this, ?_⟩
  rw [C16_has_spec, this]
  simp

/-- the attribute is dropped exactly when no token remains (degenerate `class=""` and empty argument aside,
    which return the tag untouched) -/
theorem C16_remove_drops (cfg : Cfg) (sp : Char → Bool) (a a' : Attrs) (t : Str)
    (hwf : (keysOf a).Nodup) (ht : t ≠ []) (hc : classOf a ≠ [])
    (h : removeClass cfg sp a t = .ok a') :
    ((tokens sp (classOf a)).filter (fun v => v != strip sp t) = [] ↔ alookup classKey a' = none) := by
  rcases removeClass_ok h with ⟨-, hn⟩ | ⟨rfl, hk⟩ | ⟨rfl, -, -, hk⟩
  · exact absurd hn (not_or.mpr ⟨ht, hc⟩)
  · simp [hk, alookup_dictSet_self]
  · simp [hk, alookup_erase_self hwf]

/-- the mark of the class value is kept: what remains of an HTML()-marked value is HTML()-marked (so it is written
    verbatim and nothing is escaped a second time), what remains of a plain value is plain -/
theorem C16_remove_keeps_mark (cfg : Cfg) (sp : Char → Bool) (a a' : Attrs) (t : Str) (v' : AttrVal)
    (hwf : (keysOf a).Nodup) (h : removeClass cfg sp a t = .ok a') (h' : alookup classKey a' = some v') :
    ∃ v, alookup classKey a = some v ∧ v'.isHtml = v.isHtml := by
  rcases removeClass_ok h with ⟨rfl, -⟩ | ⟨rfl, hk⟩ | ⟨rfl, -⟩
  · exact ⟨v', h', rfl⟩
  · rw [alookup_dictSet_self] at h'
    cases h'
    cases hv : alookup classKey a with
    | none => simp [classOf, textOf, hv] at hk
    | some v => exact ⟨v, rfl, by rw [(rejoin_spec a _).2.2, hv]⟩
  · -- the attribute was dropped: there is no class value afterwards
    rw [alookup_erase_self hwf] at h'
    cases h'

/-- rendered: removing a token from `HTML("a&amp;b c")` leaves `class="a&amp;b"`, not `class="a&amp;amp;b"` -/
theorem C16_remove_rendered_once :
    removeClass srcCfg (fun c => c == ' ') [(classKey, .html ['a', '&', 'a', 'm', 'p', ';', 'b', ' ', 'c'])] ['c']
      = .ok [(classKey, .html ['a', '&', 'a', 'm', 'p', ';', 'b'])] ∧
    (Node.tag ['d', 'i', 'v'] true [(classKey, .html ['a', '&', 'a', 'm', 'p', ';', 'b'])] .nil).render srcCfg 0 ['\n']
      = ['<', 'd', 'i', 'v', ' ', 'c', 'l', 'a', 's', 's', '=', '"', 'a', '&', 'a', 'm', 'p', ';', 'b', '"', '>', '<', '/', 'd', 'i', 'v', '>'] :=
  ⟨rfl, by decide +kernel⟩

/-- **F-C16b.** `remove_class` at the pinned commit stores a plain `str`: the HTML() mark is lost (also when the token
    does not occur at all), and the renderer escapes the remaining tokens a second time: `class="a&amp;amp;b"` -/
theorem C16_remove_mark_fails_for_pinned :
    removeClassPinned srcCfg (fun c => c == ' ') [(classKey, .html ['a', '&', 'a', 'm', 'p', ';', 'b', ' ', 'c'])] ['c']
      = .ok [(classKey, .plain ['a', '&', 'a', 'm', 'p', ';', 'b'])] ∧
    (Node.tag ['d', 'i', 'v'] true [(classKey, .plain ['a', '&', 'a', 'm', 'p', ';', 'b'])] .nil).render srcCfg 0 ['\n']
      = ['<', 'd', 'i', 'v', ' ', 'c', 'l', 'a', 's', 's', '=', '"', 'a', '&', 'a', 'm', 'p', ';', 'a', 'm', 'p', ';', 'b', '"', '>', '<', '/', 'd', 'i', 'v', '>'] :=
  ⟨rfl, by decide +kernel⟩

/-- nothing to do: empty argument, no class attribute, or `class=""` -/
theorem C16_remove_noop (cfg : Cfg) (sp : Char → Bool) (a : Attrs) (t : Str)
    (h : t = [] ∨ alookup classKey a = none ∨ classOf a = []) : removeClass cfg sp a t = .ok a := by
  rw [removeClass_eq, if_pos]
  rcases h with h | h | h
  · exact .inl h
  · exact .inr (textOf_eq_nil_of_none h)
  · exact .inr h

/-- every other name looks up what it did before -/
theorem C16_remove_others (cfg : Cfg) (sp : Char → Bool) (a a' : Attrs) (t : Str)
    (h : removeClass cfg sp a t = .ok a') (k : Str) (hk : k ≠ classKey) : alookup k a' = alookup k a := by
  rcases removeClass_ok h with ⟨rfl, -⟩ | ⟨rfl, -⟩ | ⟨rfl, -⟩
  · rfl
  · exact alookup_dictSet_ne k classKey _ a hk
  · exact alookup_erase_ne a hk

/-! ### add_style -/

/-- a declaration string ending in a semicolon is appended (prepended) to the style value; the join is the
    attribute merge of C15/C03 (`addedVal`: one space; a plain side meeting an HTML() side is attribute-escaped) -/
theorem C16_addStyle_ok (cfg : Cfg) (a : Attrs) (s : Str) (p : Bool) (hs : endsSemi s = true) :
    addStyle cfg a (.str s) p = .ok (dictSet styleKey (addedVal cfg (alookup styleKey a) (.plain s) p) a)
    ∧ addStyle cfg a (.html s) p = .ok (dictSet styleKey (addedVal cfg (alookup styleKey a) (.html s) p) a) :=
  ⟨addStyle_eq cfg a p rfl (by simp [styleRejected, hs]), addStyle_eq cfg a p rfl (by simp [styleRejected, hs])⟩

/-- as text, when the kinds agree (no style yet, or plain onto plain):
    `old + " " + s`, resp. `s + " " + old`, resp. `s` -/
theorem C16_addStyle_text (cfg : Cfg) (a : Attrs) (s : Str) (p : Bool) (hs : endsSemi s = true)
    (hplain : ∀ o, alookup styleKey a ≠ some (.html o)) :
    ∃ a', addStyle cfg a (.str s) p = .ok a' ∧
      alookup styleKey a' = some (.plain (joinStr [' ']
        (match alookup styleKey a with
         | none => [s]
         | some old => if p then [s, old.str] else [old.str, s]))) := by
  refine ⟨_, (C16_addStyle_ok cfg a s p hs).1, ?_⟩
  rw [alookup_dictSet_self]
  cases h : alookup styleKey a with
  | none => rfl
  | some old =>
    cases old with
    | plain o => cases p <;> simp [addedVal, mergeVal, joinStr, AttrVal.str]
    | html o => exact absurd h (hplain o)

/-- a `str`/`HTML` declaration that does not end in a semicolon is rejected … -/
theorem C16_addStyle_rej (cfg : Cfg) (a : Attrs) (s : Str) (p : Bool) (hs : endsSemi s = false) :
    addStyle cfg a (.str s) p = .error .valueError ∧ addStyle cfg a (.html s) p = .error .valueError := by
  simp [addStyle, styleRejected, hs]

/-- … and the tag is not modified -/
theorem C16_addStyle_rej_unchanged (cfg : Cfg) (t : TagObj) (s : Str) (p : Bool) (hs : endsSemi s = false) :
    t.addStyle cfg (.str s) p = (.error .valueError, t) ∧ t.addStyle cfg (.html s) p = (.error .valueError, t) := by
  simp [TagObj.addStyle, TagObj.withAttrs, (C16_addStyle_rej cfg t.attrs s p hs).1,
    (C16_addStyle_rej cfg t.attrs s p hs).2]

/-- every other name looks up what it did before -/
theorem C16_addStyle_others (cfg : Cfg) (a a' : Attrs) (s : Str) (p : Bool)
    (h : addStyle cfg a (.str s) p = .ok a') (k : Str) (hk : k ≠ styleKey) : alookup k a' = alookup k a := by
  cases hs : endsSemi s
  · rw [(C16_addStyle_rej cfg a s p hs).1] at h
    cases h
  · rw [(C16_addStyle_ok cfg a s p hs).1] at h
    cases h
    exact alookup_dictSet_ne k styleKey _ a hk

/-! ### css() -/

/-- one `name:value;` + separator per non-None argument, in order; `None` when nothing remains;
    TypeError for a non-`str` separator or a list that cannot be joined -/
theorem C16_css_spec (lower : Str → Str) (collapse : Option Str) (kw : List (Str × CssVal)) :
    css lower collapse kw =
      match collapse with
      | none => .error .typeError
      | some c =>
        if kw.any (fun kv => kv.2.isBad) then .error .typeError
        else
          let ds := kw.filterMap (cssDecl lower c)
          .ok (if ds.flatten = [] then none else some ds.flatten) := by
  cases collapse with
  | none => rfl
  | some c =>
    rw [css, cssLoop_eq]
    cases kw.any (fun kv => kv.2.isBad)
    · simp only [List.nil_append, List.isEmpty_iff, Bool.false_eq_true, if_false]
    · rfl

/-- the property name: a hyphen before every ASCII capital, lower-cased, underscores turned into hyphens -/
theorem C16_cssKey_spec (lower : Str → Str) (k : Str) :
    cssKey lower k
      = (lower (k.flatMap fun c => if 'A' ≤ c ∧ c ≤ 'Z' then ['-', c] else [c])).map
          (fun c => if c = '_' then '-' else c) := rfl

/-- per-character form, for a per-character lower-casing `lc` (true of `str.lower` on strings without U+03A3) -/
theorem C16_cssKey_spec_perchar (lower : Str → Str) (lc : Char → Str) (hl : ∀ s, lower s = s.flatMap lc) (k : Str) :
    cssKey lower k
      = ((k.flatMap fun c => if 'A' ≤ c ∧ c ≤ 'Z' then ['-', c] else [c]).flatMap lc).map
          (fun c => if c = '_' then '-' else c) := by
  rw [C16_cssKey_spec, hl]

/-- no underscore survives in a property name -/
theorem C16_cssKey_no_underscore (lower : Str → Str) (k : Str) : '_' ∉ cssKey lower k := by
  simp only [cssKey, List.mem_map, not_exists, not_and]
  intro c _
  split <;> simp_all

/-- with the default separator the output ends in a semicolon … -/
theorem C16_css_accepted (lower : Str → Str) (kw : List (Str × CssVal)) (s : Str)
    (h : css lower (some []) kw = .ok (some s)) : endsSemi s = true := by
  simp only [C16_css_spec] at h
  split at h
  · cases h
  · split at h
    · cases h
    · next hne =>
      cases h
      refine flatten_endsSemi _ (fun d hd => ?_) hne
      obtain ⟨kv, _, hkv⟩ := List.mem_filterMap.mp hd
      exact cssDecl_endsSemi hkv

/-- … hence `add_style` always accepts it -/
theorem C16_css_addStyle (cfg : Cfg) (lower : Str → Str) (kw : List (Str × CssVal)) (s : Str) (a : Attrs) (p : Bool)
    (h : css lower (some []) kw = .ok (some s)) : ∃ a', addStyle cfg a (.str s) p = .ok a' :=
  ⟨_, (C16_addStyle_ok cfg a s p (C16_css_accepted lower kw s h)).1⟩

/-! ### the three mutators return the tag itself -/

/-- `add_class` and `remove_class` always return the receiver; `add_style` does unless it raises, and then the
    receiver is unchanged; identity, name, whitespace flag and children are never touched -/
theorem C16_returns_self (cfg : Cfg) (sp : Char → Bool) (t : TagObj) (cls : Str) (style : AttrArg) (p : Bool) :
    (t.addClass cfg cls p).1 = .ok t.oid ∧ (t.removeClass cfg sp cls).1 = .ok t.oid ∧
    ((t.addStyle cfg style p).1 = .ok t.oid ∨ ∃ e, t.addStyle cfg style p = (.error e, t)) ∧
    (∀ r ∈ [t.addClass cfg cls p, t.removeClass cfg sp cls, t.addStyle cfg style p],
      r.2.oid = t.oid ∧ r.2.name = t.name ∧ r.2.ws = t.ws ∧ r.2.kids = t.kids) := by
  refine ⟨?_, ?_, ?_, ?_⟩
  · rw [TagObj.addClass, addClass_eq]
    rfl
  · rw [TagObj.removeClass, removeClass_eq]
    rfl
  · unfold TagObj.addStyle
    cases addStyle cfg t.attrs style p with
    | ok a' => exact .inl rfl
    | error e => exact .inr ⟨e, rfl⟩
  · intro r hr
    simp only [List.mem_cons, List.not_mem_nil, or_false] at hr
    rcases hr with rfl | rfl | rfl <;>
    · simp only [TagObj.addClass, TagObj.removeClass, TagObj.addStyle, TagObj.withAttrs]
      split <;> exact ⟨rfl, rfl, rfl, rfl⟩

/-- the dictionary invariant is preserved by all three mutators, so the per-call laws chain over histories -/
theorem C16_wf (cfg : Cfg) (sp : Char → Bool) (a a' : Attrs) (t : Str) (v : AttrArg) (p : Bool)
    (hwf : (keysOf a).Nodup)
    (h : addClass cfg a t p = .ok a' ∨ removeClass cfg sp a t = .ok a' ∨ addStyle cfg a v p = .ok a') :
    (keysOf a').Nodup := by
  rcases h with h | h | h
  · rw [addClass_eq] at h
    cases h
    exact nodup_dictSet _ _ _ hwf
  · rcases removeClass_ok h with ⟨rfl, -⟩ | ⟨rfl, -⟩ | ⟨rfl, -⟩
    · exact hwf
    · exact nodup_dictSet _ _ _ hwf
    · exact (List.eraseP_sublist.map _).nodup hwf
  · unfold addStyle at h
    split at h
    · cases h
    · split at h <;> exact nodup_attrsUpdate cfg a a' _ hwf h

/-! ### non-vacuity -/

private def spA : Char → Bool := fun c => c == ' ' || c == '\t'

/-- tokens that are substrings of one another, repeated, surrounded by whitespace -/
example : tokens spA (' ' :: 'f' :: 'o' :: '\t' :: 'f' :: 'o' :: 'o' :: ' ' :: ' ' :: 'f' :: 'o' :: [' '])
    = [['f', 'o'], ['f', 'o', 'o'], ['f', 'o']] := by decide

example : isToken spA ['f', 'o'] = true ∧ plainOrSafe srcCfg [(classKey, .html ['a'])] ['f', 'o'] = true
    ∧ plainOrSafe srcCfg [(classKey, .html ['a'])] ['d', '<'] = false
    ∧ plainOrSafe srcCfg [(classKey, .plain ['a'])] ['d', '<'] = true := by decide

example : removeClass srcCfg spA [(classKey, .html ['f', 'o', ' ', 'f', 'o', 'o', '\t', 'f', 'o'])] [' ', 'f', 'o']
    = .ok [(classKey, .html ['f', 'o', 'o'])] := by rfl

example : css (fun s => s) (some []) [(['a', '_', 'B'], .text ['1']), (['x'], .none), (['y'], .list [['p'], ['q']])]
    = .ok (some ['a', '-', '-', 'B', ':', '1', ';', 'y', ':', 'p', ' ', 'q', ';']) := by rfl

end HtmlVerif.C16
