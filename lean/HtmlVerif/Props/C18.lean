/-
C18 — Output is deterministic across processes and independent of history.  (*partial*: see below)

What a theorem can carry: in the model every observable is a *function* of the construction (no state
argument, no hash-order anywhere), so history independence of the model holds by construction and is not
dressed up as a theorem.  The theorems with content are about head_content names.  What only the runtime can
show — that the Python has no dependence on the hash seed or on earlier calls — is decided by the tie: every
digest from every subprocess (different PYTHONHASHSEED, different orders, unrelated renderings interleaved)
must equal the model's single answer.
-/
import HtmlVerif.Model.HeadContent
import HtmlVerif.Props.C10
import HtmlVerif.Props.C11

namespace HtmlVerif.C18
open HtmlVerif

/-- the dependency `head_content(*args)` returns, spelled out; the payload holds no un-expanded object -/
theorem C18_headContent_ok {cfg : Cfg} {H : Str → Str} {r : Nat} {args : Nodes} {x : Node}
    (h : headContent cfg H r args = .ok x) :
    args.hasTobjKids = false ∧
    x = .dep { name := headcontentPrefix ++ H (renderList cfg args 0 ['\n'] true true), version := ['0', '.', '0'],
               vrank := r, source := .none, script := [], stylesheet := [], metas := [], allFiles := false } true args := by
  unfold headContent renderListChecked at h
  cases ht : args.hasTobjKids <;> simp [ht] at h
  exact ⟨rfl, h.symm⟩

/-- name and version of a head_content dependency: a function of the rendered content only -/
theorem C18_headContent_name (cfg : Cfg) (H : Str → Str) (r : Nat) (args : Nodes) (d : DepInfo) (hh : Bool)
    (hd : Nodes) (h : headContent cfg H r args = .ok (.dep d hh hd)) :
    d.name = headcontentPrefix ++ H (renderList cfg args 0 ['\n'] true true) ∧ d.version = ['0', '.', '0']
      ∧ hh = true ∧ hd = args := by
  cases (C18_headContent_ok h).2
  exact ⟨rfl, rfl, rfl, rfl⟩

/-- equal content ⇔ equal name (so equal content is included once per document and different content is never
    merged), for any injective digest; SHA-1's collision resistance is the standing assumption -/
theorem C18_name_iff_content (cfg : Cfg) (H : Str → Str) (hinj : Function.Injective H) (r r' : Nat)
    (a b : Nodes) (da db : DepInfo) (ha hb : Bool) (ka kb : Nodes)
    (h1 : headContent cfg H r a = .ok (.dep da ha ka)) (h2 : headContent cfg H r' b = .ok (.dep db hb kb)) :
    da.name = db.name ↔ renderList cfg a 0 ['\n'] true true = renderList cfg b 0 ['\n'] true true := by
  obtain ⟨na, _⟩ := C18_headContent_name cfg H r a da ha ka h1
  obtain ⟨nb, _⟩ := C18_headContent_name cfg H r' b db hb kb h2
  rw [na, nb, List.append_cancel_left_eq, hinj.eq_iff]

/-- head_content refuses content that still contains an un-expanded object (it renders it at construction) -/
theorem C18_headContent_error (cfg : Cfg) (H : Str → Str) (r : Nat) (args : Nodes) (h : args.hasTobjKids = true) :
    headContent cfg H r args = .error .runtimeError := by
  simp [headContent, renderListChecked, h]

example : (headContent ⟨[], [], [], []⟩ (fun s => s) 0 (.cons (.text ['x']) .nil)).toOption.isSome = true := by
  decide +kernel

/-- the order of a resolved dependency list is a function of positions only: names in order of first occurrence
    (never a sort, never a hash order), each name once -/
theorem C18_order_is_positional (ds : List Node) :
    (resolve ds).map Node.depName = dedupKeepFirst (ds.map Node.depName)
      ∧ ((resolve ds).map Node.depName).Nodup :=
  ⟨C10.C10_deps_names ds, by rw [C10.C10_deps_names]; exact dedupKeepFirst_nodup _⟩

/-- equal head_content payloads are included once per document, different payloads are never merged:
    after resolution every name that occurred is represented exactly once, and (by `C18_name_iff_content`)
    names coincide exactly when the rendered payloads do -/
theorem C18_once_per_document (ds : List Node) (d : Node) (h : d ∈ ds) :
    ((resolve ds).filter fun r => r.depName == d.depName).length = 1 := by
  obtain ⟨hm, hn⟩ := C18_order_is_positional ds
  have hc : d.depName ∈ (resolve ds).map Node.depName := by
    rw [hm, mem_dedupKeepFirst]; exact List.mem_map_of_mem h
  -- the names are distinct, so `d`'s occurs at most once; it occurs, so at least once
  have h1 := List.nodup_iff_count.mp hn d.depName
  have h2 := List.count_pos_iff.mpr hc
  rw [List.count_eq_countP, List.countP_map, List.countP_eq_length_filter] at h1 h2
  exact Nat.le_antisymm h1 h2

end HtmlVerif.C18

/-! ### "once per document", in the document model

`C18_once_per_document` speaks about `resolve`.  The statements below carry it to `HTMLDocument` itself
(`Model/Document.lean`, through C11's refinement `docTree = specTree`): what is appended to the one `<head>` is the
listing followed by exactly one block of markup per element of the resolved list R, in R's order; every
dependency that occurs anywhere in the (expanded) content — in particular every `head_content(...)` item — has
exactly one representative in R; the block of a `head_content` item is its payload.  Together with
`C18_name_iff_content`: two items with equal rendered payload share one block, two items with different payloads
get one block each, in order of first occurrence. -/

namespace HtmlVerif.C18
open HtmlVerif HtmlVerif.Doc

/-- the markup appended for a list of dependencies is the concatenation of one block per list element, in list
    order (positional: the i-th block is the markup of the i-th dependency, and there are as many blocks) -/
theorem C18_doc_blocks {cfg : Cfg} {lp : Option Str} {iv : Bool} {ds : List Node} {ms : Nodes}
    (h : depMarkupAll cfg lp iv ds = .ok ms) :
    ∃ bs : List Nodes, ds.map (depMarkup cfg lp iv) = bs.map Except.ok ∧ ms = bs.foldr (· ++ ·) .nil := by
  induction ds generalizing ms with
  | nil =>
    cases h
    exact ⟨[], rfl, rfl⟩
  | cons d ds ih =>
    obtain ⟨p, rs, hp, hrs, rfl⟩ := (C11.C11_dep_markup_order cfg lp iv d ds ms).2.mp h
    obtain ⟨bs, hb, rfl⟩ := ih hrs
    exact ⟨p :: bs, by simp [hp, hb], by simp⟩

/-- the block of a `head_content(*args)` item is its payload (expanded), whatever `lib_prefix` / `include_version` -/
theorem C18_doc_head_content_block (cfg : Cfg) (H : Str → Str) (r : Nat) (args : Nodes) (x : Node) (lp : Option Str)
    (iv : Bool) (h : headContent cfg H r args = .ok x) : depMarkup cfg lp iv x = .ok args.expandAll := by
  obtain ⟨ht, rfl⟩ := C18_headContent_ok h
  simp [depMarkup, depTags, asHtmlTags, asDict, asDictSheets, asDictScripts, mkTags, renderListChecked, ht,
    Nodes.ofList]

/-- **once per document.**  In the tree of `HTMLDocument(*content, **kw)`: the `<head>` receives the listing of R
    and then `ms`, which is one block per element of R in R's order; and every dependency `d` of the expanded
    content (a `head_content` item or any other) is represented by exactly one element of R -/
theorem C18_doc_head_content_once {cfg : Cfg} {content : Nodes} {kw : List (Str × AttrArg)} {lp : Option Str} {iv : Bool}
    {t : Node} (h : docTree cfg content kw lp iv = .ok t) (d : Node) (hd : d ∈ content.expandAll.collect) :
    ∃ (n : Str) (w : Bool) (a : Attrs) (ks ms : Nodes) (bs : List Nodes),
      t = .tag n w a (withHead (listing (docDeps content) ++ ms) ks) ∧
      (docDeps content).map (depMarkup cfg lp iv) = bs.map Except.ok ∧ ms = bs.foldr (· ++ ·) .nil ∧
      ((docDeps content).filter fun r => r.depName == d.depName).length = 1 := by
  obtain ⟨n, w, a, ks, ms, _, hm, rfl⟩ := C11.C11_tree_shape h
  obtain ⟨bs, hb, rfl⟩ := C18_doc_blocks hm
  exact ⟨n, w, a, ks, _, bs, rfl, hb, rfl, C18_once_per_document _ d hd⟩

/-- two `head_content` items with **equal** rendered payload in one document: one representative (the first
    one given), hence one block and one entry in the listing — `R = [a]` (no assumption on the digest) -/
theorem C18_doc_two_equal (cfg : Cfg) (H : Str → Str) (r : Nat) (pa pb : Nodes) (a b : Node)
    (ha : headContent cfg H r pa = .ok a) (hb : headContent cfg H r pb = .ok b)
    (heq : renderList cfg pa 0 ['\n'] true true = renderList cfg pb 0 ['\n'] true true) :
    docDeps (.cons a (.cons b .nil)) = [a] := by
  rw [(C18_headContent_ok ha).2, (C18_headContent_ok hb).2]
  simp [docDeps, Nodes.expandAll, Node.expand, Nodes.collect, resolve, resolveBy, resolveMap, resolveStep,
    amapGet?, amapSet, depGt, Node.depName, Node.vrank, heq]

/-- two items with **different** rendered payloads are never merged, and keep the order in which they were
    given — `R = [a, b]` (digest injective: SHA-1's collision resistance, the standing assumption) -/
theorem C18_doc_two_distinct (cfg : Cfg) (H : Str → Str) (hinj : Function.Injective H) (r : Nat) (pa pb : Nodes)
    (a b : Node) (ha : headContent cfg H r pa = .ok a) (hb : headContent cfg H r pb = .ok b)
    (hne : renderList cfg pa 0 ['\n'] true true ≠ renderList cfg pb 0 ['\n'] true true) :
    docDeps (.cons a (.cons b .nil)) = [a, b] := by
  rw [(C18_headContent_ok ha).2, (C18_headContent_ok hb).2]
  simp [docDeps, Nodes.expandAll, Node.expand, Nodes.collect, resolve, resolveBy, resolveMap, resolveStep,
    amapGet?, amapSet, Node.depName, hinj.eq_iff, hne]

/-- a concrete document, end to end through `docRender` (the model of `HTMLDocument(...).render()`): two
    `head_content(title("T"))` items and one `head_content(title("U"))` item below different tags — the markup
    holds `<title>T</title>` once, then `<title>U</title>`, and the listing names two dependencies.
    (`H` here is a toy injective digest; the real one is the run-time parameter.) -/
example :
    let cfg : Cfg := C11.cfg0
    let title (s : Str) : Nodes := .cons (.tag ['t', 'i', 't', 'l', 'e'] true [] (.cons (.text s) .nil)) .nil
    let hc (s : Str) : Node := match headContent cfg (fun x => x) 0 (title s) with | .ok d => d | .error _ => .text []
    (match docRender cfg (.cons (.tag ['d', 'i', 'v'] true [] (.cons (hc ['T']) (.cons (hc ['U']) .nil)))
        (.cons (.tag ['p'] true [] (.cons (hc ['T']) .nil)) .nil)) [] none true with
      | .ok r => some (r.html, r.deps.length)
      | .error _ => none)
      = some ("<!DOCTYPE html>\n<html>\n  <head>\n    <meta charset=\"utf-8\"/>\n    <script type=\"application/html-dependencies\">headcontent_<title>T</title>[0.0];headcontent_<title>U</title>[0.0]</script>\n    <title>T</title>\n    <title>U</title>\n  </head>\n  <body>\n    <div></div>\n    <p></p>\n  </body>\n</html>".toList, 2) := by
  -- unifying with `String.ofList ?l` spells the literal out as its list of characters; evaluating `toList` on
  -- the literal instead would make the kernel decode its UTF-8 bytes, which is quadratic in the length
  rw [String.toList_ofList]
  decide +kernel

end HtmlVerif.C18
