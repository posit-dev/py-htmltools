/-
C13 — Serialised dependencies round-trip through HTML text.

The model follows the property where the property dictates: `neutralise` replaces every `</` (the code at the pinned
commit replaces only the exact lower-case `</script>` — defect F-C13, repaired by
fixes/C13-neutralise-all-end-tags.patch).

`as_html_tags` (Model/DepTags.lean) and `_hoist_head_content` (Model/Document.lean) are modelled by other
properties and are not imported here: `C13_same_as_document_partial` and `C13_json_mode_equiv` are stated over an
abstract `asTags : SDep → Nodes`; Props/C11TextDoc.lean instantiates it.
-/
import HtmlVerif.Lemmas.Extract
import HtmlVerif.Lemmas.JsonAscii
import HtmlVerif.Generated.Tables

namespace HtmlVerif.C13
open HtmlVerif

def cfg : Cfg :=
  { void := Generated.voidNames, noesc := Generated.noescNames,
    textTbl := Generated.textTbl, attrTbl := Generated.attrTbl }

/-! ### JSON text -/

/-- `json.loads(json.dumps(s)) == s` for every string over all Unicode scalar values (quotes, backslashes,
    control characters, non-ASCII as `\uXXXX`, astral characters as surrogate pairs) -/
theorem C13_json_str_roundtrip (s : Str) : jsonParseStr (jsonStr s) = some s :=
  jsonParseStr_jsonStr s

/-- `ensure_ascii`: the literal consists of printable ASCII characters only -/
theorem C13_json_str_ascii (s : Str) (x : Char) (h : x ∈ jsonStr s) : 0x20 ≤ x.toNat ∧ x.toNat ≤ 0x7E :=
  jsonStr_printable s x h

/-- each character is written as one self-delimiting unit that the scanner reads back as that character -/
theorem C13_json_char_roundtrip (c : Char) (tail : Str) : strUnit? (escChar c ++ tail) = some (c, tail) :=
  strUnit?_esc c tail

/-- `json.loads(json.dumps(v, indent=ind)) == v` for every value of the record fragment (objects, arrays,
    strings, true/false/null, any nesting), for `indent=None` and every `indent=n` -/
theorem C13_json_val_roundtrip (ind : Option Nat) (v : Json) : jsonParse (jsonPrint ind v) = some v :=
  jsonParse_printVal escBody escBody_ok ind v

/-- neutralising end tags does not change what the text means: `\/` is a legal JSON escape -/
theorem C13_neutralise_transparent (ind : Option Nat) (v : Json) :
    jsonParse (neutralise (jsonPrint ind v)) = jsonParse (jsonPrint ind v) := by
  rw [C13_json_val_roundtrip, jsonParse_neutralise]

/-- …and it is the dumped text with only the string bodies changed -/
theorem C13_neutralise_structure (ind : Option Nat) (v : Json) :
    neutralise (jsonPrint ind v) = printVal (fun s => neutralise (escBody s)) ind 0 v :=
  neutralise_jsonPrint ind v

/-! ### the serialised element -/

/-- the element is rendered by the ordinary renderer as OPEN, the body verbatim, CLOSE -/
theorem C13_element_render (ind : Option Nat) (d : SDep) (eol : Str) :
    (serNode ind d).render cfg 0 eol = tdSerialize ind d := by
  -- a fixed tag with fixed attributes around a raw-HTML child: the renderer computes
  rfl

/-- whatever strings the dependency contains, no end-tag-like `</script` in any letter case occurs inside the
    serialised element before its own closing tag -/
theorem C13_no_end_tag_inside (ind : Option Nat) (d : SDep) (k : Nat) :
    ciIsPrefix endTagLike ((serBody ind d).drop k) = false :=
  hasEndTagLike_drop _ (neutralise_no_end_tag _) k

/-- indeed no `</` at all is left in any neutralised text -/
theorem C13_no_lt_slash (s : Str) : ¬ ['<', '/'] <:+: neutralise s :=
  neutralise_no_lt_slash s

theorem C13_no_end_tag_exec (ind : Option Nat) (d : SDep) : hasEndTagLike (serBody ind d) = false :=
  neutralise_no_end_tag _

/-- the OPEN marker cannot occur inside the body (nor in the dumped text before neutralisation) -/
theorem C13_no_open_inside (ind : Option Nat) (d : SDep) :
    ¬ openMarker <:+: serBody ind d ∧ ¬ openMarker <:+: jsonPrint ind (depToJson d) :=
  ⟨fun h => no_win_neutralised ind _ (List.IsInfix.trans win_infix_open h),
   fun h => no_win_jsonPrint ind _ (List.IsInfix.trans win_infix_open h)⟩

/-! ### scanning and extraction -/

/-- the regex as a search: in `t₀ ++ ser d₁ ++ t₁ ++ … ++ ser dₙ ++ tₙ` with no OPEN marker inside the text
    chunks, the scan removes exactly the serialised elements and yields their bodies in order -/
theorem C13_scan_spec (t0 : Str) (items : List Item) (f : Nat) (hf : items.length ≤ f)
    (h0 : ¬ openMarker <:+: t0) (hi : ∀ it ∈ items, ¬ openMarker <:+: it.2.2) :
    scan f (interleave t0 items) = (remText t0 items, items.map Item.body) :=
  scan_interleave t0 items f hf h0 hi

/-- first OPEN, then first CLOSE after it: the two searches that make up one regex match -/
theorem C13_scan_step (t rest body post : Str) (h : ¬ openMarker <:+: t) (hb : hasLtSlash body = false) :
    findSub openMarker (t ++ (openMarker ++ rest)) = some (t, rest)
      ∧ findSub closeMarker (body ++ (closeMarker ++ post)) = some (body, post) :=
  ⟨findSub_open t rest h, findSub_close body post hb⟩

/-- dedup by exact serialised text, keeping the first occurrence, in order of appearance -/
theorem C13_dedup_keep_first (x : Str) (l : List Str) :
    tdDedupKeepFirst [] = [] ∧ tdDedupKeepFirst (x :: l) = x :: tdDedupKeepFirst (l.filter (· ≠ x)) :=
  ⟨rfl, dedupKeepFirst_cons x l⟩

/-- `HTMLDependency(**record)` gives back name, version, source, script, stylesheet, meta, all_files, and head as
    identical markup (`norm` only blanks the run-time data that is not part of the record) -/
theorem C13_recover_equal (d : SDep) (hw : d.wellFormed = true) :
    depOfJson (depToJson d) = .ok d.norm
      ∧ d.norm.info.name = d.info.name ∧ d.norm.info.version = d.info.version
      ∧ d.norm.info.source = d.info.source.forgetAbs
      ∧ d.norm.info.script = d.info.script ∧ d.norm.info.stylesheet = d.info.stylesheet
      ∧ d.norm.info.metas = d.info.metas ∧ d.norm.info.allFiles = d.info.allFiles ∧ d.norm.head = d.head :=
  ⟨depOfJson_depToJson d hw, rfl, rfl, rfl, rfl, rfl, rfl, rfl, rfl⟩

/-- …from the serialised body itself, for any indent -/
theorem C13_recover_body (ind : Option Nat) (d : SDep) (hw : d.wellFormed = true) :
    recover (serBody ind d) = .ok d.norm :=
  recover_serBody ind d hw

/-- extraction (no OPEN marker inside the text chunks, well-formed dependencies): every serialised script is removed
    from the text, and the dependencies come back once per distinct serialisation, in order of first appearance, each
    the `norm` of the one serialised -/
theorem C13_extract_spec (t0 : Str) (items : List Item)
    (h0 : ¬ openMarker <:+: t0) (hi : ∀ it ∈ items, ¬ openMarker <:+: it.2.2)
    (hw : ∀ it ∈ items, it.2.1.wellFormed = true) :
    extract (interleave t0 items)
      = .ok (remText t0 items, (dedupOn Item.body items).map fun it => it.2.1.norm) :=
  extract_interleave t0 items h0 hi hw

/-- the constructor appends the extracted dependencies to the given ones -/
theorem C13_init (t0 : Str) (items : List Item) (deps : List SDep) (ph : Str)
    (h0 : ¬ openMarker <:+: t0) (hi : ∀ it ∈ items, ¬ openMarker <:+: it.2.2)
    (hw : ∀ it ∈ items, it.2.1.wellFormed = true) :
    textDocInit (interleave t0 items) (some deps) (some ph)
      = .ok (remText t0 items, deps ++ (dedupOn Item.body items).map fun it => it.2.1.norm) := by
  simp [textDocInit, C13_extract_spec t0 items h0 hi hw]

/-! ### rendering the text document -/

/-- `render()` replaces only the first occurrence of the placeholder and leaves all other text untouched:
    without an occurrence the text is unchanged; otherwise the text is `b ++ placeholder ++ a` with no occurrence
    starting inside `b`, and the result is `b ++ inserted ++ a` -/
theorem C13_replace_first (cfg : Cfg) (asTags : SDep → Nodes) (html ph : Str) (deps : List SDep) :
    ∃ out, textDocRender cfg asTags html deps (some ph) = .ok out ∧
      ((¬ ph <:+: html ∧ out = html) ∨
       (∃ b a, html = b ++ ph ++ a ∧ (∀ k, k < b.length → ¬ ph <+: html.drop k)
          ∧ out = b ++ renderList cfg (headNodes asTags deps) 0 ['\n'] true true ++ a)) := by
  refine ⟨_, rfl, ?_⟩
  unfold replaceFirst
  cases h : findSub ph html with
  | none => exact .inl ⟨(findSub_eq_none ph html).mp h, rfl⟩
  | some p =>
    obtain ⟨e, hmin⟩ := findSub_some ph html p.1 p.2 h
    exact .inr ⟨p.1, p.2, e, hmin, rfl⟩

/-- what is inserted: the listing script exactly when there are dependencies, then every dependency's tags -/
theorem C13_inserted (asTags : SDep → Nodes) (d : SDep) (ds : List SDep) :
    headNodes asTags [] = .nil
      ∧ headNodes asTags (d :: ds) = .cons (listingNode (d :: ds)) (concatNodes ((d :: ds).map asTags))
      ∧ listingText (d :: ds) = joinStr [';'] ((d :: ds).map fun x => x.info.name ++ '[' :: x.info.version ++ [']']) :=
  ⟨rfl, rfl, rfl⟩

/-- "the same listing and dependency markup `HTMLDocument` would put in `<head>`", relative to the one fact about the
    document model it needs: `hoisted = headNodes asTags` (`_hoist_head_content`: `head.append(listing script)` iff
    `len(deps) > 0`, then `head.extend([d.as_html_tags(...) for d in deps])`).  `C11_same_as_text_document`
    (Props/C11TextDoc.lean) proves that fact for `Model/Document.lean` and `Model/DepTags.lean`; on the real code the
    dynamic check compares `HTMLTextDocument.render()` with `HTMLDocument._hoist_head_content` on the same objects. -/
theorem C13_same_as_document_partial (cfg : Cfg) (asTags : SDep → Nodes) (hoisted : List SDep → Nodes)
    (hh : ∀ ds, hoisted ds = headNodes asTags ds) (html ph : Str) (deps : List SDep) :
    textDocRender cfg asTags html deps (some ph)
      = .ok (replaceFirst ph (renderList cfg (hoisted deps) 0 ['\n'] true true) html) := by
  rw [hh]; rfl

/-- a missing placeholder argument is a TypeError (`str.replace(None, …)`), and `deps` without a placeholder is
    rejected by the constructor -/
theorem C13_render_errors (cfg : Cfg) (asTags : SDep → Nodes) (html : Str) (deps : List SDep) :
    textDocRender cfg asTags html deps none = .error .typeError
      ∧ textDocInit html (some deps) none = .error .valueError :=
  ⟨rfl, rfl⟩

/-! ### JSON render mode, fed back -/

theorem listingText_norm (ds : List SDep) : listingText (ds.map SDep.norm) = listingText ds := by
  simp [listingText, List.map_map, Function.comp_def, SDep.norm]

/-- rendering in JSON mode and post-processing with HTMLTextDocument: when the invisible-mode rendering `html`
    contains no OPEN marker and the dependencies are well-formed, they come back (once per distinct serialisation, in
    order; all of them when the serialisations are pairwise distinct, as they are after resolution to one per name),
    the listing is the same, and the remaining text is the invisible-mode rendering followed by the `n-1` newlines that
    joined the serialised copies.  (The per-dependency markup is `asTags` of equal records —
    `C13_same_as_document_partial`.) -/
theorem C13_json_mode_equiv (html : Str) (ds : List SDep) (h0 : ¬ openMarker <:+: html)
    (hw : ∀ d ∈ ds, d.wellFormed = true) :
    extract (jsonModeStr html ds)
        = .ok (html ++ List.replicate (ds.length - 1) '\n',
               (dedupOn Item.body (jmItems ds)).map fun it => it.2.1.norm)
      ∧ ((ds.map (serBody none)).Nodup →
          extract (jsonModeStr html ds) = .ok (html ++ List.replicate (ds.length - 1) '\n', ds.map SDep.norm)
            ∧ listingText (ds.map SDep.norm) = listingText ds) := by
  have hw' : ∀ it ∈ jmItems ds, it.2.1.wellFormed = true := fun it hit =>
    hw _ (jmItems_deps ds ▸ List.mem_map_of_mem hit)
  have h1 := C13_extract_spec html (jmItems ds) h0 (jmItems_chunks ds) hw'
  rw [← jsonModeStr_eq, remText_jmItems] at h1
  refine ⟨h1, fun hnd => ⟨?_, listingText_norm ds⟩⟩
  rw [h1, dedupOn, dedupOnGo_of_nodup _ _ _ (fun _ _ => List.not_mem_nil) (jmItems_body ds ▸ hnd)]
  exact congrArg (fun l => Except.ok (_, l))
    ((List.map_map ..).symm.trans (congrArg (List.map SDep.norm) (jmItems_deps ds)))

/-! ### the neutralisation at the pinned commit is not enough (F-C13) -/

/-- `text.replace(pat, new)` for a literal pattern (fuel: the length of the text) -/
def replaceLit (pat new : Str) : Nat → Str → Str
  | 0, s => s
  | _ + 1, [] => []
  | f + 1, c :: r =>
    if pat.isPrefixOf (c :: r) then new ++ replaceLit pat new f ((c :: r).drop pat.length)
    else c :: replaceLit pat new f r

/-- the code at the pinned commit: `.replace("</script>", "<\\/script>")` -/
def neutralisePinned (s : Str) : Str :=
  replaceLit closeMarker ['<', '\\', '/', 's', 'c', 'r', 'i', 'p', 't', '>'] s.length s

/-! ### non-vacuity -/

/-- a dependency whose head is `</SCRIPT>` (the witness of F-C13) -/
def witness : SDep :=
  { info := { name := ['n'], version := ['1'], vrank := 0, source := .none, script := [], stylesheet := [],
              metas := [], allFiles := false },
    head := some ['<', '/', 'S', 'C', 'R', 'I', 'P', 'T', '>'] }

/-- with the exact-lower-case replacement the full-strength statement is false: `head="</SCRIPT>"` leaves an
    end-tag-like `</SCRIPT>` inside the element (the witness the check replays against the real code) -/
theorem C13_pinned_neutralisation_is_false :
    ¬ ∀ (ind : Option Nat) (d : SDep), hasEndTagLike (neutralisePinned (jsonPrint ind (depToJson d))) = false := by
  intro h
  have hw : hasEndTagLike (neutralisePinned (jsonPrint none (depToJson witness))) = true := by decide +kernel
  rw [h none witness] at hw
  exact Bool.noConfusion hw

example : witness.wellFormed = true := by decide
example : hasEndTagLike (jsonPrint none (depToJson witness)) = true := by decide +kernel
example : hasEndTagLike (serBody none witness) = false := C13_no_end_tag_exec none witness
example : ¬ openMarker <:+: ['a', 'b'] := fun h => absurd h.length_le (by decide)
example : ∃ b a, (['x', 'P', 'y', 'P'] : Str) = b ++ ['P'] ++ a ∧ b = ['x'] := ⟨['x'], ['y', 'P'], rfl, rfl⟩

end HtmlVerif.C13
