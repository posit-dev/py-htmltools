/-
Source tie (DESIGN §14) for the file-system half of C12: the Lean functions regenerated from the text of
`HTMLDependency.copy_to`, `HTMLDocument.save_html`, `Tag.save_html` and `TagList.save_html` (htmltools/_core.py) compute, on
every file system, what the model (Model/FS.lean `copyTo`, Model/SaveDoc.lean `saveDoc` / `saveOn`) computes — the outcome
*and* the file system afterwards, also on the paths that raise.  Obligations of C12 (`C12_copy_ok`, `C12_copy_missing`,
`C12_no_copy`, `C12_save_doc`, `C12_save_fail` are about these model functions).

What the tie covers and what it takes as given:
* the glue — which files are listed, the existence check of every listed source *before* anything is touched, the order
  remove → create → copy, the name of the target directory, what is returned, the exception on a missing file, `save_html`'s
  treatment of `libdir`, the loop over the rendered dependencies, the HTML file written last;
* every operating-system call is a primitive of Py/PrimC12b.lean **defined from the model's own FS operations**
  (`FS.exists`, `FS.removeTree`, `FS.write`, `FS.copyTree`, `FS.topLevel`, …): that each call does what the model says is
  modelled, not verified (DESIGN §6 C12); the `srcc12b` validation lines compare the regenerated functions with the real
  ones on real temporary directories on every run;
* the run-time facts: `Path(s).resolve()` answers `S.resolve s`, `os.fsdecode` of a directory entry answers `S.fsdecode`;
  `os.path.realpath` / `package_dir` as in Props/SrcC12.lean (`source_path_map` is the translated one, a callee);
* `HTMLDocument.render` and `HTMLDocument.__init__` are **not translated** in this area: `self.render(…)` answers the value
  recorded in the document object (`docRenderRecC12b`), `HTMLDocument(x)` is the constructor primitive `mkDocC12b`.

No loop body is spelled out: `comp_loop_kC12b` and `fold_loop_kC12b` (Lemmas/SrcC12b.lean) take the bodies from the
regenerated definition by unification; what is proved about a body is its effect on one pass.
-/
import HtmlVerif.Generated.Src
import HtmlVerif.Lemmas.SrcC12b
import HtmlVerif.Props.SrcC12

set_option linter.unusedVariables false
set_option linter.unusedSimpArgs false

namespace HtmlVerif.SrcTie
open HtmlVerif HtmlVerif.Py HtmlVerif.Generated.Src

/-- **`copy_to(path, include_version=iv)` as the source has it = the model's `copyTo`** — outcome *and* file system, on every
    file system and for every dependency: the early return for a URL / absent source (nothing touched); which files are
    taken (`all_files`: the directory listing; otherwise the `src` of every script, then the `href` of every stylesheet —
    KeyError, nothing touched, for an item without its key); the existence check of *every* one of them before anything
    is touched (`Exception`, nothing touched); the target directory `path/name[-version]`, removed if it exists, then
    created; the copy loop (a file is copied, a directory is copied as a tree, anything else skipped; the error of a copy,
    with the state it left); `None` returned.
    `hres`: the run time resolves the target directory to the location its string names (no symbolic link, no `..` on the
    way; `path` absolute or the working directory the root).  `hnames` (only for `all_files`): the entries of the source
    directory decode to the `str` that names them. -/
theorem src_copy_toC12b (h : HTMLDependency_copy_toC12b_available = true) (h0 : HTMLDependency_source_path_map_available = true)
    (G : Globals) (d : DepInfo) (hh : Bool) (head : Nodes) (pdir : Str) (hpkg : PkgFacts d pdir)
    (path : Str) (iv : Bool) (S : SysC12b)
    (hres : pathResolve (S.resolve (posixJoin path (sourcePathMap d none iv).href))
      = pathResolve (posixJoin path (sourcePathMap d none iv).href))
    (hnames : d.allFiles = true → NamesOkC12b S (sourcePathMap d none iv).source) :
    HTMLDependency_copy_toC12b G (embDep d hh head pdir) (.str path) (.bool iv) S
      = embOutC12b S (copyTo d path iv S.fs) := by
  first
  | exact absurd h (by decide)
  | skip
  all_goals (
    have hspm := src_source_path_map h0 G d hh head pdir hpkg none iv
    simp only [embOptStr] at hspm
    obtain ⟨hsrc, hhref⟩ := getitem_pathMap (sourcePathMap d none iv)
    obtain ⟨-, -, -, gscript, gsheet, -, -⟩ := getattr_dep d hh head pdir
    unfold HTMLDependency_copy_toC12b
    simp only [ite_condC12b, hspm, hsrc, lit_href, hhref, PyFSC12b.lift_ok, pure_bind, getattr_allfilesC12b, truthy_bool,
      pyEq_str_strC12b, osPathJoin_ssC12b, mkPath_strC12b]
    -- `src`: the source directory, `tgt`: the target directory
    generalize hs : (sourcePathMap d none iv).source = src at hnames ⊢
    generalize ht : posixJoin path (sourcePathMap d none iv).href = tgt at hres ⊢
    by_cases hempty : src = []
    · rw [beq_iff_eq.mpr hempty, cond_true]
      simp only [copyTo, hs, hempty, List.isEmpty_nil, if_true]
      rfl
    · have hne : src.isEmpty = false := by rwa [List.isEmpty_eq_false_iff]
      rw [beq_eq_false_iff_ne.mpr hempty, cond_false]
      -- what follows the listing of the files is the same for both ways of listing them: a function `K` of the list
      generalize hK : (fun x : List PVal => (liftM (pyIter (PVal.list x)) >>= _ : PyFSC12b PVal)) = K
      have tail : ∀ fl : List Str, K (fl.map PVal.str) S = embOutC12b S (copyTailC12b src tgt fl S.fs) := by
        subst hK
        intro fl
        simp only [pyIter_list, PyFSC12b.lift_ok, pure_bind, osPathJoin_ssC12b, mkPath_strC12b]
        -- the "verify they all exist" loop: a fold that leaves the file system alone
        refine fold_loop_kC12b PVal.str embErr fl
          (fun f fs => (fs, if fs.exists (pathResolve (posixJoin src f)) then .ok () else .error .exception))
          _ _ S S.fs _ _ ?vstep ?vk
        case vstep =>
          intro f _ s fs
          simp only [osPathJoin_ssC12b, PyFSC12b.lift_ok, pure_bind, exists_bind_strC12b, truthy_bool]
          cases hx : fs.exists (pathResolve (posixJoin src f)) <;>
            simp only [hx, Bool.not_true, Bool.not_false, cond_true, cond_false, PyFSC12b.run_pure, PyFSC12b.throw_bind,
              PyFSC12b.run_throw, if_true, if_false, Bool.false_eq_true] <;>
            first | exact ⟨_, rfl⟩ | rfl
        case vk =>
          rw [foldFS_checkC12b, copyTailC12b]
          cases hall : fl.all (fun f => S.fs.exists (pathResolve (posixJoin src f))) with
          | false => rfl
          | true =>
            intro s'
            simp only [resolve_bind_pathC12b, exists_bind_pathC12b, truthy_bool, if_true]
            cases hfp : S.fs.fileOnPath (pathResolve tgt) with
            | true =>
              cases hex : S.fs.exists (pathResolve tgt) <;>
                simp only [cond_applyC12b, cond_true, cond_false, rmtree_bind_pathC12b, mkdir_bind_pathC12b, hres, hex, hfp,
                  if_true, Bool.not_true, Bool.not_false, Bool.or_true, Bool.true_or, embOutC12b, embRes, embErr]
            | false =>
              rw [rmtree_if_exists_bindC12b _ _ _ (by rw [hres]; exact hfp)]
              simp only [mkdir_bind_pathC12b, hres, fileOnPath_removeTreeC12b _ _ hfp, Bool.false_eq_true, if_false]
              -- the "copy all the files" loop
              refine fold_loop_kC12b PVal.str embErr fl (fun g => copyOne (itemOfC12b src tgt g)) _ _ S _ _ _ ?pass ?after
              case after =>
                rcases foldFSC12b _ fl _ with ⟨fs', r⟩
                cases r with
                | ok u => intro _; rfl
                | error e => rfl
              intro g _ s fs
              simp only [osPathJoin_ssC12b, osPathJoin_psC12b, osPathDirname_strC12b, PyFSC12b.lift_ok, pure_bind, makedirs_bind_strC12b,
                isfile_bind_strC12b, isdir_bind_strC12b, truthy_bool, cond_applyC12b, copy2_bind_strC12b, copytree_bind_strC12b,
                PyFSC12b.run_pure, target_resolveC12b _ _ g hres]
              unfold copyOne itemOfC12b FS.isFile
              dsimp only
              cases hrd : fs.read (pathResolve (posixJoin src g)) with
              | some c => simp only [Option.isSome_some, cond_true]; exact ⟨_, rfl⟩
              | none =>
                simp only [Option.isSome_none, cond_false]
                cases hdir : fs.isDir (pathResolve (posixJoin src g)) with
                | false => simp only [cond_false, Bool.false_eq_true, if_false]; exact ⟨_, rfl⟩
                | true =>
                  simp only [cond_true, if_true]
                  cases hex : fs.exists (pathResolve (posixJoin tgt g)) with
                  | false => simp only [Bool.false_eq_true, if_false]; exact ⟨_, rfl⟩
                  | true => simp only [if_true]; rfl
      cases haf : d.allFiles with
      | true =>
        have hn := hnames haf
        have hdec : ∀ n ∈ S.fs.topLevel (pathResolve src), ∃ nm, S.fsdecode n = some nm :=
          fun n hm => (hn n hm).imp fun nm hh => hh.1
        simp only [haf, cond_true, cond_false, Bool.not_true, Bool.not_false, PyFSC12b.lift_ok, pure_bind, pyIter_list,
          glob_bind_pathC12b, globEntries_okC12b S _ _ hdec]
        refine comp_loop_kC12b (fun n => pathObjC12b (posixJoin src (decNameC12b S n))) PVal.str
          (fun n => .ok (decNameC12b S n)) (S.fs.topLevel (pathResolve src)) _ S _ _ [] ?s1 ?k1
        case s1 =>
          intro n hm acc
          obtain ⟨nm, h1, h2, h3⟩ := hn n hm
          have hne : nm ≠ [] := by
            intro he; subst he; simp [utf8, segs_nil] at h3
          simp only [decNameC12b, h1, Option.getD_some, relativeTo_joinC12b _ nm h2 hne, pyStr_pathC12b, PyFSC12b.lift_ok,
            pure_bind, PyFSC12b.run_pure, accStep, List.map_append, List.map_cons, List.map_nil]
        case k1 =>
          simp only [mapE_okC12b, List.nil_append]
          rw [copyTo_filesC12b d path iv S.fs src tgt hs ht (.ok _) hne (copyItems_allC12b d _ _ S haf hn)]
          exact tail _
      | false =>
        rw [copyTo_filesC12b d path iv S.fs src tgt hs ht _ hne (copyItems_listedC12b d _ _ S.fs haf)]
        simp only [haf, cond_true, cond_false, Bool.not_true, Bool.not_false, PyFSC12b.lift_ok, pure_bind, gscript, gsheet,
          pyIter_list, listedFiles, listKey_mapEC12b]
        -- one pass of `[s[key] for s in items]`
        refine comp_loop_kC12b embKVs PVal.str (keyStepC12b dtKSrc) d.script _ S _ _ [] ?s1 ?k1
        case s1 =>
          intro s _ acc
          simp only [pyGetItem_embKVs, lit_src, accStep, keyStepC12b]
          cases alookup dtKSrc s <;>
            simp only [PyFSC12b.lift_ok, PyFSC12b.lift_error, PyFSC12b.throw_bind, pure_bind, PyFSC12b.run_pure,
              PyFSC12b.run_throw, embErr, List.map_append, List.map_cons, List.map_nil]
        case k1 =>
          cases ha : mapE (keyStepC12b dtKSrc) d.script with
          | error e => rfl
          | ok a =>
            refine comp_loop_kC12b embKVs PVal.str (keyStepC12b dtKHref) d.stylesheet _ S _ _ [] ?s2 ?k2
            case s2 =>
              intro s _ acc
              simp only [pyGetItem_embKVs, lit_href, accStep, keyStepC12b]
              cases alookup dtKHref s <;>
                simp only [PyFSC12b.lift_ok, PyFSC12b.lift_error, PyFSC12b.throw_bind, pure_bind, PyFSC12b.run_pure,
                  PyFSC12b.run_throw, embErr, List.map_append, List.map_cons, List.map_nil]
            case k2 =>
              cases hb : mapE (keyStepC12b dtKHref) d.stylesheet with
              | error e => rfl
              | ok b =>
                simp only [List.nil_append, starList2C12b]
                subst hK
                exact tail (a ++ b))

/-- the tie of `copy_to` for one dependency of a rendering, on every file system the loop of `save_html` can be in -/
def CopyTieC12b (G : Globals) (pd : DepInfo → Str) (dest : Str) (iv : Bool) (S : SysC12b) (t : DepInfo × Bool × Nodes) : Prop :=
  ∀ S' : SysC12b, S'.resolve = S.resolve → S'.fsdecode = S.fsdecode →
    HTMLDependency_copy_toC12b G (embTripleC12b pd t) (.str dest) (.bool iv) S' = embOutC12b S' (copyTo t.1 dest iv S'.fs)

theorem copyTie_of_srcC12b (h : HTMLDependency_copy_toC12b_available = true)
    (h0 : HTMLDependency_source_path_map_available = true)
    (G : Globals) (pd : DepInfo → Str) (dest : Str) (iv : Bool) (S : SysC12b) (t : DepInfo × Bool × Nodes)
    (hpkg : PkgFacts t.1 (pd t.1)) (habs : dest.head? = some '/')
    (hres : ∀ s : Str, s.head? = some '/' → pathResolve (S.resolve s) = pathResolve s)
    (hnames : t.1.allFiles = true → ∀ S' : SysC12b, S'.resolve = S.resolve → S'.fsdecode = S.fsdecode →
      NamesOkC12b S' (sourcePathMap t.1 none iv).source) :
    CopyTieC12b G pd dest iv S t := by
  intro S' hr hd
  exact src_copy_toC12b h h0 G t.1 t.2.1 t.2.2 (pd t.1) hpkg dest iv S'
    (by rw [hr]; exact hres _ (posixJoin_absC12b _ _ habs)) (fun haf => hnames haf S' hr hd)

/-- **`save_html(file, libdir, include_version)` of a document object `D` as the source has it = the model's `saveDoc`** —
    outcome *and* file system — whenever `D.render(lib_prefix=libdir, include_version=iv)` answers the model's `docRender`
    (`hrec`; `HTMLDocument.render` is not translated here): the destination `dirname(resolved file)[/libdir]` (`libdir` None
    or "" → the file's directory), an exception of `render()` before anything is touched, `copy_to` for every rendered
    dependency in order (the first failure stops, with the state it left, the file not written), then the HTML file
    (OSError when it is a directory / below a regular file) holding `rendered["html"]`, and `file` returned.
    `hcopy`: the tie of `copy_to` for each rendered dependency (`copyTie_of_srcC12b`). -/
theorem src_doc_save_html_recC12b (h : HTMLDocument_save_htmlC12b_available = true)
    (G : Globals) (cfg : Cfg) (pd : DepInfo → Str) (content : Nodes) (kw : List (Str × AttrArg)) (file : Str)
    (libdir : Option Str) (iv : Bool) (S : SysC12b) (D : PVal)
    (hrec : docRenderRecC12b D (embOptStr libdir) (.bool iv)
      = embRes (embRenderedC12b pd) (Doc.docRender cfg content kw libdir iv))
    (hnorm : normalAbsC12b (S.resolve file) = true)
    (hcopy : ∀ r, Doc.docRender cfg content kw libdir iv = .ok r → ∀ t ∈ depTriplesC12b r.deps,
      CopyTieC12b G pd (destDir (S.resolve file) libdir) iv S t) :
    HTMLDocument_save_htmlC12b G D (.str file) (embOptStr libdir) (.bool iv) S
      = embOutStrC12b S (saveDoc cfg content kw file (S.resolve file) libdir iv S.fs) := by
  first
  | exact absurd h (by decide)
  | skip
  all_goals (
    have hdest : ∀ (k : PVal → PyFSC12b PVal),
        (bif truthy (embOptStr libdir) then
          (liftM (osPathJoinC12b (.str (dirname (S.resolve file))) (embOptStr libdir)) >>= k)
         else k (.str (dirname (S.resolve file)))) = k (.str (destDir (S.resolve file) libdir)) := by
      intro k
      cases libdir with
      | none => rfl
      | some l => cases l <;> rfl
    unfold HTMLDocument_save_htmlC12b
    simp only [ite_condC12b]
    simp only [hrec]
    cases hr : Doc.docRender cfg content kw libdir iv with
    | error e =>
      -- (whether `render` is called before or after the destination is computed)
      simp only [embRes, mkPath_strC12b, PyFSC12b.lift_ok, PyFSC12b.lift_error, pure_bind, PyFSC12b.throw_bind,
        resolve_bind_pathC12b, pathParent_normC12b _ hnorm, pyStr_pathC12b, PyFSC12b.run_throw]
      first | rw [hdest] | skip
      try simp only [embRes, PyFSC12b.lift_error, PyFSC12b.throw_bind, PyFSC12b.run_throw]
      simp only [saveDoc, hr, embOutStrC12b, embRes]
    | ok r =>
      have hk1 : pyGetItem (embRenderedC12b pd r) (PVal.str ['d', 'e', 'p', 'e', 'n', 'd', 'e', 'n', 'c', 'i', 'e', 's'])
          = .ok (.list ((depTriplesC12b r.deps).map (embTripleC12b pd))) := by
        simp [embRenderedC12b, pyGetItem, Py.dictGet?, kDepsC12b, kHtmlC12b]
      have hk2 : pyGetItem (embRenderedC12b pd r) (PVal.str ['h', 't', 'm', 'l']) = .ok (.str r.html) := by
        simp [embRenderedC12b, pyGetItem, Py.dictGet?, kDepsC12b, kHtmlC12b]
      simp only [embRes, mkPath_strC12b, PyFSC12b.lift_ok, pure_bind, resolve_bind_pathC12b, pathParent_normC12b _ hnorm,
        pyStr_pathC12b, hk1, hk2, pyIter_list]
      first | rw [hdest] | skip
      try simp only [embRes, PyFSC12b.lift_ok, pure_bind, hk1, hk2, pyIter_list]
      have hmodel : saveDoc cfg content kw file (S.resolve file) libdir iv S.fs
          = match foldFSC12b (fun (t : DepInfo × Bool × Nodes) => copyTo t.1 (destDir (S.resolve file) libdir) iv)
              (depTriplesC12b r.deps) S.fs with
            | (fs', .error e) => (fs', .error e)
            | (fs', .ok _) =>
              if (fs'.isDir (pathResolve (S.resolve file)) || fs'.fileOnPath (pathResolve (S.resolve file)).dropLast) = true then
                (fs', .error .exception)
              else (fs'.write (pathResolve (S.resolve file)) (utf8 r.html), .ok file) := by
        simp only [saveDoc, hr, saveHtml, docFs, copyAll_foldC12b, depInfos_triplesC12b, foldFS_mapC12b]
        generalize foldFSC12b _ _ _ = m
        rcases m with ⟨fs', r'⟩
        cases r' <;> rfl
      rw [hmodel]
      refine fold_loop_kC12b (embTripleC12b pd) embErr (depTriplesC12b r.deps)
        (fun t => copyTo t.1 (destDir (S.resolve file) libdir) iv) _ _ S _ _ _ ?pass ?after
      case pass =>
        intro t ht s fs
        have hcls : pyClassOf (embTripleC12b pd t) = "HTMLDependency" := rfl
        simp only [hcls]
        rw [PyFSC12b.run_bind, hcopy r hr t ht { S with fs := fs } rfl rfl]
        rcases copyTo t.1 (destDir (S.resolve file) libdir) iv fs with ⟨fs1, r1⟩
        cases r1 with
        | ok u => exact ⟨_, rfl⟩
        | error e => rfl
      case after =>
        rcases foldFSC12b (fun (t : DepInfo × Bool × Nodes) => copyTo t.1 (destDir (S.resolve file) libdir) iv)
          (depTriplesC12b r.deps) S.fs with ⟨fs1, r1⟩
        cases r1 with
        | error e => simp only [embOutStrC12b, embRes]
        | ok u =>
          simp only []
          intro _
          simp only [openWrite_bind_strC12b]
          by_cases hbad : (fs1.isDir (pathResolve (S.resolve file)) || fs1.fileOnPath (pathResolve (S.resolve file)).dropLast) = true
          · simp only [hbad, if_true, embOutStrC12b, embRes, embErr]
          · simp only [hbad, if_false, fileWrite_bind_strC12b, PyFSC12b.run_pure, write_writeC12b, embOutStrC12b, embRes,
              Bool.false_eq_true])

/-- `HTMLDocument(*content, **kw).save_html(file, libdir, include_version)` as the source has it = `saveDoc` -/
theorem src_doc_save_htmlC12b (h : HTMLDocument_save_htmlC12b_available = true)
    (G : Globals) (cfg : Cfg) (pd : DepInfo → Str) (content : Nodes) (kw : List (Str × AttrArg)) (file : Str)
    (libdir : Option Str) (iv : Bool) (S : SysC12b)
    (hnorm : normalAbsC12b (S.resolve file) = true)
    (hcopy : ∀ r, Doc.docRender cfg content kw libdir iv = .ok r → ∀ t ∈ depTriplesC12b r.deps,
      CopyTieC12b G pd (destDir (S.resolve file) libdir) iv S t) :
    HTMLDocument_save_htmlC12b G (embDocC12b cfg pd content kw libdir iv) (.str file) (embOptStr libdir) (.bool iv) S
      = embOutStrC12b S (saveDoc cfg content kw file (S.resolve file) libdir iv S.fs) :=
  src_doc_save_html_recC12b h G cfg pd content kw file libdir iv S _ (docRenderRec_embC12b cfg pd content kw libdir iv)
    hnorm hcopy

/-- `tag.save_html(file, libdir=…, include_version=…)` as the source has it = `saveOn (.tag t)`: the document made from the
    tag does the saving -/
theorem src_tag_save_htmlC12b (h : Tag_save_htmlC12b_available = true) (hd : HTMLDocument_save_htmlC12b_available = true)
    (G : Globals) (cfg : Cfg) (pd : DepInfo → Str) (name : Str) (ws : Bool) (attrs : Attrs) (kids : Nodes) (file : Str)
    (libdir : Option Str) (iv : Bool) (S : SysC12b)
    (hnorm : normalAbsC12b (S.resolve file) = true)
    (hcopy : ∀ r, Doc.docRender cfg (.cons (.tag name ws attrs kids) .nil) [] libdir iv = .ok r →
      ∀ t ∈ depTriplesC12b r.deps, CopyTieC12b G pd (destDir (S.resolve file) libdir) iv S t) :
    Tag_save_htmlC12b G (embRecvC12b cfg pd libdir iv (.tag (.tag name ws attrs kids))) (.str file) (embOptStr libdir)
        (.bool iv) S
      = embOutStrC12b S (saveOn cfg (.tag (.tag name ws attrs kids)) file (S.resolve file) libdir iv S.fs) := by
  first
  | exact absurd h (by decide)
  | skip
  all_goals (
    obtain ⟨c, hc⟩ := mkDoc_tagC12b (embRecordC12b cfg pd (.cons (.tag name ws attrs kids) .nil) [] libdir iv) name ws
      attrs kids
    unfold Tag_save_htmlC12b
    simp only [embRecvC12b, hc, PyFSC12b.lift_ok, pure_bind]
    try simp only [bind_pure]
    rw [src_doc_save_html_recC12b hd G cfg pd (.cons (.tag name ws attrs kids) .nil) [] file libdir iv S _
        (docRenderRec_recordC12b cfg pd _ [] libdir iv c (.dict [])) hnorm hcopy]
    rfl)

/-- `taglist.save_html(file, libdir=…, include_version=…)` as the source has it = `saveOn (.tagList items)` -/
theorem src_taglist_save_htmlC12b (h : TagList_save_htmlC12b_available = true)
    (hd : HTMLDocument_save_htmlC12b_available = true)
    (G : Globals) (cfg : Cfg) (pd : DepInfo → Str) (items : Nodes) (file : Str)
    (libdir : Option Str) (iv : Bool) (S : SysC12b)
    (hnorm : normalAbsC12b (S.resolve file) = true)
    (hcopy : ∀ r, Doc.docRender cfg items [] libdir iv = .ok r →
      ∀ t ∈ depTriplesC12b r.deps, CopyTieC12b G pd (destDir (S.resolve file) libdir) iv S t) :
    TagList_save_htmlC12b G (embRecvC12b cfg pd libdir iv (.tagList items)) (.str file) (embOptStr libdir) (.bool iv) S
      = embOutStrC12b S (saveOn cfg (.tagList items) file (S.resolve file) libdir iv S.fs) := by
  first
  | exact absurd h (by decide)
  | skip
  all_goals (
    obtain ⟨c, hc⟩ := mkDoc_listC12b (embRecordC12b cfg pd items [] libdir iv) items
    unfold TagList_save_htmlC12b
    simp only [embRecvC12b, hc, PyFSC12b.lift_ok, pure_bind]
    try simp only [bind_pure]
    rw [src_doc_save_html_recC12b hd G cfg pd items [] file libdir iv S _
        (docRenderRec_recordC12b cfg pd _ [] libdir iv c (.dict [])) hnorm hcopy]
    rfl)

/-- `save_html` of a document, a tag or a list, with the tie of `copy_to` discharged by `src_copy_toC12b`: what is left are
    facts about the run time — `resolve()` answers an absolute normal path and leaves absolute paths where they are,
    `package_dir` / `realpath` answer what the model carries (`PkgFacts`), directory entries decode to their names
    (only for `all_files` dependencies, on the file systems the copies go through) -/
theorem src_save_on_closedC12b (hd : HTMLDocument_save_htmlC12b_available = true)
    (ht : Tag_save_htmlC12b_available = true) (hl : TagList_save_htmlC12b_available = true)
    (hc : HTMLDependency_copy_toC12b_available = true) (h0 : HTMLDependency_source_path_map_available = true)
    (G : Globals) (cfg : Cfg) (pd : DepInfo → Str) (recv : Receiver) (file : Str) (libdir : Option Str) (iv : Bool)
    (S : SysC12b)
    (hrecv : match recv with | .tag t => t.isTag = true | _ => True)
    (hnorm : normalAbsC12b (S.resolve file) = true)
    (hres : ∀ s : Str, s.head? = some '/' → pathResolve (S.resolve s) = pathResolve s)
    (hdeps : ∀ r, Doc.docRender cfg recv.doc.1 recv.doc.2 libdir iv = .ok r → ∀ t ∈ depTriplesC12b r.deps,
      PkgFacts t.1 (pd t.1) ∧ (t.1.allFiles = true → ∀ S' : SysC12b, S'.resolve = S.resolve → S'.fsdecode = S.fsdecode →
        NamesOkC12b S' (sourcePathMap t.1 none iv).source)) :
    (match recv with
      | .document _ _ => HTMLDocument_save_htmlC12b G (embRecvC12b cfg pd libdir iv recv) (.str file) (embOptStr libdir)
          (.bool iv) S
      | .tag _ => Tag_save_htmlC12b G (embRecvC12b cfg pd libdir iv recv) (.str file) (embOptStr libdir) (.bool iv) S
      | .tagList _ => TagList_save_htmlC12b G (embRecvC12b cfg pd libdir iv recv) (.str file) (embOptStr libdir)
          (.bool iv) S)
      = embOutStrC12b S (saveOn cfg recv file (S.resolve file) libdir iv S.fs) := by
  have hcopy : ∀ r, Doc.docRender cfg recv.doc.1 recv.doc.2 libdir iv = .ok r → ∀ t ∈ depTriplesC12b r.deps,
      CopyTieC12b G pd (destDir (S.resolve file) libdir) iv S t := fun r hr t ht =>
    copyTie_of_srcC12b hc h0 G pd _ iv S t (hdeps r hr t ht).1
      (destDir_absC12b _ _ (normalAbs_headC12b _ hnorm)) hres (hdeps r hr t ht).2
  cases recv with
  | document content kw => exact src_doc_save_htmlC12b hd G cfg pd content kw file libdir iv S hnorm hcopy
  | tagList items => exact src_taglist_save_htmlC12b hl hd G cfg pd items file libdir iv S hnorm hcopy
  | tag t =>
    cases t with
    | tag name ws attrs kids => exact src_tag_save_htmlC12b ht hd G cfg pd name ws attrs kids file libdir iv S hnorm hcopy
    | _ => simp [Node.isTag] at hrecv

end HtmlVerif.SrcTie
