/-
Source tie (DESIGN §14) for C13 — serialised dependencies round-trip through HTML text.  The Lean functions regenerated
from the text of

  HTMLTextDocument._static_extract_serialized_html_deps, ._extract_serialized_html_deps, .__init__, .render,
  TagList.render, HTMLDependency.serialize_to_script_json                       (htmltools/_core.py; harness/pytr_c13.py)

compute what the model computes (`scan` / `tdDedupKeepFirst` / `recover` / `extract` / `textDocInit` / `textDocRender` /
`serNode`; Model/TextDoc.lean, Model/Json.lean).

What is stated through a primitive *defined from the model's own function* (Py/PrimC13.lean; checked against the running
interpreter by the `srcc13 … prim_*` lines of every run, and by the scan / JSON theorems of Props/C13.lean): the two `re`
calls on the one extraction pattern (`scan`), `json.loads` (`jsonParse`), `json.dumps` (`jsonPrint`).  What is tied here is
the code around them.

  * extraction (`src_static_extractC13`, all texts, no hypothesis): see the theorem.  Each kept body is rebuilt by
    `HTMLDependency(**json.loads(body))` (`rebuildC13`: the keyword call binds the dict to the signature of the
    *translated* `HTMLDependency.__init__`).
  * one body (`src_rebuild_*C13`): a serialised body gives back the dependency — through `src_init` (Props/SrcC10b.lean), i.e.
    through the source text of the constructor —; a text that is not JSON raises ValueError; JSON that is not an object,
    an object with a key that is no parameter of the constructor or without `name` / `version`: TypeError.  The model's
    `depOfJson` is a model of the constructor *on records* (it keeps the version text as written and types the fields); on
    JSON objects that are not records (a `name` that is not a string, a version `packaging` refuses or normalises, items
    that are not dicts …) the Python constructor and `depOfJson` differ, and no theorem is stated.
  * `src_static_extract_modelC13` / `src_extract_roundtripC13`: = `extract`, for texts whose bodies are of the kinds above; in
    particular for every interleaving of text chunks (without the OPEN marker) and serialised copies of well-formed
    dependencies — `C13_extract_spec` said about the source text.
  * `_extract_serialized_html_deps`, `__init__` (`src_extractC13`, `src_textdoc_initC13`, `…_modelC13` = `textDocInit`,
    `src_textdoc_init_roundtripC13` = `C13_init` said about the source text).
  * `render` (`src_textdoc_renderC13` = `textDocRender`): see the theorem.  `HTMLDependency.as_html_tags` and `Tag.__init__`
    are not translated (`pyAsHtmlTagsC13`: a recorded parameter; `pyMkTagC13`: stated semantics on the shapes used).
  * `serialize_to_script_json` (`src_serializeC13` = `serNode`).

Dependencies are compared attribute by attribute (`projDepC10b`, `normDocC13`): the order of the assignments in the two
constructors is not part of any statement.  No loop body is spelled out: the `seen_deps` loop and the two comprehensions
are taken from the regenerated definitions by unification (`extract_loop_kC13`, `comp_loop_k`).
-/
import HtmlVerif.Generated.Src
import HtmlVerif.Lemmas.SrcC13
import HtmlVerif.Props.SrcC10b
import HtmlVerif.Lemmas.SrcRenderC13
import HtmlVerif.Lemmas.SrcC11
import HtmlVerif.Props.SrcC09
import HtmlVerif.Props.SrcC10
import HtmlVerif.Props.SrcRender
import HtmlVerif.Props.C09
import HtmlVerif.Lemmas.SrcC08
import HtmlVerif.Lemmas.PyComp

set_option linter.unusedVariables false
set_option linter.unusedSimpArgs false

namespace HtmlVerif.SrcTie
open HtmlVerif HtmlVerif.Py HtmlVerif.Generated.Src

/-- `_static_extract_serialized_html_deps(html)` as the source has it, for **every** text: the text that remains and the
    bodies are the model's `scan` (the two `re` calls are stated through it: Py/PrimC13.lean); the loop rebuilds exactly the
    bodies `tdDedupKeepFirst` keeps (first occurrence of each distinct text), in order, each with
    `HTMLDependency(**json.loads(body))` (`rebuildC13`), the first failure deciding; the answer is the pair
    `(remaining text, list of dependencies)`. -/
theorem src_static_extractC13 (h : HTMLTextDocument_static_extract_available = true) (G : Globals) (html : Str) :
    HTMLTextDocument_static_extract G (.str html)
      = (rebuildAllC13 (rebuildC13 G) (tdDedupKeepFirst (scan html.length html).2) >>= fun ds =>
          .ok (.tuple [.str (scan html.length html).1, .list ds])) := by
  first
  | exact absurd h (by decide)
  | skip
  all_goals (
    unfold HTMLTextDocument_static_extract
    simp only [ok_bind, pure_eq_ok, truthy_bool, reFindallC13_str _ _ rfl, reSubC13_str _ _ rfl, pyIter_list, pySetNewC13_eq]
    refine (extract_loop_kC13 (fun s => s.1) (fun s => s.2.1) (rebuildC13 G) _ _ ?step _ (fun ds => .ok (.tuple [.str (scan html.length html).1, .list ds])) ?k _ [] [] rfl rfl).trans ?_
    case k =>
      intro s ds hs
      obtain ⟨s1, s2, s3⟩ := s
      simp only at hs
      simp only [hs]
    case step =>
      intro b s seen acc hs hd
      obtain ⟨s1, s2, s3⟩ := s
      simp only at hs hd
      subst hs hd
      constructor
      · intro hc
        simp only [pyInC13_set, hc, ok_bind, truthy_bool, if_true]
        exact ⟨_, rfl, rfl, rfl⟩
      · intro hc
        simp only [pyInC13_set, hc, ok_bind, truthy_bool, Bool.false_eq_true, if_false, pyListAppendC13_list, pySetAddC13_set _ _ hc]
        constructor
        · intro e he
          exact bind2_errorC13 he
        · intro d hd
          exact bind2_okC13 hd (fun a => ⟨_, rfl, rfl, rfl⟩)
    simp only [List.nil_append]
    rfl)

/-- one serialised body, through `json.loads` (`jsonParse`), the keyword call and the constructor **as the source has it**
    (`src_init`, Props/SrcC10b.lean): `HTMLDependency(**json.loads(serBody indent d))` is the dependency `d` again — name,
    version (what `packaging` makes of the text: `hver`), source, script, stylesheet, meta, all_files, and head as
    `TagList(HTML(markup))` — for every well-formed record whose dicts have pairwise distinct keys, and any indent -/
theorem src_rebuild_serBodyC13 (h : HTMLDependency_init_available = true) (h1 : HTMLDependency_validate_dicts_available = true)
    (h2 : HTMLDependency_validate_dict_available = true) (G : Globals) (ind : Option Nat) (d : SDep) (rk : Nat)
    (hw : d.wellFormed = true) (hnd : SDepNodupC13 d)
    (hver : G.mkVersion d.info.version = some (versionObjC10b rk d.info.version)) :
    projDepC10b <$> rebuildC13 G (serBody ind d) = .ok (embSDepC13 rk d) := by
  first
  | exact absurd h (by decide)
  | skip
  all_goals (
    have hi := src_init h h1 h2 G "HTMLDependency" (depArgVC13 rk d) (.str d.info.version)
      (.inl ⟨d.info.version, rfl, by simpa [depArgVC13] using hver⟩) (headVC13 d.head)
    rw [depInit_recordC13 rk d hw] at hi
    simp only [rebuildC13, pyJsonLoadsC13, jsonParse_serBody, pure_eq_ok, ok_bind, embJson_depToJsonC13 d hnd, callKw_recordC13,
      newDepC13]
    refine hi.trans ?_
    cases hh : d.head <;> simp [headVC13, HeadV.res, embSDepC13, depArgVC13, hh, embDepObjC10b])

/-- a body that is not JSON (and cannot be JSON outside the model's fragment either): `json.loads` raises JSONDecodeError,
    a ValueError — what `recover` says -/
theorem src_rebuild_notjsonC13 (G : Globals) (e : SDep → PVal) (b : Str) (hp : jsonParse b = none)
    (ho : jsonOutsideC13 b = false) :
    projDepC10b <$> rebuildC13 G b = embRes e (recover b) := by
  simp [rebuildC13, pyJsonLoadsC13, hp, ho, recover, embRes, embErr]

/-- a body that is JSON but not an object (`null`, `true`, a string, an array): `HTMLDependency(**x)` raises TypeError
    ("argument after ** must be a mapping") — what `recover` says -/
theorem src_rebuild_nonobjC13 (G : Globals) (e : SDep → PVal) (b : Str) (j : Json) (hp : jsonParse b = some j)
    (hj : ∀ ms, j ≠ .obj ms) :
    projDepC10b <$> rebuildC13 G b = embRes e (recover b) := by
  cases j with
  | obj ms => exact absurd rfl (hj ms)
  | _ => simp [rebuildC13, pyJsonLoadsC13, hp, recover, embRes, embErr, embJsonC13, pyCallKwC13, depOfJson]

/-- a JSON object with a key that is no parameter of the constructor, or without `name` / `version`: TypeError from the
    keyword call ("unexpected keyword argument" / "missing required argument") — what `recover` says -/
theorem src_rebuild_badkeysC13 (G : Globals) (e : SDep → PVal) (b : Str) (ms : JMems) (hp : jsonParse b = some (.obj ms))
    (hk : (ms.keys.all fun k => depKeys.contains k) = false ∨ ms.get? kName = none ∨ ms.get? kVersion = none) :
    projDepC10b <$> rebuildC13 G b = embRes e (recover b) := by
  have hmiss : (ms.keys.all fun k => depKeys.contains k) = true → ms.get? kName = none ∨ ms.get? kVersion = none := by
    intro hall
    rcases hk with h | h | h
    · rw [hall] at h; cases h
    · exact .inl h
    · exact .inr h
  have hrec : recover b = .error .typeError := by
    simp only [recover, hp, depOfJson]
    by_cases hall : (ms.keys.all fun k => depKeys.contains k) = true
    · simp only [hall, Bool.not_true, Bool.false_eq_true, if_false]
      rcases hmiss hall with h | h
      · rw [h]
      · rw [h]
        cases ms.get? kName with
        | none => rfl
        | some j => cases j <;> rfl
    · simp only [Bool.not_eq_true] at hall
      simp only [hall, Bool.not_false, if_true]
  have hpy : pyCallKwC13 (newDepC13 G) depReqC13 depOptC13 (embJsonC13 (.obj ms)) = .error .typeError := by
    simp only [embJsonC13, pyCallKwC13]
    by_cases hbad : ((embJMemsC13 ms []).any fun kv => !(depReqC13.contains kv.1 || depOptC13.any fun p => p.1 == kv.1)) = true
    · simp only [hbad, if_true]; rfl
    · simp only [hbad, Bool.false_eq_true, if_false]
      have hall : (ms.keys.all fun k => depKeys.contains k) = true := by
        rw [List.all_eq_true]
        intro k hk'
        have hm : k ∈ (embJMemsC13 ms []).map Prod.fst := (mem_keys_embJMemsC13 ms [] k).mpr (.inr hk')
        obtain ⟨kv, hkv, rfl⟩ := List.mem_map.mp hm
        rw [← okKey_depKeysC13]
        cases hc : (depReqC13.contains kv.1 || depOptC13.any fun p => p.1 == kv.1) with
        | true => rfl
        | false => exact absurd (List.any_eq_true.mpr ⟨kv, hkv, by rw [hc]; rfl⟩) hbad
      have : (depReqC13.any fun k => (Py.dictGet? k (embJMemsC13 ms [])).isNone) = true := by
        rcases hmiss hall with h | h
        · exact List.any_eq_true.mpr ⟨kName, by decide, dictGet?_embJMems_noneC13 ms _ h⟩
        · exact List.any_eq_true.mpr ⟨kVersion, by decide, dictGet?_embJMems_noneC13 ms _ h⟩
      simp only [this, if_true]
      rfl
  simp only [rebuildC13, pyJsonLoadsC13, hp, pure_eq_ok, ok_bind, hpy, hrec, embRes, embErr, map_error]
/-- … against the model: if rebuilding each body that is kept does what the model's `recover` says (`hrec`: discharged for
    serialised bodies by `src_rebuild_serBodyC13`, for texts that are not JSON / not a record by `src_rebuild_*C13`),
    the function computes the model's `extract` — remaining text, one dependency per distinct body in order of first
    appearance, or the error of the first body that fails.  `rk`: the rank `packaging` gives a version text. -/
theorem src_static_extract_modelC13 (h : HTMLTextDocument_static_extract_available = true) (G : Globals) (html : Str)
    (rk : Str → Nat)
    (hrec : ∀ b ∈ tdDedupKeepFirst (scan html.length html).2,
      projDepC10b <$> rebuildC13 G b = embRes (fun d => embSDepC13 (rk d.info.version) d) (recover b)) :
    projExtractC13 <$> HTMLTextDocument_static_extract G (.str html)
      = embRes (embExtractC13 fun d => embSDepC13 (rk d.info.version) d) (extract html) := by
  rw [src_static_extractC13 h G html, extract]
  rcases rebuildAll_recoverAllC13 (rebuildC13 G) (fun d => embSDepC13 (rk d.info.version) d) _ hrec with
    ⟨er, hr, hB⟩ | ⟨ds, vs, hr, hB, hA⟩ <;> rw [hr, hB]
  · rfl
  · simp [embRes, embExtractC13, projExtractC13, hA]

/-- every body of an interleaving of text chunks (without the OPEN marker) and serialised copies of well-formed
    dependencies is rebuilt as the model's `recover` says (the hypothesis of the `…_modelC13` theorems) -/
theorem src_rebuild_interleaveC13 (hi0 : HTMLDependency_init_available = true) (h1 : HTMLDependency_validate_dicts_available = true)
    (h2 : HTMLDependency_validate_dict_available = true) (G : Globals) (t0 : Str) (items : List Item) (rk : Str → Nat)
    (h0 : ¬ openMarker <:+: t0) (hi : ∀ it ∈ items, ¬ openMarker <:+: it.2.2)
    (hw : ∀ it ∈ items, it.2.1.wellFormed = true) (hnd : ∀ it ∈ items, SDepNodupC13 it.2.1)
    (hver : ∀ it ∈ items, G.mkVersion it.2.1.info.version
      = some (versionObjC10b (rk it.2.1.info.version) it.2.1.info.version)) :
    ∀ b ∈ tdDedupKeepFirst (scan (interleave t0 items).length (interleave t0 items)).2,
      projDepC10b <$> rebuildC13 G b = embRes (fun d => embSDepC13 (rk d.info.version) d) (recover b) := by
  have hlen : items.length ≤ (interleave t0 items).length := by
    rw [interleave_eq]; simpa using length_interleaveB t0 (items.map fun it => (it.body, it.2.2))
  have hs := scan_interleave t0 items _ hlen h0 hi
  intro b hb
  rw [hs] at hb
  have hb' := mem_dedupGoC13 _ _ _ hb
  simp only [List.mem_map] at hb'
  obtain ⟨it, hit, rfl⟩ := hb'
  rw [show it.body = serBody it.1 it.2.1 from rfl, recover_serBody _ _ (hw it hit),
    src_rebuild_serBodyC13 hi0 h1 h2 G it.1 it.2.1 _ (hw it hit) (hnd it hit) (hver it hit)]
  simp only [embRes, norm_versionC13, embSDep_normC13]

/-- **round trip through text, as the source has it**: for text chunks without the OPEN marker around serialised copies
    (any indents) of well-formed dependencies, `_static_extract_serialized_html_deps` returns the text with exactly the
    serialised elements removed and, once per distinct serialisation in order of first appearance, the dependency that
    was serialised (every field; head as `TagList(HTML(markup))`) — this is `C13_extract_spec` said about the source
    text of the extraction *and* of `HTMLDependency.__init__` -/
theorem src_extract_roundtripC13 (h : HTMLTextDocument_static_extract_available = true)
    (hi0 : HTMLDependency_init_available = true) (h1 : HTMLDependency_validate_dicts_available = true)
    (h2 : HTMLDependency_validate_dict_available = true) (G : Globals) (t0 : Str) (items : List Item) (rk : Str → Nat)
    (h0 : ¬ openMarker <:+: t0) (hi : ∀ it ∈ items, ¬ openMarker <:+: it.2.2)
    (hw : ∀ it ∈ items, it.2.1.wellFormed = true) (hnd : ∀ it ∈ items, SDepNodupC13 it.2.1)
    (hver : ∀ it ∈ items, G.mkVersion it.2.1.info.version
      = some (versionObjC10b (rk it.2.1.info.version) it.2.1.info.version)) :
    projExtractC13 <$> HTMLTextDocument_static_extract G (.str (interleave t0 items))
      = .ok (.tuple [.str (remText t0 items),
          .list ((dedupOn Item.body items).map fun it => embSDepC13 (rk it.2.1.info.version) it.2.1)]) := by
  rw [src_static_extract_modelC13 h G _ rk (src_rebuild_interleaveC13 hi0 h1 h2 G t0 items rk h0 hi hw hnd hver),
    extract_interleave t0 items h0 hi hw]
  simp only [embRes, embExtractC13, List.map_map, Function.comp_def, norm_versionC13, embSDep_normC13]

/-- `_extract_serialized_html_deps()` as the source has it, on any instance whose `_html` is a `str` and whose `_deps` is a
    list (of anything): `_html` becomes the remaining text, the rebuilt dependencies are appended to `_deps`; a failing
    body leaves an exception (the instance is not returned) -/
theorem src_extractC13 (h : HTMLTextDocument_extract_available = true) (h' : HTMLTextDocument_static_extract_available = true)
    (G : Globals) (cls : String) (fs : List (String × PVal)) (html : Str) (given : List PVal)
    (hh : fieldGet? "_html" fs = some (.str html)) (hd : fieldGet? "_deps" fs = some (.list given)) :
    HTMLTextDocument_extract G (.obj cls fs)
      = (rebuildAllC13 (rebuildC13 G) (tdDedupKeepFirst (scan html.length html).2) >>= fun ds =>
          .ok (.obj cls (fieldSet "_deps" (.list (given ++ ds)) (fieldSet "_html" (.str (scan html.length html).1) fs)))) := by
  first
  | exact absurd h (by decide)
  | skip
  all_goals (
    unfold HTMLTextDocument_extract
    simp only [pyGetAttr_objC10b _ _ _ _ hh, ok_bind, src_static_extractC13 h' G html]
    cases rebuildAllC13 (rebuildC13 G) (tdDedupKeepFirst (scan html.length html).2) with
    | error e => rfl
    | ok ds =>
      have hd' : fieldGet? "_deps" (fieldSet "_html" (PVal.str (scan html.length html).1) fs) = some (.list given) := by
        rw [fieldGet?_fieldSetC10b, if_neg (by decide)]; exact hd
      simp only [ok_bind, pyUnpack2_tuple, pySetAttr_objC10b, pyGetAttr_objC10b _ _ _ _ hd', pyListExtendC13_list, pure_eq_ok])

/-- `HTMLTextDocument.__init__` as the source has it, for every text, `deps=` None or a list (of anything) and any
    `deps_replace_pattern=`: ValueError when a list is given without a placeholder; otherwise the instance holds the
    remaining text, the given list followed by the rebuilt dependencies, and the placeholder (compared attribute by
    attribute, `normDocC13`: the order of the assignments is not part of the statement) -/
theorem src_textdoc_initC13 (h : HTMLTextDocument_init_available = true) (h' : HTMLTextDocument_extract_available = true)
    (h'' : HTMLTextDocument_static_extract_available = true) (G : Globals) (cls : String) (html : Str)
    (given : Option (List PVal)) (ph : PVal) :
    normDocC13 <$> HTMLTextDocument_init G (.obj cls []) (.str html) (optListC13 given) ph
      = if isNone ph && given.isSome then .error .valueError else
        (rebuildAllC13 (rebuildC13 G) (tdDedupKeepFirst (scan html.length html).2) >>= fun ds =>
          .ok (textDocObjC13 cls (scan html.length html).1 (given.getD [] ++ ds) ph)) := by
  first
  | exact absurd h (by decide)
  | skip
  all_goals (
    unfold HTMLTextDocument_init
    have hex := fun fs given hh hd => src_extractC13 h' h'' G cls fs html given hh hd
    have hand : ∀ b c : Bool, pyAnd (Except.ok (PVal.bool b)) (Except.ok (PVal.bool c)) = .ok (.bool (b && c)) := by
      intro b c; cases b <;> rfl
    cases given with
    | none =>
      simp only [optListC13, isNone_noneC10b, Bool.not_true, hand, pure_eq_ok, ok_bind, truthy_bool, Bool.and_false,
        Bool.false_eq_true, if_false, if_true, pySetAttr_objC10b, fieldSet, Option.isSome_none, Option.getD_none]
      rw [hex _ [] (by simp [fieldGet?, fieldSet]) (by simp [fieldGet?, fieldSet])]
      cases rebuildAllC13 (rebuildC13 G) (tdDedupKeepFirst (scan html.length html).2) <;> rfl
    | some l =>
      simp only [optListC13, isNone_listC10b, Bool.not_false, hand, pure_eq_ok, ok_bind, truthy_bool, Bool.and_true,
        Option.isSome_some, Option.getD_some]
      cases hn : isNone ph
      · simp only [Bool.false_eq_true, if_false, ok_bind, pure_eq_ok, pySetAttr_objC10b, fieldSet]
        rw [hex _ l (by simp [fieldGet?, fieldSet]) (by simp [fieldGet?, fieldSet])]
        cases rebuildAllC13 (rebuildC13 G) (tdDedupKeepFirst (scan html.length html).2) <;> rfl
      · simp only [if_true]
        rfl)

/-- … against the model (`textDocInit`), under the same hypothesis about the bodies as `src_static_extract_modelC13`:
    given dependencies `gs` (embedded like the rebuilt ones), placeholder None or a `str` -/
theorem src_textdoc_init_modelC13 (h : HTMLTextDocument_init_available = true) (h' : HTMLTextDocument_extract_available = true)
    (h'' : HTMLTextDocument_static_extract_available = true) (G : Globals) (cls : String) (html : Str)
    (gs : Option (List SDep)) (ph : Option Str) (rk : Str → Nat)
    (hrec : ∀ b ∈ tdDedupKeepFirst (scan html.length html).2,
      projDepC10b <$> rebuildC13 G b = embRes (fun d => embSDepC13 (rk d.info.version) d) (recover b)) :
    projDocC13 <$> HTMLTextDocument_init G (.obj cls []) (.str html)
        (optListC13 (gs.map fun l => l.map fun d => embSDepC13 (rk d.info.version) d)) (optStrC13 ph)
      = embRes (fun p => textDocObjC13 cls p.1 (p.2.map fun d => embSDepC13 (rk d.info.version) d) (optStrC13 ph))
          (textDocInit html gs ph) := by
  have hn : isNone (optStrC13 ph) = ph.isNone := by cases ph <;> rfl
  rw [projDoc_mapC13, src_textdoc_initC13 h h' h'' G cls html, textDocInit, hn, extract, Option.isSome_map]
  cases ph.isNone && gs.isSome
  · simp only [Bool.false_eq_true, if_false]
    rcases rebuildAll_recoverAllC13 (rebuildC13 G) (fun d => embSDepC13 (rk d.info.version) d) _ hrec with
      ⟨er, hr, hB⟩ | ⟨ds, vs, hr, hB, hA⟩ <;> rw [hr, hB]
    · rfl
    · cases gs <;>
        simp [embRes, textDocObjC13, projDocCoreC13, hA, projDep_embSDepC13, Function.comp_def]
  · rfl

/-- **the constructor on such a text** (`C13_init` said about the source text): `HTMLTextDocument(text, deps, placeholder)`
    holds the text without the serialised elements and the given dependencies followed by the extracted ones -/
theorem src_textdoc_init_roundtripC13 (h : HTMLTextDocument_init_available = true) (h' : HTMLTextDocument_extract_available = true)
    (h'' : HTMLTextDocument_static_extract_available = true)
    (hi0 : HTMLDependency_init_available = true) (h1 : HTMLDependency_validate_dicts_available = true)
    (h2 : HTMLDependency_validate_dict_available = true) (G : Globals) (cls : String) (t0 : Str) (items : List Item)
    (gs : List SDep) (ph : Str) (rk : Str → Nat)
    (h0 : ¬ openMarker <:+: t0) (hi : ∀ it ∈ items, ¬ openMarker <:+: it.2.2)
    (hw : ∀ it ∈ items, it.2.1.wellFormed = true) (hnd : ∀ it ∈ items, SDepNodupC13 it.2.1)
    (hver : ∀ it ∈ items, G.mkVersion it.2.1.info.version
      = some (versionObjC10b (rk it.2.1.info.version) it.2.1.info.version)) :
    projDocC13 <$> HTMLTextDocument_init G (.obj cls []) (.str (interleave t0 items))
        (.list (gs.map fun d => embSDepC13 (rk d.info.version) d)) (.str ph)
      = .ok (textDocObjC13 cls (remText t0 items)
          ((gs ++ (dedupOn Item.body items).map fun it => it.2.1.norm).map fun d => embSDepC13 (rk d.info.version) d)
          (.str ph)) := by
  have := src_textdoc_init_modelC13 h h' h'' G cls (interleave t0 items) (some gs) (some ph) rk
    (src_rebuild_interleaveC13 hi0 h1 h2 G t0 items rk h0 hi hw hnd hver)
  have hm : textDocInit (interleave t0 items) (some gs) (some ph)
      = .ok (remText t0 items, gs ++ (dedupOn Item.body items).map fun it => it.2.1.norm) := by
    simp [textDocInit, extract_interleave t0 items h0 hi hw]
  rw [hm] at this
  exact this

/-- `TagList.render()` as the source has it, on a list of *plain* nodes (tags, text, `HTML`, self-rendering objects, metadata
    nodes; no dependency object, no un-expanded tagifiable object — Lemmas/SrcRenderC13.lean): `tagify()` gives the list
    back (`src_tagify_list`), `get_dependencies()` finds nothing (`src_get_dependencies_list`), and the markup is
    `renderList` (`src_render_list`) — the three ties of C09 / C10 / C05 composed through the source text of `render` -/
theorem src_taglist_render_plainC13 (h : TagList_render_available = true)
    (ht1 : Tag_tagify_available = true) (ht2 : TagList_tagify_available = true)
    (hd1 : Tag_get_dependencies_available = true) (hd2 : TagList_get_dependencies_available = true)
    (hr : resolve_dependencies_available = true)
    (hg1 : Tag_get_html_string_available = true) (hg2 : TagList_get_html_string_available = true)
    (hn : normalize_text_available = true) (he : html_escape_available = true) (hs : HTML_as_string_available = true)
    (cfg : Cfg) (ht : keysPlain cfg.textTbl = true) (ha : keysPlain cfg.attrTbl = true)
    (ks : Nodes) (hp : plainKidsC13 ks = true) (fuel : Nat) (hf : 2 * kidsDepth ks + 2 ≤ fuel) :
    TagList_render (globalsOf cfg) fuel (tagListOf (embNodes ks))
      = .ok (.dict [(['d', 'e', 'p', 'e', 'n', 'd', 'e', 'n', 'c', 'i', 'e', 's'], .list []),
                    (['h', 't', 'm', 'l'], .str (renderList cfg ks 0 ['\n'] true true))]) := by
  first
  | exact absurd h (by decide)
  | skip
  all_goals (
    obtain ⟨f, rfl⟩ : ∃ f, fuel = f + 1 := ⟨fuel - 1, by omega⟩
    rw [TagList_render]
    have htag := plainKids_tagifiedC13 ks hp
    have e1 : embNodes ks = embTs tvSpec ks := (embTs_plainC13 tvSpec ks hp).symm
    have e2 : tagifyNodes ks = ks := by rw [C09.C09_tagify_is_spec, C09.C09_tagified_fixed ks htag]
    have hcls : ∀ l, pyClassOf (tagListOf l) = "TagList" := fun _ => rfl
    have s1 := src_tagify_list ht1 ht2 (globalsOf cfg) tvSpec tvSpec_ok ks f (by omega)
    have s2 := src_get_dependencies_list hd1 hd2 hr (globalsOf cfg) tvSpec ks f (by omega) true
    have s3 : TagList_get_html_string (globalsOf cfg) f (tagListOf (embNodes ks)) (PVal.int 0) (PVal.str [Char.ofNat 10])
        (PVal.bool true) (PVal.bool true)
        = if ks.hasTobjKids then .error .runtimeError else .ok (.str (renderList cfg ks 0 ['\n'] true true)) :=
      src_render_list hg1 hg2 hn he hs cfg ht ha ks f (by omega) 0 ['\n'] true true
    rw [e2] at s1
    simp only [Nodes.getDeps, collectKids_plainC13 ks hp, if_true] at s2
    rw [C09.C09_tagified_no_tobj ks htag] at s3
    simp only [e1] at s3 ⊢
    simp only [tagListOf] at s1 s2 s3 hcls ⊢
    simp only [ok_bind, pure_eq_ok, s1, hcls, s2, s3, Bool.false_eq_true, if_false]
    rfl)

/-- `HTMLTextDocument.render(lib_prefix=, include_version=)` as the source has it = `textDocRender`, for every text, every
    placeholder (None: TypeError from `str.replace`, after everything else has run) and every list of dependency objects
    `e d` of which only this is assumed: `d.name` is the name, `str(d.version)` the version text, and
    `d.as_html_tags(lib_prefix=, include_version=)` returns a TagList of plain nodes `asTags d` (`HTMLDependency.as_html_tags`
    is not translated: Py/PrimC13.lean `pyAsHtmlTagsC13`).  What is tied: the listing script (only when there are
    dependencies; `name[version]` joined by `;`; `Tag("script", …, type=…)` through `pyMkTagC13`), the tags of every
    dependency in order, appended through the translated `TagList.append` / `extend` (on values that are normalised
    already: `TagList_append_kidsC11` / `TagList_extend_kidsC11`), rendered by the translated `TagList.render`, put in
    place of the **first** occurrence of the placeholder (`pyReplaceFirstC13` = `replaceFirst`), and the answer
    `{"dependencies": …, "html": …}`. -/
theorem src_textdoc_renderC13 (h : HTMLTextDocument_render_available = true) (hR : TagList_render_available = true)
    (hi : TagList_init_available = true) (hap : TagList_append_available = true) (hex : TagList_extend_available = true)
    (hnc : NormCallees)
    (ht1 : Tag_tagify_available = true) (ht2 : TagList_tagify_available = true)
    (hd1 : Tag_get_dependencies_available = true) (hd2 : TagList_get_dependencies_available = true)
    (hr : resolve_dependencies_available = true)
    (hg1 : Tag_get_html_string_available = true) (hg2 : TagList_get_html_string_available = true)
    (hn : normalize_text_available = true) (he : html_escape_available = true) (hs : HTML_as_string_available = true)
    (cfg : Cfg) (ht : keysPlain cfg.textTbl = true) (ha : keysPlain cfg.attrTbl = true)
    (cls : String) (html : Str) (ds : List SDep) (e : SDep → PVal) (asTags : SDep → Nodes) (lp iv : PVal) (ph : Option Str)
    (hname : ∀ d ∈ ds, pyGetAttr (e d) "name" = .ok (.str d.info.name))
    (hver : ∀ d ∈ ds, ∃ v, pyGetAttr (e d) "version" = .ok v ∧ pyStrC13 v = .ok (.str d.info.version))
    (htags : ∀ d ∈ ds, pyAsHtmlTagsC13 (e d) lp iv = .ok (tagListOf (embNodes (asTags d))))
    (hplain : ∀ d ∈ ds, plainKidsC13 (asTags d) = true)
    (fuel : Nat) (hf : 2 * kidsDepth (headNodes asTags ds) + 7 ≤ fuel) :
    HTMLTextDocument_render (globalsOf cfg) fuel (textDocObjC13 cls html (ds.map e) (optStrC13 ph)) lp iv
      = embRes (fun r => .dict [(['d', 'e', 'p', 'e', 'n', 'd', 'e', 'n', 'c', 'i', 'e', 's'], .list (ds.map e)),
                                (['h', 't', 'm', 'l'], .str r)])
          (textDocRender cfg asTags html ds ph) := by
  first
  | exact absurd h (by decide)
  | skip
  all_goals (
    obtain ⟨f, rfl⟩ : ∃ f, fuel = f + 1 := ⟨fuel - 1, by omega⟩
    rw [HTMLTextDocument_render]
    have g1 : pyGetAttr (textDocObjC13 cls html (ds.map e) (optStrC13 ph)) "_deps" = .ok (.list (ds.map e)) := rfl
    have g2 : pyGetAttr (textDocObjC13 cls html (ds.map e) (optStrC13 ph)) "_html" = .ok (.str html) := rfl
    have g3 : pyGetAttr (textDocObjC13 cls html (ds.map e) (optStrC13 ph)) "_deps_replace_pattern" = .ok (optStrC13 ph) := rfl
    -- the child-list operations on the values that occur: nodes and TagLists of nodes are normalised already
    obtain ⟨f6, rfl⟩ : ∃ f6, f = f6 + 6 := ⟨f - 6, by omega⟩
    have i0 : TagList_init (globalsOf cfg) (f6 + 6) (PVal.obj "TagList" []) (PVal.tuple []) = .ok (tagListOf []) :=
      TagList_init_kidsC11 hi hnc _ (f6 + 1) [] (by simp)
    have happ : ∀ n : Node, TagList_append (globalsOf cfg) (f6 + 6) (tagListOf []) (embNode n) (PVal.tuple [])
        = .ok (tagListOf (embNodes (.cons n .nil))) := by
      intro n
      rw [TagList_append_kidsC11 hap hex hnc _ f6 [] (embNode n) []
        (by intro y hy; simp at hy; subst hy; exact kidItems_of_plainC11 _ (plainC11_embNode n))]
      simp [kidFlat_of_plainC11 _ (plainC11_embNode n), embNodes]
    have hext : ∀ ns : Nodes, TagList_extend (globalsOf cfg) (f6 + 6) (tagListOf (embNodes ns))
          (.list (ds.map fun d => tagListOf (embNodes (asTags d))))
        = .ok (tagListOf (embNodes (ns ++ concatNodes (ds.map asTags)))) := by
      intro ns
      have hvs := flat_taglistsC11 embNodes plain_embNodesC13 rfl embNodes_appendC13 (ds.map asTags)
      simp only [List.map_map, Function.comp_def] at hvs
      rw [TagList_extend_kidsC11 hex hnc _ (f6 + 1) _ _ _ (pyIter_list _) (by simp [isInstance, builtinClasses]) hvs.1, hvs.2,
        embNodes_appendC13]
    have hrender := src_taglist_render_plainC13 hR ht1 ht2 hd1 hd2 hr hg1 hg2 hn he hs cfg ht ha (headNodes asTags ds)
      (plainKids_headNodesC13 asTags ds hplain) (f6 + 6) (by omega)
    have hlen : pyLen (PVal.list (ds.map e)) = .ok (.int (ds.length : Nat)) := by simp [pyLen]
    have hgt : pyGt (PVal.int (ds.length : Nat)) (PVal.int 0) = .ok (.bool (!ds.isEmpty)) := by
      cases ds <;> simp [pyGt]
    simp -zeta only [g1, g2, g3, i0, ok_bind, pure_eq_ok, pyIter_list, hlen, hgt, truthy_bool]
    generalize hA : embRes _ (textDocRender cfg asTags html ds ph) = answer
    -- `jp dep_tags`: everything after the listing script — the second comprehension, `extend`, `render()`, the replacement,
    -- the answer
    extract_lets dep_tags acc jp
    have tail : ∀ ns : Nodes, headNodes asTags ds = ns ++ concatNodes (ds.map asTags) →
        jp () (tagListOf (embNodes ns)) = answer := by
      intro ns hns
      simp only [jp, acc]
      refine comp_loop_k (fun s => s) e (fun d => tagListOf (embNodes (asTags d))) ds _
        (fun d hd s => ⟨_, by simp only [htags d hd, ok_bind], rfl⟩) _ _ [] (fun s hs => ?_)
      simp only [List.nil_append] at hs
      subst hs
      rw [hext, ← hns, ← hA]
      simp only [ok_bind, hrender]
      cases ph <;> rfl
    clear_value jp
    cases hemp : ds.isEmpty
    · -- some dependencies: the listing script first
      simp only [Bool.not_false, if_true, acc, dep_tags]
      refine comp_loop_k (fun s => s) e (fun d => PVal.str (d.info.name ++ '[' :: d.info.version ++ [']'])) ds _
        ?step _ _ [] (fun s hs => ?k)
      case step =>
        intro d hd s
        obtain ⟨v, hv1, hv2⟩ := hver d hd
        exact ⟨_, by simp only [hname d hd, hv1, hv2, ok_bind, pyAdd_strC13, List.append_assoc, List.singleton_append], rfl⟩
      case k =>
        simp only [List.nil_append] at hs
        subst hs
        have hj := pyJoin_strs [';'] (ds.map fun d => d.info.name ++ '[' :: d.info.version ++ [']'])
        simp only [List.map_map, Function.comp_def] at hj
        simp only [hj, ok_bind, pyMkTag_listingC13, happ]
        exact tail (.cons (listingNode ds) .nil) (by simp [headNodes, hemp])
    · -- no dependency: nothing is listed
      simp only [Bool.not_true, Bool.false_eq_true, if_false, dep_tags]
      exact tail .nil (by simp [headNodes, hemp]))

/-- a dependency object that carries what `render` reads: its name, its version, and the record of `as_html_tags` for the
    argument pair (the hypotheses of `src_textdoc_renderC13` are met by such objects, whatever other attributes they have) -/
def embDepTagsC13 (asTags : SDep → Nodes) (lp iv : PVal) (rk : Nat) (d : SDep) : PVal :=
  .obj "HTMLDependency" [("name", .str d.info.name), ("version", versionObjC10b rk d.info.version),
    ("as_html_tags", .list [.tuple [lp, iv, tagListOf (embNodes (asTags d))]])]

/-- … for these objects, `lib_prefix` None or a `str`, `include_version` a `bool` -/
theorem src_textdoc_render_objC13 (h : HTMLTextDocument_render_available = true) (hR : TagList_render_available = true)
    (hi : TagList_init_available = true) (hap : TagList_append_available = true) (hex : TagList_extend_available = true)
    (htc : tagchilds_to_tagnodes_available = true) (hfl : util_flatten_available = true)
    (hfr : util_flatten_recurse_available = true) (hitn : is_tag_node_available = true)
    (ht1 : Tag_tagify_available = true) (ht2 : TagList_tagify_available = true)
    (hd1 : Tag_get_dependencies_available = true) (hd2 : TagList_get_dependencies_available = true)
    (hr : resolve_dependencies_available = true)
    (hg1 : Tag_get_html_string_available = true) (hg2 : TagList_get_html_string_available = true)
    (hn : normalize_text_available = true) (he : html_escape_available = true) (hs : HTML_as_string_available = true)
    (cfg : Cfg) (ht : keysPlain cfg.textTbl = true) (ha : keysPlain cfg.attrTbl = true)
    (cls : String) (html : Str) (ds : List SDep) (asTags : SDep → Nodes) (lp : Option Str) (iv : Bool) (ph : Option Str)
    (rk : SDep → Nat) (hplain : ∀ d ∈ ds, plainKidsC13 (asTags d) = true)
    (fuel : Nat) (hf : 2 * kidsDepth (headNodes asTags ds) + 7 ≤ fuel) :
    HTMLTextDocument_render (globalsOf cfg) fuel
        (textDocObjC13 cls html (ds.map fun d => embDepTagsC13 asTags (optStrC13 lp) (.bool iv) (rk d) d) (optStrC13 ph))
        (optStrC13 lp) (.bool iv)
      = embRes (fun r => .dict [(['d', 'e', 'p', 'e', 'n', 'd', 'e', 'n', 'c', 'i', 'e', 's'],
                                  .list (ds.map fun d => embDepTagsC13 asTags (optStrC13 lp) (.bool iv) (rk d) d)),
                                (['h', 't', 'm', 'l'], .str r)])
          (textDocRender cfg asTags html ds ph) := by
  refine src_textdoc_renderC13 h hR hi hap hex ⟨htc, hfl, hfr, hitn⟩ ht1 ht2 hd1 hd2 hr hg1 hg2 hn he hs cfg ht ha cls html ds _
    asTags _ _ ph (fun d _ => rfl) (fun d _ => ⟨_, rfl, rfl⟩) (fun d _ => ?_) hplain fuel hf
  cases lp <;> cases iv <;> simp [pyAsHtmlTagsC13, embDepTagsC13, fieldGet?, lookupTagsC13, sameArgC13, optStrC13]

/-- `text.replace("</", "<\\/")` = `neutralise text` (Props/SrcNeutralise.lean `src_neutralise`, restated here so that this file does
    not depend on that file's `_now` obligation about the operands in the source) -/
theorem neutraliseC13 (s : Str) :
    pyReplaceAll (.str s) (.str ['<', '/']) (.str ['<', '\\', '/']) = .ok (.str (neutralise s)) := by
  simp only [pyReplaceAll, List.isEmpty_cons, Bool.false_eq_true, if_false, pure_eq_ok, neutralise]
  rw [replaceGo_neut_len s.length s (Nat.le_refl _)]

/-- `TagList(x)` for a TagList `x` of nodes, through the translated `TagList.__init__` -/
theorem init_taglist1C13 (hi : TagList_init_available = true) (hnc : NormCallees) (G : Globals) (ks : Nodes) (f : Nat) (hf : 4 < f) :
    TagList_init G f (PVal.obj "TagList" []) (PVal.tuple [tagListOf (embNodes ks)]) = .ok (tagListOf (embNodes ks)) := by
  obtain ⟨f5, rfl⟩ : ∃ f5, f = f5 + 5 := ⟨f - 5, by omega⟩
  have hk := kidItems_tagListC11 _ (plain_embNodesC13 ks)
  rw [TagList_init_kidsC11 hi hnc G f5 [tagListOf (embNodes ks)] (by intro x hx; simp at hx; subst hx; rw [hk]; rfl)]
  simp [kidFlatC11, hk]

/-- `HTMLDependency.serialize_to_script_json(indent)` as the source has it = `serNode` — the `<script type="application/json"
    data-html-dependency="">` element whose text is the neutralised JSON of the record — for every dependency object with the
    attributes `__init__` leaves (`embDepObjC10b`; `head` None or a TagList of any nodes), `indent` None or a natural number:
    the `res` dict in source order, `str(version)`, `head` rendered by the translated `TagList.__init__` +
    `get_html_string` (RuntimeError iff an un-expanded tagifiable object is reached), `json.dumps` (= `jsonPrint`:
    Py/PrimC13.lean), `.replace("</", "<\\/")` (= `neutralise`: `src_neutralise`), `Tag("script", …, type=…,
    data_html_dependency=True)` (`pyMkTagC13`: `Tag.__init__` is not translated). -/
theorem src_serializeC13 (h : HTMLDependency_serialize_available = true)
    (hi : TagList_init_available = true) (htc : tagchilds_to_tagnodes_available = true)
    (hfl : util_flatten_available = true) (hfr : util_flatten_recurse_available = true) (hitn : is_tag_node_available = true)
    (hg1 : Tag_get_html_string_available = true) (hg2 : TagList_get_html_string_available = true)
    (hn : normalize_text_available = true) (he : html_escape_available = true) (hs : HTML_as_string_available = true)
    (cfg : Cfg) (ht : keysPlain cfg.textTbl = true) (ha : keysPlain cfg.attrTbl = true)
    (cls : String) (info : DepInfo) (hasHead : Bool) (head : Nodes) (ind : Option Nat)
    (fuel : Nat) (hf : 2 * kidsDepth head + 6 ≤ fuel) :
    HTMLDependency_serialize (globalsOf cfg) fuel
        (embDepObjC10b cls (sourceVC13 info.source).emb info (if hasHead then tagListOf (embNodes head) else PVal.none))
        (optNatC13 ind)
      = if hasHead && head.hasTobjKids then .error .runtimeError
        else .ok (embNode (serNode ind (sdepOfNode cfg info hasHead head))) := by
  first
  | exact absurd h (by decide)
  | skip
  all_goals (
    obtain ⟨f, rfl⟩ : ∃ f, fuel = f + 1 := ⟨fuel - 1, by omega⟩
    rw [HTMLDependency_serialize]
    have g : ∀ (k : String) (v : PVal) (src hd : PVal),
        fieldGet? k [("name", PVal.str info.name), ("version", versionObjC10b info.vrank info.version), ("source", src),
          ("script", embDictsC10b info.script), ("stylesheet", embDictsC10b info.stylesheet), ("meta", embDictsC10b info.metas),
          ("all_files", PVal.bool info.allFiles), ("head", hd)] = some v →
        pyGetAttr (embDepObjC10b cls src info hd) k = .ok v := fun k v src hd hk => pyGetAttr_objC10b _ _ _ _ hk
    have hcls : ∀ l, pyClassOf (tagListOf l) = "TagList" := fun _ => rfl
    have hv : pyStrC13 (versionObjC10b info.vrank info.version) = .ok (.str info.version) := rfl
    simp -zeta only [g "name" _ _ _ rfl, g "version" _ _ _ rfl, g "source" _ _ _ rfl, g "script" _ _ _ rfl, g "stylesheet" _ _ _ rfl,
      g "meta" _ _ _ rfl, g "all_files" _ _ _ rfl, g "head" _ _ _ rfl, hv, ok_bind, pure_eq_ok, truthy_bool]
    -- `jp h`: what follows the `if` that computes the `head` entry `h` — `json.dumps`, the neutralisation, the `Tag(…)` construction
    extract_lets jp
    have tail : ∀ hd : Option Str, jp (optStrC13 hd) = .ok (embNode (serNode ind { info := info, head := hd })) := by
      intro hd
      have jd := jsonDumps_recordC13 info hd ind
      simp only [kName, kVersion, kSource, kScript, kStylesheet, kMeta, kAllFiles, kHead] at jd
      simp only [jp, jd, ok_bind, show (PVal.str ['<', Char.ofNat 92, '/']) = PVal.str ['<', '\\', '/'] from rfl, neutraliseC13]
      rfl
    clear_value jp
    cases hasHead
    · exact tail none
    · have hini := init_taglist1C13 hi ⟨htc, hfl, hfr, hitn⟩ (globalsOf cfg) head f (by omega)
      have hrl : TagList_get_html_string (globalsOf cfg) f (tagListOf (embNodes head)) (PVal.int 0) (PVal.str [Char.ofNat 10])
          (PVal.bool true) (PVal.bool true)
          = if head.hasTobjKids then .error .runtimeError else .ok (.str (renderList cfg head 0 ['\n'] true true)) :=
        src_render_list hg1 hg2 hn he hs cfg ht ha head f (by omega) 0 ['\n'] true true
      have hnn : isNone (tagListOf (embNodes head)) = false := rfl
      simp only [if_true, hnn, Bool.not_false, ok_bind, hini, hcls, hrl, Bool.true_and]
      cases head.hasTobjKids
      · exact tail (some (renderList cfg head 0 ['\n'] true true))
      · rfl)
end HtmlVerif.SrcTie
