/-
C15 — Attribute names and values are normalised and merged in argument order.

Model: `Model/Attrs.lean` (TagAttrDict, attribute half of Tag.__init__), `Model/Consolidate.lean`.
Spec side: `Spec/AttrMerge.lean` (`normNameSpec`, `normValSpec`, `mergeSpec`, `overrideKeepOrder`).

`mergeSpec cfg pairs` is the closed form "all (name, value) pairs of the call in argument order; None/False
dropped, True ↦ "", number ↦ its text; grouped by normalised name in order of first appearance; the values of
one name joined by single spaces in argument order".  `C15_merge_order`, `C15_merge_value`,
`C15_merge_plain`, `C15_merge_html`, `C15_merge_text` say exactly that about it.

Dictionaries are association lists; the representation invariant "keys are distinct" (`(keysOf a).Nodup`) is
established by construction and preserved by every operation (`C15_wf_*`).
-/
import HtmlVerif.Lemmas.Consolidate

namespace HtmlVerif.C15
open HtmlVerif

/-! ### names and values -/

/-- one trailing underscore removed, the remaining underscores turned into hyphens -/
theorem C15_normName_spec (x : Str) :
    normAttrName x = (dropOneTrailing '_' x).map (fun c => if c = '_' then '-' else c) :=
  normAttrName_eq_spec x

/-- a normalised name contains no underscore … -/
theorem C15_normName_no_underscore (x : Str) : '_' ∉ normAttrName x :=
  underscore_not_mem_normAttrName x

/-- … hence normalising twice is normalising once -/
theorem C15_normName_idem (x : Str) : normAttrName (normAttrName x) = normAttrName x :=
  normAttrName_idem x

/-- None/False dropped, True as empty string, numbers as text, str/HTML unchanged; any other type is a TypeError -/
theorem C15_normValue_spec (v : AttrArg) :
    normAttrValue v = if v = .bad then .error .typeError else .ok (normValSpec v) := by
  cases v <;> simp [normAttrValue, normValSpec]

/-! ### one call: `Tag(*dicts, **kw)` -/

/-- the attributes of a freshly built tag are the closed form over positional dicts left to right, then keywords -/
theorem C15_init_is_merge (cfg : Cfg) (dicts : List (List (Str × AttrArg))) (kw : List (Str × AttrArg))
    (hok : ∀ kv ∈ dicts.flatten ++ kw, kv.2 ≠ .bad) :
    tagInitAttrs cfg dicts kw = .ok (mergeSpec cfg (dicts.flatten ++ kw)) :=
  tagInitAttrs_eq cfg dicts kw hok

/-- the error twin: one value of an invalid type anywhere rejects the whole call -/
theorem C15_init_rejects (cfg : Cfg) (dicts : List (List (Str × AttrArg))) (kw : List (Str × AttrArg))
    (hbad : ∃ kv ∈ dicts.flatten ++ kw, kv.2 = .bad) :
    tagInitAttrs cfg dicts kw = .error .typeError := by
  rw [tagInitAttrs, attrsUpdate_bad cfg [] _ (by rw [tagInitAttrs_flatten]; exact hbad)]

/-- attributes are ordered by first appearance of their normalised name -/
theorem C15_merge_order (cfg : Cfg) (pairs : List (Str × AttrArg)) :
    keysOf (mergeSpec cfg pairs) = ((normPairs pairs).map Prod.fst).eraseDups :=
  keysOf_mergeSpecN cfg _

/-- the value of a name is the left-to-right join of all (undropped) values given for it, and a name is
    present iff some undropped value was given for it -/
theorem C15_merge_value (cfg : Cfg) (pairs : List (Str × AttrArg)) (k : Str) :
    alookup k (mergeSpec cfg pairs) =
      match groupVals k (normPairs pairs) with
      | [] => none
      | v :: vs => some (joinVals cfg v vs) :=
  alookup_mergeSpecN cfg _ k

/-- all values plain: the stored value is the plain texts joined by single spaces, in argument order -/
theorem C15_merge_plain (cfg : Cfg) (pairs : List (Str × AttrArg)) (k : Str) (s : Str) (ss : List Str)
    (h : groupVals k (normPairs pairs) = (s :: ss).map .plain) :
    alookup k (mergeSpec cfg pairs) = some (.plain (joinStr [' '] (s :: ss))) := by
  rw [C15_merge_value, h]
  simp [joinVals_same cfg .plain fun _ _ => rfl]

/-- all values HTML(): likewise, and the result is HTML() -/
theorem C15_merge_html (cfg : Cfg) (pairs : List (Str × AttrArg)) (k : Str) (s : Str) (ss : List Str)
    (h : groupVals k (normPairs pairs) = (s :: ss).map .html) :
    alookup k (mergeSpec cfg pairs) = some (.html (joinStr [' '] (s :: ss))) := by
  rw [C15_merge_value, h]
  simp [joinVals_same cfg .html fun _ _ => rfl]

/-- any mix of kinds: the *emitted* text is the operands' emissions joined by single spaces in argument order
    (`hdistrib`: attribute escaping distributes over a one-space join, see `escDistrib_of_no_space_key`) -/
theorem C15_merge_text (cfg : Cfg) (hdistrib : EscDistrib cfg) (pairs : List (Str × AttrArg)) (k : Str)
    (v : AttrVal) (vs : List AttrVal) (h : groupVals k (normPairs pairs) = v :: vs) :
    ∃ m, alookup k (mergeSpec cfg pairs) = some m ∧
      emitAttrVal cfg m = joinStr [' '] ((v :: vs).map (emitOperand cfg)) := by
  refine ⟨joinVals cfg v vs, ?_, emit_joinVals cfg hdistrib v vs⟩
  rw [C15_merge_value, h]

/-! ### later calls replace, never append -/

/-- `attrs.update(*dicts, **kw)`: names given in this call get exactly this call's merged value (their old value
    is discarded), keep their position if they existed, and are appended in first-appearance order otherwise -/
theorem C15_update_replaces (cfg : Cfg) (cur : Attrs) (args : List (List (Str × AttrArg)))
    (hwf : (keysOf cur).Nodup) (hok : ∀ kv ∈ args.flatten, kv.2 ≠ .bad) :
    attrsUpdate cfg cur args = .ok (overrideKeepOrder cur (mergeSpec cfg args.flatten)) := by
  rw [attrsUpdate_eq cfg cur args hok, dictUpdate_eq_override _ _ hwf (nodup_keysOf_mergeSpec _ _)]

/-- the same, name by name: this call's value if the call gave one, else the old one -/
theorem C15_update_lookup (cfg : Cfg) (cur new : Attrs) (args : List (List (Str × AttrArg)))
    (h : attrsUpdate cfg cur args = .ok new) (k : Str) :
    alookup k new = (alookup k (mergeSpec cfg args.flatten)).or (alookup k cur) := by
  rw [(attrsUpdate_ok_inv cfg cur new args h).1]
  exact alookup_dictUpdate k cur _ (nodup_keysOf_mergeSpec _ _)

/-- an invalid value anywhere in the call makes the whole `update` raise TypeError -/
theorem C15_update_rejects (cfg : Cfg) (cur : Attrs) (args : List (List (Str × AttrArg)))
    (hbad : ∃ kv ∈ args.flatten, kv.2 = .bad) :
    attrsUpdate cfg cur args = .error .typeError :=
  attrsUpdate_bad cfg cur args hbad

/-- `attrs[k] = v` is the one-pair case of the same override -/
theorem C15_setitem_replaces (cfg : Cfg) (cur : Attrs) (k : Str) (v : AttrArg)
    (hwf : (keysOf cur).Nodup) (hok : v ≠ .bad) :
    attrsSetItem cur k v = .ok (overrideKeepOrder cur (mergeSpec cfg [(k, v)])) := by
  have hu := C15_update_replaces cfg cur [[(k, v)]] hwf (by simpa using hok)
  simp only [List.flatten_cons, List.flatten_nil, List.append_nil] at hu
  rw [← hu, attrsUpdate_single]

theorem C15_setitem_rejects (cur : Attrs) (k : Str) : attrsSetItem cur k .bad = .error .typeError := rfl

/-! ### the representation invariant -/

theorem C15_wf_init (cfg : Cfg) (dicts : List (List (Str × AttrArg))) (kw : List (Str × AttrArg)) (a : Attrs)
    (h : tagInitAttrs cfg dicts kw = .ok a) : (keysOf a).Nodup := by
  rw [(tagInitAttrs_ok_inv cfg dicts kw a h).1]
  exact nodup_keysOf_mergeSpec _ _

theorem C15_wf_update (cfg : Cfg) (cur new : Attrs) (args : List (List (Str × AttrArg)))
    (hwf : (keysOf cur).Nodup) (h : attrsUpdate cfg cur args = .ok new) : (keysOf new).Nodup :=
  nodup_attrsUpdate cfg cur new args hwf h

theorem C15_wf_setitem (cur new : Attrs) (k : Str) (v : AttrArg)
    (hwf : (keysOf cur).Nodup) (h : attrsSetItem cur k v = .ok new) : (keysOf new).Nodup := by
  simp only [attrsSetItem] at h
  split at h
  · cases h
  · cases h; exact hwf
  · cases h; exact nodup_dictSet _ _ _ hwf

/-! ### consolidate_attrs -/

/-- `consolidate_attrs(*args, **kw)` returns exactly the attributes `Tag(*args, **kw)` would have, plus the
    non-dict arguments unchanged and in order -/
theorem C15_consolidate_spec {α} (cfg : Cfg) (chk : List α → Except Err Unit)
    (args : List (TagArg α)) (kw : List (Str × AttrArg))
    (hok : ∀ kv ∈ (dictsOf args).flatten ++ kw, kv.2 ≠ .bad) (hkids : chk (kidsOf args) = .ok ()) :
    consolidate cfg chk args kw = .ok (mergeSpec cfg ((dictsOf args).flatten ++ kw), kidsOf args)
    ∧ tagInitSplit cfg chk args kw = .ok (mergeSpec cfg ((dictsOf args).flatten ++ kw), kidsOf args) := by
  simp [consolidate, tagInitSplit, tagInitAttrs_eq cfg _ _ hok, hkids]

/-- it raises exactly when building the tag raises -/
theorem C15_consolidate_error {α} (cfg : Cfg) (chk : List α → Except Err Unit)
    (args : List (TagArg α)) (kw : List (Str × AttrArg)) (e : Err) :
    consolidate cfg chk args kw = .error e ↔ tagInitSplit cfg chk args kw = .error e := by
  unfold consolidate
  cases tagInitSplit cfg chk args kw <;> simp

/-- rebuilding a tag from the result — `Tag(name, attrs, *children)` — equals building it directly -/
theorem C15_consolidate_rebuild {α} (cfg : Cfg) (chk : List α → Except Err Unit)
    (args : List (TagArg α)) (kw : List (Str × AttrArg)) (a : Attrs) (cs : List α)
    (h : consolidate cfg chk args kw = .ok (a, cs)) :
    tagInitSplit cfg chk (.dict (asDictArg a) :: cs.map .child) [] = tagInitSplit cfg chk args kw := by
  unfold consolidate tagInitSplit at h
  unfold tagInitSplit
  rw [dictsOf_dict_children, kidsOf_dict_children]
  cases hi : tagInitAttrs cfg (dictsOf args) kw with
  | error e => simp [hi] at h
  | ok a' =>
    cases hc : chk (kidsOf args) with
    | error e => simp [hi, hc] at h
    | ok u =>
      simp only [hi, hc, Except.ok.injEq, Prod.mk.injEq] at h
      obtain ⟨rfl, rfl⟩ := h
      rw [(tagInitAttrs_ok_inv cfg _ _ _ hi).1,
        tagInitAttrs_asDictArg cfg _ (nodup_keysOf_mergeSpec _ _) (normNameSpec_keys_mergeSpec _ _), hc]

/-! ### non-vacuity -/

private def cfg0 : Cfg := { void := [], noesc := [], textTbl := [], attrTbl := [('"', ['&', 'q', ';'])] }

/-- colliding raw names `x`, `x_`, a dropped value in between, True, a number; then keywords -/
example : tagInitAttrs cfg0
    [[(['x'], .str ['a']), (['y', '_', 'z'], .boolT)], [(['x', '_'], .none), (['x', '_'], .num ['1'])]]
    [(['x'], .html ['<']), (['y', '-', 'z', '_'], .boolF)]
    = .ok [(['x'], .html ['a', ' ', '1', ' ', '<']), (['y', '-', 'z'], .plain [])] := by
  rfl

example : attrsUpdate cfg0 [(['a'], .plain ['0']), (['x'], .plain ['o', 'l', 'd'])]
    [[(['x', '_'], .str ['n'])], [(['b'], .boolT), (['x'], .str ['m'])]]
    = .ok [(['a'], .plain ['0']), (['x'], .plain ['n', ' ', 'm']), (['b'], .plain [])] := by
  rfl

example : consolidate cfg0 (fun (_ : List Nat) => .ok ())
    [.child 1, .dict [(['x'], .str ['a'])], .child 2, .dict [(['x', '_'], .boolT)]] [(['k'], .num ['3'])]
    = .ok ([(['x'], .plain ['a', ' ']), (['k'], .plain ['3'])], [1, 2]) := by
  rfl

example : normAttrName ['x', '_', '_'] = ['x', '-'] ∧ normAttrName ['a', '_', 'b'] = ['a', '-', 'b']
    ∧ normAttrName ['_'] = [] := by decide

end HtmlVerif.C15
