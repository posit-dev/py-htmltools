/-
Source tie (DESIGN §14) for tagifiable expansion: the Lean functions regenerated from the text of `TagList.tagify` and
`Tag.tagify` (a `mutual` pair, recursion bounded by fuel) compute, for every tree, what the model (`tagifyNodes`,
`tagifyTag`; Model/Tagify.lean) computes.  Obligations of C09.

Stated on the embedding `embC18 xf tv` (Lemmas/SrcC10.lean), whose dependency objects may carry further fields; `embT tv`
is the instance without (`src_tagify_tag`, `src_tagify_list`).
Objects of foreign classes: the value their `tagify()` returns is part of the input (recorded in the instance, `tv`);
the theorems hold for every `tv` that agrees with the model (`TvOkC18`), and `tvSpecC18` is one, for every tree.
`copy(x)` is the value itself (Py/PrimC10.lean: values are immutable); `_tagchilds_to_tagnodes` is the primitive
`pyTagchildsToTagnodes`, defined only on a TagList of plain tag nodes — every TagList the tree type can express.

The loop body is never spelled out: `tagify_loop_k` (Lemmas/SrcC09.lean) takes it from the regenerated definition by
unification; what is proved about it is its effect on one pass, at index `len(pre)` of the working copy `pre ++ c :: post`.
-/
import HtmlVerif.Generated.Src
import HtmlVerif.Lemmas.SrcC09

-- the availability flags are read only where a function has left the fragment; simp sets name lemmas for spellings other than the one the source has
set_option linter.unusedVariables false
set_option linter.unusedSimpArgs false

namespace HtmlVerif.SrcTie
open HtmlVerif HtmlVerif.Py HtmlVerif.Generated.Src

/-- the loop of `TagList.tagify`: given the tie for the tag children at this fuel, and that the value recorded for the
    `tagify()` of every foreign object among the items is the embedding of what the model says it returns -/
theorem src_taglist_tagify_step_C18 (h : TagList_tagify_available = true) (G : Globals) (xf : XfC18) (hx : XfOkC18 xf)
    (tv : Node → PVal) (fuel : Nat) (ks : Nodes)
    (htv : ∀ c ∈ ks.toList, c.isTag = false → c.isTagifiable = true → tv c = embResultC18 xf tv (specResult c))
    (HP : ∀ c ∈ ks.toList, c.isTag = true → Tag_tagify G fuel (embC18 xf tv c) = .ok (embC18 xf tv (tagifyTag c))) :
    TagList_tagify G (fuel + 1) (tagListOf (embsC18 xf tv ks)) = .ok (tagListOf (embsC18 xf tv (tagifyNodes ks))) := by
  first
  | exact absurd h (by decide)
  | skip
  all_goals (
    rw [TagList_tagify]
    simp only [ok_bind, pure_eq_ok, truthy_bool, pyCopy_tagListOf, pyLenU_tagListOf, pyRange_nat, pyReversed_list, pyIter_list,
      embsC18_toList, List.length_map]
    refine tagify_loop_k (embC18 xf tv) Prod.fst specResult ks.toList _ rfl _ ?step _ _ ?k
    case k =>
      intro s hs
      rw [hs, flatMap_specResult]
    case step =>
      intro pre c post s hc hs
      obtain ⟨s1, s2, s3, s4⟩ := s
      simp only at hs; subst hs
      have hget := pyGetItemU_at (pre.map (embC18 xf tv)) (embC18 xf tv c) (post.map (embC18 xf tv))
      have hset := fun v => pySetItemU_at (pre.map (embC18 xf tv)) (embC18 xf tv c) v (post.map (embC18 xf tv))
      have hsl := fun xs => pySetSliceU_at (pre.map (embC18 xf tv)) (embC18 xf tv c) (post.map (embC18 xf tv)) xs
      simp only [List.length_map] at hget hset hsl
      simp only [List.map_append, List.map_cons, hget, ok_bind, isTagifiable_embC18 xf hx, isMeta_embC18]
      cases c with
      | tag nm ws at' kk =>
        have hp := HP _ hc rfl
        have hcls : pyClassOf (embC18 xf tv (Node.tag nm ws at' kk)) = "Tag" := rfl
        simp only [Node.isTagifiable_tag, if_true, hcls, hp, ok_bind, not_taglist_embC18, Bool.false_eq_true, if_false, hset]
        simp [stepSpec, specResult, tagifyTag, C09.C09_tagify_is_spec, TagifyResult.splice]
      | tobjL rh cc =>
        have hcls : pyClassOf (embC18 xf tv (Node.tobjL rh cc)) = "TagifyObj" := rfl
        have hv := htv _ hc rfl rfl
        have hty : pyTagifyObj (embC18 xf tv (Node.tobjL rh cc)) = .ok (tv (Node.tobjL rh cc)) := by
          simp [embC18, pyTagifyObj, fieldGet?]
        simp only [Node.isTagifiable_tobjL, if_true, hcls, hty, ok_bind, hv, stepSpec]
        cases specResult (Node.tobjL rh cc) with
        | taglist ns =>
          have hi : isInstance (tagListOf (ns.map (embC18 xf tv))) ["TagList"] = true := by simp [tagListOf, isInstance]
          simp [embResultC18, hi, pyTagchilds_embC18, pyAdd_int1, hsl, TagifyResult.splice]
        | single x => simp [embResultC18, not_taglist_embC18, hset, TagifyResult.splice]
      | tobj1 rh cc =>
        have hcls : pyClassOf (embC18 xf tv (Node.tobj1 rh cc)) = "TagifyObj" := rfl
        have hv := htv _ hc rfl rfl
        have hty : pyTagifyObj (embC18 xf tv (Node.tobj1 rh cc)) = .ok (tv (Node.tobj1 rh cc)) := by
          simp [embC18, pyTagifyObj, fieldGet?]
        simp only [Node.isTagifiable_tobj1, if_true, hcls, hty, ok_bind, hv, stepSpec]
        cases specResult (Node.tobj1 rh cc) with
        | taglist ns =>
          have hi : isInstance (tagListOf (ns.map (embC18 xf tv))) ["TagList"] = true := by simp [tagListOf, isInstance]
          simp [embResultC18, hi, pyTagchilds_embC18, pyAdd_int1, hsl, TagifyResult.splice]
        | single x => simp [embResultC18, not_taglist_embC18, hset, TagifyResult.splice]
      | mnode k => simp [Node.isMeta, pyCopy_meta_C18 xf hx tv (Node.mnode k) rfl, hset, stepSpec]
      | dep d hh hd => simp [Node.isMeta, pyCopy_meta_C18 xf hx tv (Node.dep d hh hd) rfl, hset, stepSpec]
      | text t => simp [Node.isMeta, stepSpec]
      | html t => simp [Node.isMeta, stepSpec]
      | robj t => simp [Node.isMeta, stepSpec])

theorem src_tag_tagify_step_C18 (h : Tag_tagify_available = true) (G : Globals) (xf : XfC18) (tv : Node → PVal) (fuel : Nat)
    (nm : Str) (ws : Bool) (at' : Attrs) (kk : Nodes)
    (HQ : TagList_tagify G fuel (tagListOf (embsC18 xf tv kk)) = .ok (tagListOf (embsC18 xf tv (tagifyNodes kk)))) :
    Tag_tagify G (fuel + 1) (embC18 xf tv (.tag nm ws at' kk)) = .ok (embC18 xf tv (tagifyTag (.tag nm ws at' kk))) := by
  first
  | exact absurd h (by decide)
  | skip
  all_goals (
    rw [Tag_tagify]
    have hcp : pyCopy (embC18 xf tv (.tag nm ws at' kk)) = .ok (embC18 xf tv (.tag nm ws at' kk)) := by
      simp [embC18, pyCopy, fieldGet?]
    have hcls : pyClassOf (tagListOf (embsC18 xf tv kk)) = "TagList" := rfl
    simp only [ok_bind, pure_eq_ok, hcp, (getattr_tagC18 xf tv nm ws at' kk).2.2.1, hcls, HQ]
    simp [embC18, pySetAttr, fieldSet, tagifyTag, tagListOf])

theorem src_tagify_depth_C18 (h1 : Tag_tagify_available = true) (h2 : TagList_tagify_available = true)
    (G : Globals) (xf : XfC18) (hx : XfOkC18 xf) (tv : Node → PVal) (htv : TvOkC18 xf tv) (n : Nat) :
    (∀ t : Node, t.isTag = true → nodeDepth t ≤ n → ∀ fuel, 2 * n ≤ fuel →
        Tag_tagify G fuel (embC18 xf tv t) = .ok (embC18 xf tv (tagifyTag t)))
    ∧ (∀ ks : Nodes, kidsDepth ks ≤ n → ∀ fuel, 2 * n + 1 ≤ fuel →
        TagList_tagify G fuel (tagListOf (embsC18 xf tv ks)) = .ok (tagListOf (embsC18 xf tv (tagifyNodes ks)))) :=
  depth_induction
    (P := fun f t => Tag_tagify G f (embC18 xf tv t) = .ok (embC18 xf tv (tagifyTag t)))
    (Q := fun f ks => TagList_tagify G f (tagListOf (embsC18 xf tv ks)) = .ok (tagListOf (embsC18 xf tv (tagifyNodes ks))))
    (fun f ks HP => src_taglist_tagify_step_C18 h2 G xf hx tv f ks (fun c _ => htv c) HP)
    (fun f nm ws at' kk HQ => src_tag_tagify_step_C18 h1 G xf tv f nm ws at' kk HQ) n

theorem src_tagify_tag_C18 (h1 : Tag_tagify_available = true) (h2 : TagList_tagify_available = true)
    (G : Globals) (xf : XfC18) (hx : XfOkC18 xf) (tv : Node → PVal) (htv : TvOkC18 xf tv) (t : Node) (htag : t.isTag = true)
    (fuel : Nat) (hf : 2 * nodeDepth t ≤ fuel) :
    Tag_tagify G fuel (embC18 xf tv t) = .ok (embC18 xf tv (tagifyTag t)) :=
  (src_tagify_depth_C18 h1 h2 G xf hx tv htv (nodeDepth t)).1 t htag (Nat.le_refl _) fuel hf

theorem src_tagify_list_C18 (h1 : Tag_tagify_available = true) (h2 : TagList_tagify_available = true)
    (G : Globals) (xf : XfC18) (hx : XfOkC18 xf) (tv : Node → PVal) (htv : TvOkC18 xf tv) (ks : Nodes) (fuel : Nat)
    (hf : 2 * kidsDepth ks + 1 ≤ fuel) :
    TagList_tagify G fuel (tagListOf (embsC18 xf tv ks)) = .ok (tagListOf (embsC18 xf tv (tagifyNodes ks))) :=
  (src_tagify_depth_C18 h1 h2 G xf hx tv htv (kidsDepth ks)).2 ks (Nat.le_refl _) fuel hf

theorem src_tagify_tag (h1 : Tag_tagify_available = true) (h2 : TagList_tagify_available = true)
    (G : Globals) (tv : Node → PVal) (htv : TvOk tv) (t : Node) (htag : t.isTag = true) (fuel : Nat)
    (hf : 2 * nodeDepth t ≤ fuel) :
    Tag_tagify G fuel (embT tv t) = .ok (embT tv (tagifyTag t)) := by
  simpa only [embC18_nil] using src_tagify_tag_C18 h1 h2 G xfNilC18 xfNilC18_ok tv htv.toC18 t htag fuel hf

theorem src_tagify_list (h1 : Tag_tagify_available = true) (h2 : TagList_tagify_available = true)
    (G : Globals) (tv : Node → PVal) (htv : TvOk tv) (ks : Nodes) (fuel : Nat) (hf : 2 * kidsDepth ks + 1 ≤ fuel) :
    TagList_tagify G fuel (tagListOf (embTs tv ks)) = .ok (tagListOf (embTs tv (tagifyNodes ks))) := by
  simpa only [embsC18_nil] using src_tagify_list_C18 h1 h2 G xfNilC18 xfNilC18_ok tv htv.toC18 ks fuel hf

/-- without hypothesis on the objects: every foreign object's `tagify()` returns what the model says (`tvSpec`) -/
theorem src_tagify_list_spec (h1 : Tag_tagify_available = true) (h2 : TagList_tagify_available = true)
    (G : Globals) (ks : Nodes) :
    TagList_tagify G (2 * kidsDepth ks + 1) (tagListOf (embTs tvSpec ks)) = .ok (tagListOf (embTs tvSpec (tagifyNodes ks))) :=
  src_tagify_list h1 h2 G tvSpec tvSpec_ok ks _ (Nat.le_refl _)

theorem src_tagify_tag_spec (h1 : Tag_tagify_available = true) (h2 : TagList_tagify_available = true)
    (G : Globals) (t : Node) (htag : t.isTag = true) :
    Tag_tagify G (2 * nodeDepth t) (embT tvSpec t) = .ok (embT tvSpec (tagifyTag t)) :=
  src_tagify_tag h1 h2 G tvSpec tvSpec_ok t htag _ (Nat.le_refl _)

end HtmlVerif.SrcTie
