/-
Source tie for the neutralisation step of `HTMLDependency.serialize_to_script_json` (obligation of C13):

    json.dumps(res, indent=indent).replace("</", "<\\/")

The function as a whole is outside the translatable fragment (`json.dumps`, the `Tag(...)` constructor), so it is not
regenerated.  What is tied here is the step itself: the two operands are taken from the source text on every run
(Generated/Consts.lean `neutraliseFrom` / `neutraliseTo`, extracted by harness/translate.py), `str.replace` is the stated
semantics of Py/PrimC08.lean (`pyReplaceAll`: leftmost, non-overlapping; checked against the interpreter by the
`srcc08 replace` lines of every run), and the theorem says that this replacement with these operands computes the model's
one-pass `neutralise` (Model/Json.lean) for every text.  A change of either operand in the source breaks
`src_neutralise_now`; if the extractor does not find the call the statement is vacuous (and Props/ConstsJson.lean
reports the missing literal).
-/
import HtmlVerif.Lemmas.SrcC08
import HtmlVerif.Generated.Consts

namespace HtmlVerif.SrcTie
open HtmlVerif HtmlVerif.Py

theorem src_neutralise (s : Str) :
    pyReplaceAll (.str s) (.str ['<', '/']) (.str ['<', '\\', '/']) = .ok (.str (neutralise s)) := by
  simp only [pyReplaceAll, List.isEmpty_cons, Bool.false_eq_true, if_false, pure_eq_ok, neutralise]
  rw [replaceGo_neut_len s.length s (Nat.le_refl _)]

/-- with the operands as they are in the source right now -/
theorem src_neutralise_now :
    match Generated.neutraliseFrom, Generated.neutraliseTo with
    | some f, some t => ∀ s : Str, pyReplaceAll (.str s) (.str f) (.str t) = .ok (.str (neutralise s))
    | _, _ => True := by
  first
  | (simp only [Generated.neutraliseFrom, Generated.neutraliseTo]
     exact src_neutralise)
  | (simp only [Generated.neutraliseFrom, Generated.neutraliseTo])

end HtmlVerif.SrcTie
