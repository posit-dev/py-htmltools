/-
C11 — HTMLDocument builds one head/body and hoists every dependency into head.

Model: `Model/Document.lean` (`genTree` = `_gen_html_tag_tree` up to hoisting, `hoist` = `_hoist_head_content`
as written: index loop, insert at 0, item assignment, `append`, `extend`; `docTree` = the copy `Tag.render()`
renders; `docRender` = markup, returned list *as the code recomputes it from the hoisted tree*, and the stored
content after the call).  Specification: `Spec/Document.lean` (`specTree`, built directly from the expanded
content `Nodes.expandAll` (C09), the resolved list `docDeps = resolve ∘ collect` (C10) and `asHtmlTags` (C12)).

With `R := docDeps content`, `K` := the root's children demanded by the case (`specRoot`):

  C11_tree_is_spec      the rendered tree is the described tree, error for error
  C11_doctype           markup = "<!DOCTYPE html>\n" ++ rendering of that tree at indent 0, eol "\n"; never a RuntimeError
  C11_root_*            the three cases (chosen on the stored, un-expanded content; `len == 1` counts metadata nodes)
  C11_one_head          exactly one direct <head> child, under the guard `headCount ≤ 1` for a user's <html>
  C11_head_*            that head = <meta charset> :: user's head children ++ listing R ++ markup of R, in place
  C11_listing           the listing script: present iff R ≠ [], text = name[version] joined by ";"
  C11_dep_markup_order  the markup of R is the concatenation, in resolved order, of each dependency's markup, once
  C11_dep_tags          one dependency: metas, links, scripts (one childless tag per entry), then its head nodes
  C11_returned          returned list = R under `noDepInDepHead`; `C11_returned_full_is_false` (F-C11)
  C11_rest_is_plain     outside the head nothing is added, and the markup is that of the dependency-free content (C07)
  C11_page_layout       wrap cases: the page is the html line, the head block, the body block
  C11_objects_expanded* document-level corollary of C09
  C11_pure, C11_append  render() leaves the stored content alone (the code of the pinned commit does not: F-C08a); appending
  C11_errors            when render() raises
  C11_statement_holds_of_model   the executable statement accepts the model's own output
-/
import HtmlVerif.Lemmas.Document
import HtmlVerif.Props.C07
import HtmlVerif.Lemmas.NodeBeq
import HtmlVerif.Holds.C11

namespace HtmlVerif.C11
open HtmlVerif HtmlVerif.Doc

/-! ### the rendered tree is the described tree -/

/-- **refinement**: find-or-insert by index, copy, `insert(0, …)`, `append`, `extend`, then `tagify()` of the
    result compute exactly the tree the property describes — and fail exactly when it is not defined -/
theorem C11_tree_is_spec (cfg : Cfg) (content : Nodes) (kw : List (Str × AttrArg)) (lp : Option Str) (iv : Bool) :
    docTree cfg content kw lp iv = specTree cfg content kw lp iv := by
  unfold docTree genHtmlTagTree specTree specExtra
  rw [genTree_eq, depMarkupAll_eq]
  cases hr : specRoot cfg content kw with
  | error e => rfl
  | ok r =>
    obtain ⟨n, w, a, ks⟩ := r
    obtain ⟨hn, hk, hc⟩ := specRoot_ok hr
    subst hn
    simp only [hoist_eq, docDeps, hc]
    cases depTagsAll cfg lp iv (resolve content.expandAll.collect) with
    | error e => rfl
    | ok tags =>
      simp [C09.C09_tagify_tag, expandAll_withHead _ _ hk, Nodes.expandAll_append, listing_expand]

/-- **doctype**: `render()` succeeds exactly when the tree is defined (rendering it never raises: nothing
    un-expanded is left), and the markup is the doctype line followed by the tree's own rendering -/
theorem C11_doctype (cfg : Cfg) (content : Nodes) (kw : List (Str × AttrArg)) (lp : Option Str) (iv : Bool) :
    docRender cfg content kw lp iv =
      match docTree cfg content kw lp iv with
      | .error e => .error e
      | .ok t => .ok { html := doctype ++ t.render cfg 0 ['\n'], deps := t.getDeps true, after := content } := by
  unfold docRender docTree genHtmlTagTree
  rw [genTree_eq]
  cases specRoot cfg content kw with
  | error e => rfl
  | ok r =>
    obtain ⟨n, w, a, ks⟩ := r
    simp only
    cases hoist cfg (.tag n w a ks) lp iv with
    | error e => rfl
    | ok t =>
      have ht : (tagifyTag t).hasTobj = false := by
        cases t with
        | tag n' w' a' k' =>
          rw [C09.C09_tagify_tag]
          exact C09.C09_tagified_no_tobj_tag _ (by simpa [Node.tagified] using C09.C09_expandAll_tagified k')
        | _ => simp [tagifyTag, Node.hasTobj]
      simp [renderTagChecked, ht]

section
variable {cfg : Cfg} {content : Nodes} {kw : List (Str × AttrArg)} {lp : Option Str} {iv : Bool}

theorem C11_tree_shape {t : Node} (h : docTree cfg content kw lp iv = .ok t) :
    ∃ n w a ks ms, specRoot cfg content kw = .ok (n, w, a, ks) ∧
      depMarkupAll cfg lp iv (docDeps content) = .ok ms ∧
      t = .tag n w a (withHead (listing (docDeps content) ++ ms) ks) := by
  rw [C11_tree_is_spec] at h
  unfold specTree specExtra at h
  split at h
  · cases h
  · rename_i n w a ks hr
    cases hm : depMarkupAll cfg lp iv (docDeps content) <;> rw [hm] at h <;> cases h
    exact ⟨n, w, a, ks, _, hr, rfl, rfl⟩

theorem docRender_ok {r : DocRendered} (h : docRender cfg content kw lp iv = .ok r) :
    ∃ t, docTree cfg content kw lp iv = .ok t ∧
      r = { html := doctype ++ t.render cfg 0 ['\n'], deps := t.getDeps true, after := content } := by
  rw [C11_doctype] at h
  split at h
  · cases h
  · rename_i t ht
    cases h
    exact ⟨t, ht, rfl⟩

end

theorem C11_doctype_prefix {cfg : Cfg} {content : Nodes} {kw : List (Str × AttrArg)} {lp : Option Str} {iv : Bool}
    {r : DocRendered} (h : docRender cfg content kw lp iv = .ok r) :
    ∃ t, docTree cfg content kw lp iv = .ok t ∧ r.html = doctype ++ t.render cfg 0 ['\n'] ∧
      doctype <+: r.html := by
  obtain ⟨t, ht, rfl⟩ := docRender_ok h
  exact ⟨t, ht, rfl, _, rfl⟩

/-! ### the root: three cases -/

/-- **sole `<html>`** (the only stored node, metadata nodes counted): the user's own tag — name, `add_ws` kept —
    with its attributes updated by the keyword arguments, and all children other than the first `<head>` are the
    user's children, expanded, in order -/
theorem C11_root_html {cfg : Cfg} {w : Bool} {a : Attrs} {kids : Nodes} {kw : List (Str × AttrArg)}
    {lp : Option Str} {iv : Bool} {t : Node}
    (h : docTree cfg (.cons (.tag nHtml w a kids) .nil) kw lp iv = .ok t) :
    ∃ a' ks, updateKw cfg a kw = .ok a' ∧ t = .tag nHtml w a' ks ∧
      dropFirstHead ks = dropFirstHead kids.expandAll := by
  obtain ⟨n, w', a', ks, ms, hr, _, rfl⟩ := C11_tree_shape h
  simp only [specRoot, docShape_tag, if_true] at hr
  split at hr
  · cases hr
  · rename_i a'' ha
    cases hr
    exact ⟨_, _, ha, rfl, dropFirstHead_withHead _ _⟩

/-- **sole `<body>`**: a new `<html>` (attributes = the keyword arguments) with exactly two children, the head
    and the user's own `<body>` tag (name, flag, attributes kept) over its expanded children -/
theorem C11_root_body {cfg : Cfg} {w : Bool} {a : Attrs} {kids : Nodes} {kw : List (Str × AttrArg)}
    {lp : Option Str} {iv : Bool} {t : Node}
    (h : docTree cfg (.cons (.tag nBody w a kids) .nil) kw lp iv = .ok t) :
    ∃ a' ms, tagInitAttrs cfg [] kw = .ok a' ∧
      depMarkupAll cfg lp iv (docDeps (.cons (.tag nBody w a kids) .nil)) = .ok ms ∧
      t = .tag nHtml true a'
        (.cons (specHead nHead true [] .nil (listing (docDeps (.cons (.tag nBody w a kids) .nil)) ++ ms))
          (.cons (.tag nBody w a kids.expandAll) .nil)) := by
  obtain ⟨n, w', a', ks, ms, hr, hm, rfl⟩ := C11_tree_shape h
  simp only [specRoot, docShape_tag, nBody_ne_nHtml, if_false, if_true] at hr
  split at hr
  · cases hr
  · rename_i a'' ha
    cases hr
    exact ⟨_, ms, ha, hm, by simp [withHead, splitHead, emptyHead, isTagNamed, specHead]⟩

/-- **anything else** (no node, several nodes, a sole node that is not an `<html>`/`<body>` *tag* — e.g. an object
    that would expand to one): a new `<html>` with the head and a new `<body>` wrapping the expanded content -/
theorem C11_root_fragment {cfg : Cfg} {content : Nodes} {kw : List (Str × AttrArg)} {lp : Option Str} {iv : Bool}
    {t : Node} (hs : docShape content = .fragment) (h : docTree cfg content kw lp iv = .ok t) :
    ∃ a' ms, tagInitAttrs cfg [] kw = .ok a' ∧ depMarkupAll cfg lp iv (docDeps content) = .ok ms ∧
      t = .tag nHtml true a'
        (.cons (specHead nHead true [] .nil (listing (docDeps content) ++ ms))
          (.cons (.tag nBody true [] content.expandAll) .nil)) := by
  obtain ⟨n, w', a', ks, ms, hr, hm, rfl⟩ := C11_tree_shape h
  simp only [specRoot, hs] at hr
  split at hr
  · cases hr
  · rename_i a'' ha
    cases hr
    exact ⟨_, ms, ha, hm, by simp [withHead, splitHead, emptyHead, isTagNamed, specHead]⟩

/-- the case is decided on the stored content: a metadata node next to the `<html>` tag, or an object that
    expands to an `<html>` tag, makes it a fragment -/
theorem C11_case_on_stored_content (rh : Option Str) (w : Bool) (a : Attrs) (k : Nodes) (m : Nat) :
    docShape (.cons (.tobj1 rh (.tag nHtml w a k)) .nil) = .fragment ∧
    docShape (Nodes.cons (.tobj1 rh (.tag nHtml w a k)) .nil).expandAll = .soleHtml w a k.expandAll ∧
    docShape (.cons (.mnode m) (.cons (.tag nHtml w a k) .nil)) = .fragment ∧
    docShape (.cons (.tag nHtml w a k) .nil) = .soleHtml w a k := by
  simp [docShape, Nodes.expandAll, Node.expand]

/-- the root is always an `<html>` tag -/
theorem C11_root_is_html {cfg : Cfg} {content : Nodes} {kw : List (Str × AttrArg)} {lp : Option Str} {iv : Bool}
    {t : Node} (h : docTree cfg content kw lp iv = .ok t) : isTagNamed nHtml t = true := by
  obtain ⟨n, w, a, ks, ms, hr, _, rfl⟩ := C11_tree_shape h
  obtain ⟨hn, _, _⟩ := specRoot_ok hr
  simp [isTagNamed, hn]

/-! ### exactly one head -/

/-- the number of direct `<head>` children in every case: a user's `<html>` keeps its own, or gets the one it
    lacks; a wrapped document has the one -/
theorem C11_head_count {cfg : Cfg} {content : Nodes} {kw : List (Str × AttrArg)} {lp : Option Str} {iv : Bool}
    {n : Str} {w : Bool} {a : Attrs} {ks : Nodes} (h : docTree cfg content kw lp iv = .ok (.tag n w a ks)) :
    headCount ks = match docShape content with
      | .soleHtml _ _ kids => max 1 (headCount kids.expandAll)
      | _ => 1 := by
  obtain ⟨n', w', a', ks', ms, hr, _, ht⟩ := C11_tree_shape h
  cases ht
  rw [headCount_withHead]
  cases hs : docShape content <;> simp only [specRoot, hs] at hr <;> split at hr <;> cases hr <;>
    simp [headCount, emptyHead, isTagNamed, nBody_ne_nHead]

/-- **one head.**  Guard (decidable, the property's own): a user-supplied `<html>` has at most one direct
    `<head>` child after expansion.  In the two wrapping cases the guard is vacuous. -/
theorem C11_one_head {cfg : Cfg} {content : Nodes} {kw : List (Str × AttrArg)} {lp : Option Str} {iv : Bool}
    {n : Str} {w : Bool} {a : Attrs} {ks : Nodes}
    (guard : ∀ w0 a0 kids, docShape content = .soleHtml w0 a0 kids → headCount kids.expandAll ≤ 1)
    (h : docTree cfg content kw lp iv = .ok (.tag n w a ks)) : headCount ks = 1 := by
  rw [C11_head_count h]
  split
  · rename_i w0 a0 kids hs
    exact Nat.max_eq_left (guard w0 a0 kids hs)
  · rfl

/-- without the guard the count is the user's (the complementary case is modelled, not claimed) -/
theorem C11_head_count_general {cfg : Cfg} {w : Bool} {a : Attrs} {kids : Nodes} {kw : List (Str × AttrArg)}
    {lp : Option Str} {iv : Bool} {n : Str} {w' : Bool} {a' : Attrs} {ks : Nodes}
    (h : docTree cfg (.cons (.tag nHtml w a kids) .nil) kw lp iv = .ok (.tag n w' a' ks)) :
    headCount ks = max 1 (headCount kids.expandAll) := by
  simp only [C11_head_count h, docShape_tag, if_true]

/-! ### the head -/

/-- **the head, when the root's children have no `<head>`** (always so in the wrapping cases — the fresh empty
    head is completed): a new first child `<head>` = `<meta charset="utf-8">`, then `extra` -/
theorem C11_head_new (extra ks : Nodes) (h : headCount ks = 0) :
    withHead extra ks = .cons (.tag nHead true [] (.cons metaCharset extra)) ks :=
  withHead_of_no_head extra h

/-- **the head, when the user's `<html>` has one**: the first direct `<head>` child stays where it is, keeps its
    name / flag / attributes, and its children become `<meta charset="utf-8">`, the user's head children in
    order, then `extra`; every other child is untouched -/
theorem C11_head_user (extra pre post hk : Nodes) (w : Bool) (a : Attrs) (hp : headCount pre = 0) :
    withHead extra (pre ++ Nodes.cons (.tag nHead w a hk) post)
      = pre ++ Nodes.cons (.tag nHead w a (.cons metaCharset (hk ++ extra))) post :=
  withHead_append extra hp

/-- `extra` in the document: the listing of R, then the markup of R -/
theorem C11_head {cfg : Cfg} {content : Nodes} {kw : List (Str × AttrArg)} {lp : Option Str} {iv : Bool} {t : Node}
    (h : docTree cfg content kw lp iv = .ok t) :
    ∃ n w a ks ms, specRoot cfg content kw = .ok (n, w, a, ks) ∧
      depMarkupAll cfg lp iv (docDeps content) = .ok ms ∧
      t = .tag n w a (withHead (listing (docDeps content) ++ ms) ks) ∧
      -- the head that is found first in the result is the completed one
      (∀ pre hd post, splitHead ks = some (pre, hd, post) →
        ∃ n' w' a' hk, hd = .tag n' w' a' hk ∧
          splitHead (withHead (listing (docDeps content) ++ ms) ks)
            = some (pre, .tag n' w' a' (.cons metaCharset (hk ++ (listing (docDeps content) ++ ms))), post)) ∧
      (splitHead ks = none →
          splitHead (withHead (listing (docDeps content) ++ ms) ks)
            = some (.nil, .tag nHead true [] (.cons metaCharset (listing (docDeps content) ++ ms)), ks)) := by
  obtain ⟨n, w, a, ks, ms, hr, hm, rfl⟩ := C11_tree_shape h
  refine ⟨n, w, a, ks, ms, hr, hm, rfl, ?_, ?_⟩
  · intro pre hd post hs
    rcases first_head ks with h0 | ⟨pre', w', a', hk, post', rfl, hp⟩
    · rw [(no_head h0).2.1] at hs; cases hs
    · rw [(at_first_head rfl hp).1] at hs; cases hs
      refine ⟨_, _, _, _, rfl, ?_⟩
      rw [withHead_append _ hp]
      exact (at_first_head rfl hp).1
  · intro hs
    simp [withHead, hs, specHead, splitHead, isTagNamed]

/-- **the listing script**: absent when nothing is resolved; otherwise one
    `<script type="application/html-dependencies">` whose only child is the text `name[version]` of every
    resolved dependency, joined by `;`, in resolved order -/
theorem C11_listing (d : Node) (ds : List Node) :
    listing [] = .nil ∧
    listing (d :: ds) = .cons (.tag nScript true
      [(['t', 'y', 'p', 'e'], .plain ['a', 'p', 'p', 'l', 'i', 'c', 'a', 't', 'i', 'o', 'n', '/', 'h', 't', 'm', 'l',
        '-', 'd', 'e', 'p', 'e', 'n', 'd', 'e', 'n', 'c', 'i', 'e', 's'])]
      (.cons (.text (listingText (d :: ds))) .nil)) .nil ∧
    listingText (d :: ds) = joinStr [';'] ((d :: ds).map fun x =>
      match x with
      | .dep i _ _ => i.name ++ '[' :: i.version ++ [']']
      | _ => []) :=
  ⟨rfl, rfl, rfl⟩

/-- **resolved order, each once**: the markup appended for a list of dependencies is the markup of the first,
    followed by the markup appended for the rest — one block per list element, in list order -/
theorem C11_dep_markup_order (cfg : Cfg) (lp : Option Str) (iv : Bool) (d : Node) (ds : List Node) (ms : Nodes) :
    depMarkupAll cfg lp iv [] = .ok .nil ∧
    (depMarkupAll cfg lp iv (d :: ds) = .ok ms ↔
      ∃ p rs, depMarkup cfg lp iv d = .ok p ∧ depMarkupAll cfg lp iv ds = .ok rs ∧ ms = p ++ rs) := by
  refine ⟨rfl, ?_⟩
  simp only [depMarkupAll]
  cases depMarkup cfg lp iv d <;> cases depMarkupAll cfg lp iv ds <;> simp [eq_comm]

/-- **one dependency's markup**: its `<meta>` tags, then its `<link>` tags, then its `<script>` tags — one
    childless tag per entry of `meta` / `stylesheet` / `script` — then its own head nodes (expanded), if any -/
theorem C11_dep_tags {cfg : Cfg} {lp : Option Str} {iv : Bool} {d : DepInfo} {hh : Bool} {head ms : Nodes}
    (h : depMarkup cfg lp iv (.dep d hh head) = .ok ms) :
    ∃ metas links scripts : List Node,
      ms = Nodes.ofList (metas ++ links ++ scripts) ++ (if hh then head.expandAll else .nil) ∧
      metas.length = d.metas.length ∧ links.length = d.stylesheet.length ∧ scripts.length = d.script.length ∧
      (∀ t ∈ metas, ∃ a, t = .tag nMeta true a .nil) ∧ (∀ t ∈ links, ∃ a, t = .tag nLink true a .nil) ∧
      (∀ t ∈ scripts, ∃ a, t = .tag nScript true a .nil) := by
  unfold depMarkup at h
  split at h
  · cases h
  · rename_i ts hts
    cases h
    obtain ⟨metas, links, scripts, rfl, l1, l2, l3, s1, s2, s3⟩ := asHtmlTags_shape hts
    refine ⟨metas, links, scripts, ?_, l1, l2, l3, s1, s2, s3⟩
    rw [Nodes.expandAll_append, (childless_expand (childless_of_shapes s1 s2 s3)).1]
    cases hh <;> simp [Nodes.expandAll]

/-! ### the returned list -/

/-- **what the code returns**: the resolution of the content's dependencies with those carried by the hoisted
    heads of R spliced in at one place, the end of the `<head>` (F-C11: the code recomputes the list from the
    hoisted tree) -/
theorem C11_returned_exact {cfg : Cfg} {content : Nodes} {kw : List (Str × AttrArg)} {lp : Option Str} {iv : Bool}
    {r : DocRendered} (h : docRender cfg content kw lp iv = .ok r) :
    ∃ l₁ l₂, content.expandAll.collect = l₁ ++ l₂ ∧
      r.deps = resolve (l₁ ++ (docDeps content).flatMap depHeadDeps ++ l₂) := by
  obtain ⟨t, ht, rfl⟩ := docRender_ok h
  obtain ⟨n, w, a, ks, ms, hr, hm, rfl⟩ := C11_tree_shape ht
  obtain ⟨l₁, l₂, hk, hw⟩ := collect_withHead (listing (docDeps content) ++ ms) ks
  refine ⟨l₁, l₂, (specRoot_ok hr).2.2 ▸ hk, ?_⟩
  simp only [Node.getDeps, Nodes.getDeps, if_true]
  rw [hw, C10.C10_collect_append, listing_collect, depMarkupAll_collect hm]
  rfl

/-- **returned list = resolved list**, under the guard that no resolved dependency's head contains a
    dependency -/
theorem C11_returned {cfg : Cfg} {content : Nodes} {kw : List (Str × AttrArg)} {lp : Option Str} {iv : Bool}
    {r : DocRendered} (guard : noDepInDepHead content = true)
    (h : docRender cfg content kw lp iv = .ok r) : r.deps = docDeps content := by
  obtain ⟨l₁, l₂, hc, hd⟩ := C11_returned_exact h
  have hg : (docDeps content).flatMap depHeadDeps = [] := by
    simpa [noDepInDepHead, List.flatMap_eq_nil_iff] using guard
  rw [hd, hg, List.append_nil, ← hc]
  rfl

/-- what the code returns in general: the resolution of the content's dependencies together with whatever
    dependencies the hoisted heads carry (membership form) -/
theorem C11_returned_general {cfg : Cfg} {content : Nodes} {kw : List (Str × AttrArg)} {lp : Option Str} {iv : Bool}
    {r : DocRendered} (h : docRender cfg content kw lp iv = .ok r) :
    ∃ ds, r.deps = resolve ds ∧
      ∀ d, d ∈ ds ↔ (d ∈ content.expandAll.collect ∨ d ∈ (docDeps content).flatMap depHeadDeps) := by
  obtain ⟨l₁, l₂, hc, hd⟩ := C11_returned_exact h
  exact ⟨_, hd, fun d => by simp only [hc, List.mem_append, or_right_comm]⟩

def cfg0 : Cfg := { void := [nMeta], noesc := [nScript], textTbl := [('<', ['&', 'l', 't', ';'])], attrTbl := [] }

def depInfo0 (name : Str) : DepInfo :=
  { name := name, version := ['1'], vrank := 0, source := .none, script := [], stylesheet := [], metas := [],
    allFiles := false }

/-- F-C11's witness: `inner = HTMLDependency("inner","1"); h = HTMLDependency("h","1", head=TagList(div(inner)));
    HTMLDocument(div(h))` -/
def witnessFC11 : Nodes :=
  .cons (.tag ['d', 'i', 'v'] true []
    (.cons (.dep (depInfo0 ['h']) true
      (.cons (.tag ['d', 'i', 'v'] true [] (.cons (.dep (depInfo0 ['i', 'n', 'n', 'e', 'r']) false .nil) .nil)) .nil))
      .nil)) .nil

/-- **the unguarded statement is false** (F-C11): for the witness, `h` alone is resolved, listed and hoisted,
    but two dependencies are returned -/
theorem C11_returned_full_is_false :
    ¬ ∀ (cfg : Cfg) (content : Nodes) (kw : List (Str × AttrArg)) (lp : Option Str) (iv : Bool) (r : DocRendered),
        docRender cfg content kw lp iv = .ok r → r.deps = docDeps content := by
  intro h
  have h2 : (docRender cfg0 witnessFC11 [] none true).toOption.map (·.deps.length) = some 2 := by decide +kernel
  cases hr : docRender cfg0 witnessFC11 [] none true with
  | error e => rw [hr] at h2; cases h2
  | ok r =>
    rw [hr] at h2
    have h3 : r.deps.length = 2 := Option.some.inj h2
    rw [h _ _ _ _ _ r hr] at h3
    exact absurd h3 (by decide +kernel)

/-- the witness is outside the guard, and the guard is satisfiable by documents with dependencies that have heads -/
example : noDepInDepHead witnessFC11 = false := by decide +kernel

example : noDepInDepHead (.cons (.dep (depInfo0 ['h']) true (.cons (.text ['x']) .nil)) .nil) = true ∧
    docDeps (.cons (.dep (depInfo0 ['h']) true (.cons (.text ['x']) .nil)) .nil) ≠ [] := by decide +kernel

/-! ### everything else is the content's ordinary rendering -/

/-- **nothing is added outside the head, and dependencies leave no markup there.**  With `K` the root's children
    for the case (the user's, expanded) and `extra` the listing and markup of R:
    (1) the children other than the one head are exactly those of `K` — hoisting inserts no node anywhere else;
    (2) the markup of the document is the markup of the same construction over the *dependency-free* skeleton
        `K.stripMeta` (C07): no dependency or other metadata node of the content contributes a character. -/
theorem C11_rest_is_plain {cfg : Cfg} {content : Nodes} {kw : List (Str × AttrArg)} {lp : Option Str} {iv : Bool}
    {t : Node} (h : docTree cfg content kw lp iv = .ok t) :
    ∃ n w a ks extra, specRoot cfg content kw = .ok (n, w, a, ks) ∧ t = .tag n w a (withHead extra ks) ∧
      dropFirstHead (withHead extra ks) = dropFirstHead ks ∧
      ∀ (i : Nat) (e : Str),
        t.render cfg i e = (Node.tag n w a (withHead extra ks.stripMeta)).render cfg i e := by
  obtain ⟨n, w, a, ks, ms, hr, _, rfl⟩ := C11_tree_shape h
  refine ⟨n, w, a, ks, _, hr, rfl, dropFirstHead_withHead _ _, fun i e => ?_⟩
  apply C07.C07_insert_remove
  simp [Node.stripMeta, stripMeta_withHead, stripMeta_idem]

/-- **page layout in the two wrapping cases**: the `<html …>` line, the head block at indent 1, the body block at
    indent 1 — the body block being the ordinary rendering of the (expanded) content under `<body>`, equal to that
    of its dependency-free skeleton — and the closing tag -/
theorem C11_page_layout (cfg : Cfg) (a : Attrs) (hn : Str) (ha : Attrs) (hk : Nodes)
    (bn : Str) (bw : Bool) (ba : Attrs) (bk : Nodes) :
    doctype ++ (Node.tag nHtml true a (.cons (.tag hn true ha hk) (.cons (.tag bn bw ba bk) .nil))).render cfg 0 ['\n']
      = doctype ++ openTag cfg nHtml a ++ ['>', '\n']
        ++ (Node.tag hn true ha hk).render cfg 1 ['\n'] ++ ['\n']
        ++ (Node.tag bn bw ba bk.stripMeta).render cfg 1 ['\n'] ++ ['\n'] ++ closeTag nHtml := by
  have hb := C07.C07_tag cfg (.tag bn bw ba bk) 1 ['\n']
  simp only [Node.stripMeta] at hb
  rw [hb, render_loop (h := by simp [Nodes.oneLine, Nodes.visible, Node.isMeta, inlineChild?])]
  simp [Nodes.renderKids]

/-! ### tagifiable objects in the content (document-level corollary of C09) -/

/-- the result is a function of the case (chosen on the stored content) and of the *expansion* of the content:
    in the fragment case objects can be replaced by their expansions as long as that does not change the case … -/
theorem C11_objects_expanded (cfg : Cfg) (content : Nodes) (kw : List (Str × AttrArg)) (lp : Option Str) (iv : Bool)
    (h1 : docShape content = .fragment) (h2 : docShape content.expandAll = .fragment) :
    docTree cfg content kw lp iv = docTree cfg content.expandAll kw lp iv := by
  simp only [C11_tree_is_spec, specTree, specRoot, h1, h2, docDeps, C09.C09_idempotent]

/-- … and below a user's `<html>` or `<body>` tag always -/
theorem C11_objects_expanded_html (cfg : Cfg) (n : Str) (w : Bool) (a : Attrs) (kids : Nodes)
    (kw : List (Str × AttrArg)) (lp : Option Str) (iv : Bool) :
    docTree cfg (.cons (.tag n w a kids) .nil) kw lp iv
      = docTree cfg (.cons (.tag n w a kids.expandAll) .nil) kw lp iv := by
  by_cases hh : n = nHtml
  · subst hh
    simp only [C11_tree_is_spec, specTree, specRoot, docShape_tag, if_true, docDeps, Nodes.expandAll, Node.expand,
      C09.C09_idempotent]
  · by_cases hb : n = nBody
    · subst hb
      simp only [C11_tree_is_spec, specTree, specRoot, docShape_tag, hh, if_false, if_true, docDeps, Nodes.expandAll,
        Node.expand, C09.C09_idempotent]
    · simp only [C11_tree_is_spec, specTree, specRoot, docShape_tag, hh, hb, if_false, docDeps, Nodes.expandAll,
        Node.expand, C09.C09_idempotent]

/-- an object that expands to an `<html>` tag is *not* taken as the document's root: the case is chosen before
    expansion, so the two documents differ (concrete instance) -/
theorem C11_objects_case_before_expansion :
    let c : Nodes := .cons (.tobj1 none (.tag nHtml true [] .nil)) .nil
    (match docTree cfg0 c [] none true, docTree cfg0 c.expandAll [] none true with
      | .ok t, .ok t' => t.beq t'
      | _, _ => true) = false := by
  decide +kernel

/-! ### purity, appending, errors -/

/-- **`render()` leaves the stored content as it was** (the code of the pinned commit updates the attributes of the
    user's `<html>` tag in place: F-C08a, repaired by `fixes/C08-doc-render-no-mutation.patch`) -/
theorem C11_pure {cfg : Cfg} {content : Nodes} {kw : List (Str × AttrArg)} {lp : Option Str} {iv : Bool}
    {r : DocRendered} (h : docRender cfg content kw lp iv = .ok r) : r.after = content := by
  obtain ⟨_, _, rfl⟩ := docRender_ok h
  rfl

/-- hence rendering again gives the same result -/
theorem C11_repeat {cfg : Cfg} {content : Nodes} {kw : List (Str × AttrArg)} {lp : Option Str} {iv : Bool}
    {r : DocRendered} (h : docRender cfg content kw lp iv = .ok r) :
    docRender cfg r.after kw lp iv = .ok r := by
  rw [C11_pure h]; exact h

/-- content appended later is content: `HTMLDocument(*a).append(*b)…` renders as `HTMLDocument(*a, *b, …)` -/
theorem C11_append (args : Nodes) (later : List Nodes) :
    docContent args later = later.foldl (· ++ ·) args ∧
    docContent args [] = args ∧
    (∀ b, docContent args [b] = args ++ b) := by
  refine ⟨rfl, rfl, fun b => rfl⟩

/-- **when `render()` raises**: exactly when the keyword arguments are rejected (before anything else), or some
    resolved dependency's `as_html_tags` raises (the first one in resolved order decides) -/
theorem C11_errors (cfg : Cfg) (content : Nodes) (kw : List (Str × AttrArg)) (lp : Option Str) (iv : Bool) (e : Err) :
    docRender cfg content kw lp iv = .error e ↔
      (specRoot cfg content kw = .error e ∨
        ((∃ r, specRoot cfg content kw = .ok r) ∧ depMarkupAll cfg lp iv (docDeps content) = .error e)) := by
  rw [C11_doctype, C11_tree_is_spec]
  unfold specTree specExtra
  cases specRoot cfg content kw with
  | error e' => simp
  | ok r => cases depMarkupAll cfg lp iv (docDeps content) <;> simp

/-! ### non-vacuity: a user's `<html>` whose `<head>` (third child) already has children, dependencies in the body, in
the head and directly under `<html>`, two versions of one name, html attribute arguments -/

def exampleDep (name version : Str) (rank : Nat) (head : Nodes) : Node :=
  .dep { name := name, version := version, vrank := rank, source := .href ['/', '/', 'c'],
         script := [[(['s', 'r', 'c'], ['s', '.', 'j', 's'])]], stylesheet := [], metas := [], allFiles := false }
    true head

def exampleDoc : Nodes :=
  .cons (.tag nHtml true [(['l', 'a', 'n', 'g'], .plain ['x'])]
    (.cons (exampleDep ['a'] ['1'] 0 (.cons (.text ['h', '1']) .nil))
    (.cons (.tag nBody true [] (.cons (.text ['b']) (.cons (exampleDep ['a'] ['2'] 1 .nil) .nil)))
    (.cons (.tag nHead true [] (.cons (.tag ['t', 'i', 't', 'l', 'e'] true [] (.cons (.text ['t']) .nil))
        (.cons (.tobjL none (.cons (exampleDep ['b'] ['1'] 0 .nil) .nil)) .nil)))
    .nil)))) .nil

/-- the document is defined, has one head, resolves to two dependencies (a-2, b), satisfies both guards, and the
    returned list has the resolved length -/
example :
    (match docRender cfg0 exampleDoc [(['l', 'a', 'n', 'g'], .str ['e', 'n'])] (some ['l', 'i', 'b']) true,
           docTree cfg0 exampleDoc [(['l', 'a', 'n', 'g'], .str ['e', 'n'])] (some ['l', 'i', 'b']) true with
      | .ok r, .ok (.tag _ _ _ ks) => headCount ks == 1 && r.deps.length == 2
      | _, _ => false) = true ∧
    (docDeps exampleDoc).length = 2 ∧ noDepInDepHead exampleDoc = true ∧
    docShape exampleDoc ≠ .fragment := by
  refine ⟨by decide +kernel, by decide +kernel, by decide +kernel, ?_⟩
  simp [exampleDoc, docShape]

/-! ### the executable statement accepts the model's own output -/

/-- the model's answer in the form the executable statement receives -/
def modelAnswer (cfg : Cfg) (content : Nodes) (kw : List (Str × AttrArg)) (lp : Option Str) (iv : Bool) :
    Holds.DocAnswer :=
  match docRender cfg content kw lp iv with
  | .ok r => .ok (r.html, r.deps, r.after)
  | .error e => .error e

/-- under the guard every clause of `Holds.failsC11` holds of the model; without it only the clause about the
    returned list can fail, and it is then labelled as outside the guard -/
theorem C11_statement_holds_of_model (cfg : Cfg) (content : Nodes) (kw : List (Str × AttrArg)) (lp : Option Str)
    (iv : Bool) :
    (noDepInDepHead content = true →
      Holds.failsC11 cfg content kw lp iv (modelAnswer cfg content kw lp iv) = []) ∧
    (∀ l ∈ Holds.failsC11 cfg content kw lp iv (modelAnswer cfg content kw lp iv), l = "returned!g") := by
  have hd := @C11_returned cfg content kw lp iv
  unfold modelAnswer Holds.failsC11
  rw [C11_doctype, C11_tree_is_spec] at hd ⊢
  cases hs : specTree cfg content kw lp iv with
  | error e => simp [Holds.clause]
  | ok t =>
    rw [hs] at hd
    cases hg : noDepInDepHead content with
    | true =>
      have hr : t.getDeps true = docDeps content := hd hg rfl
      simp [Holds.clause, hr, C10.C10_nodesEq_refl, Nodes.beq_refl]
    | false => simp [Holds.clause, Nodes.beq_refl]

end HtmlVerif.C11
