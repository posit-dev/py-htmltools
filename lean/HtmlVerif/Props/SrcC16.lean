/-
Source tie (DESIGN §14) for the class / style helpers and `css()`: the Lean functions regenerated from the text of
`Tag.has_class`, `Tag.add_class`, `Tag.add_style`, `Tag.remove_class` (htmltools/_core.py) and `css`
(htmltools/_util.py) compute, for every input, what the model (Model/ClassStyle.lean) computes.  Obligations of C16.

The receiver is any instance `.obj c fs` whose `attrs` field holds the embedded attributes (`embNode (.tag …)` of
Lemmas/SrcRender.lean is one: `src_has_class_node`, `src_*_now`); the mutating methods return the receiver with that
field replaced (`withAttrs`).  The whitespace predicate and the lower-casing map are those of the `Globals`
(`globalsOf cfg sp lw`), i.e. arbitrary.  No loop body is spelled out: the comprehension of `remove_class` and the
keyword loop of `css` are taken from the regenerated definitions by unification.
-/
import HtmlVerif.Generated.Src
import HtmlVerif.Lemmas.PyLoop
import HtmlVerif.Lemmas.SrcTie
import HtmlVerif.Lemmas.SrcC16
import HtmlVerif.Lemmas.SrcRender
import HtmlVerif.Props.SrcAttrs
import HtmlVerif.Model.ClassStyle

set_option linter.unusedSimpArgs false   -- the simp sets cover equivalent spellings of the source, not only the current one

namespace HtmlVerif.SrcTie
open HtmlVerif HtmlVerif.Py HtmlVerif.Generated.Src

/-- `TagAttrDict.update` reads neither `str.isspace` nor `str.lower`: the tie `src_update` (stated for the default
    globals) holds for every whitespace predicate and lower-casing map -/
theorem src_update_anyG (h : TagAttrDict_update_available = true) (h1 : normalize_attr_value_available = true)
    (h2 : normalize_attr_name_available = true) (h3 : html_escape_available = true)
    (h4 : HTML_add_available = true) (h5 : HTML_radd_available = true) (h6 : HTML_as_string_available = true)
    (cfg : Cfg) (sp : Char → Bool) (lw : Str → Str) (hsp : escText cfg [' '] = [' '])
    (ht : keysPlain cfg.textTbl = true) (ha : keysPlain cfg.attrTbl = true)
    (cur : Attrs) (args : List (List (Str × AttrArg))) :
    TagAttrDict_update (globalsOf cfg sp lw) (embAttrs cur) (.tuple (args.map embArgDict)) (.dict [])
      = embRes embAttrs (attrsUpdate cfg cur args) := by
  have e : TagAttrDict_update (globalsOf cfg sp lw) = TagAttrDict_update (globalsOf cfg) := rfl
  rw [e]
  exact src_update h h1 h2 h3 h4 h5 h6 cfg hsp ht ha cur args []

/-- `Tag.has_class` as the source has it, for any argument `x` that `in` compares with strings as the text `cls` -/
theorem src_has_class_of (h : Tag_has_class_available = true) (G : Globals) (c : String) (fs : List (String × PVal))
    (a : Attrs) (hf : fieldGet? "attrs" fs = some (embAttrs a)) (x : PVal) (cls : Str)
    (hx : ∀ l : List Str, pyInC16 x (.list (l.map .str)) = .ok (.bool (l.contains cls))) :
    Tag_has_class G (.obj c fs) x = .ok (.bool (hasClass G.isSpace a cls)) := by
  first
  | exact absurd h (by decide)
  | skip
  all_goals
    unfold Tag_has_class hasClass
    simp only [getAttr_obj c fs "attrs" _ hf, ok_bind', pure_eq_ok', show (['c', 'l', 'a', 's', 's'] : Str) = classKey from rfl,
      pyDictGet_emb]
    cases alookup classKey a with
    | none => rfl
    | some v =>
      simp only [truthy_embVal, pySplit_embVal, ok_bind', hx]
      cases v.str.isEmpty <;> rfl

/-- `Tag.has_class` as the source has it = `hasClass` for the interpreter's whitespace predicate -/
theorem src_has_class (h : Tag_has_class_available = true) (G : Globals) (c : String) (fs : List (String × PVal))
    (a : Attrs) (hf : fieldGet? "attrs" fs = some (embAttrs a)) (cls : Str) :
    Tag_has_class G (.obj c fs) (.str cls) = .ok (.bool (hasClass G.isSpace a cls)) :=
  src_has_class_of h G c fs a hf _ cls (pyInC16_strs cls)

/-- the same for an `HTML` argument (a `UserString` equals a `str` with the same text) -/
theorem src_has_class_html (h : Tag_has_class_available = true) (G : Globals) (c : String) (fs : List (String × PVal))
    (a : Attrs) (hf : fieldGet? "attrs" fs = some (embAttrs a)) (cls : Str) :
    Tag_has_class G (.obj c fs) (.html cls) = .ok (.bool (hasClass G.isSpace a cls)) :=
  src_has_class_of h G c fs a hf _ cls (pyInC16_strs_html cls)

/-- `Tag.add_class` as the source has it = `addClass`; the receiver is returned with its attributes replaced -/
theorem src_add_class (h : Tag_add_class_available = true)
    (h0 : TagAttrDict_update_available = true) (h1 : normalize_attr_value_available = true)
    (h2 : normalize_attr_name_available = true) (h3 : html_escape_available = true)
    (h4 : HTML_add_available = true) (h5 : HTML_radd_available = true) (h6 : HTML_as_string_available = true)
    (cfg : Cfg) (sp : Char → Bool) (lw : Str → Str) (hsp : escText cfg [' '] = [' '])
    (ht : keysPlain cfg.textTbl = true) (ha : keysPlain cfg.attrTbl = true)
    (c : String) (fs : List (String × PVal)) (a : Attrs) (hf : fieldGet? "attrs" fs = some (embAttrs a))
    (cls : Str) (prepend : Bool) :
    Tag_add_class (globalsOf cfg sp lw) (.obj c fs) (.str cls) (.bool prepend)
      = embRes (withAttrs c fs) (addClass cfg a cls prepend) := by
  first
  | exact absurd h (by decide)
  | skip
  all_goals
    have hu := fun args => src_update_anyG h0 h1 h2 h3 h4 h5 h6 cfg sp lw hsp ht ha a args
    have e1 : PVal.tuple [PVal.dict [(classKey, PVal.str cls)], PVal.dict [(classKey, embArg (getArg classKey a))]]
        = .tuple ([[(classKey, AttrArg.str cls)], [(classKey, getArg classKey a)]].map embArgDict) := rfl
    have e2 : PVal.tuple [PVal.dict [(classKey, embArg (getArg classKey a))], PVal.dict [(classKey, PVal.str cls)]]
        = .tuple ([[(classKey, getArg classKey a)], [(classKey, AttrArg.str cls)]].map embArgDict) := rfl
    unfold Tag_add_class addClass
    simp only [getAttr_obj c fs "attrs" _ hf, ok_bind', pure_eq_ok', truthy_bool',
      show (['c', 'l', 'a', 's', 's'] : Str) = classKey from rfl, pyDictGet_emb, ← embArg_getArg]
    cases prepend
    · simp only [Bool.false_eq_true, if_false, e2, hu]
      cases attrsUpdate cfg a [[(classKey, getArg classKey a)], [(classKey, AttrArg.str cls)]] <;> rfl
    · simp only [if_true, e1, hu]
      cases attrsUpdate cfg a [[(classKey, AttrArg.str cls)], [(classKey, getArg classKey a)]] <;> rfl

/-- `Tag.add_style` as the source has it = `addStyle` (ValueError for a `str` / `HTML` without a final semicolon,
    TypeError from `update` for a value of another type) -/
theorem src_add_style (h : Tag_add_style_available = true)
    (h0 : TagAttrDict_update_available = true) (h1 : normalize_attr_value_available = true)
    (h2 : normalize_attr_name_available = true) (h3 : html_escape_available = true)
    (h4 : HTML_add_available = true) (h5 : HTML_radd_available = true) (h6 : HTML_as_string_available = true)
    (cfg : Cfg) (sp : Char → Bool) (lw : Str → Str) (hsp : escText cfg [' '] = [' '])
    (ht : keysPlain cfg.textTbl = true) (ha : keysPlain cfg.attrTbl = true)
    (c : String) (fs : List (String × PVal)) (a : Attrs) (hf : fieldGet? "attrs" fs = some (embAttrs a))
    (style : AttrArg) (prepend : Bool) :
    Tag_add_style (globalsOf cfg sp lw) (.obj c fs) (embArg style) (.bool prepend)
      = embRes (withAttrs c fs) (addStyle cfg a style prepend) := by
  first
  | exact absurd h (by decide)
  | skip
  all_goals
    have hu := fun args => src_update_anyG h0 h1 h2 h3 h4 h5 h6 cfg sp lw hsp ht ha a args
    have e1 : PVal.tuple [PVal.dict [(styleKey, embArg style)], PVal.dict [(styleKey, embArg (getArg styleKey a))]]
        = .tuple ([[(styleKey, style)], [(styleKey, getArg styleKey a)]].map embArgDict) := rfl
    have e2 : PVal.tuple [PVal.dict [(styleKey, embArg (getArg styleKey a))], PVal.dict [(styleKey, embArg style)]]
        = .tuple ([[(styleKey, getArg styleKey a)], [(styleKey, style)]].map embArgDict) := rfl
    unfold Tag_add_style addStyle
    simp only [styleRejected_eq, isInstance_embArg_strLike, getAttr_obj c fs "attrs" _ hf, ok_bind', pure_eq_ok', truthy_bool',
      show (['s', 't', 'y', 'l', 'e'] : Str) = styleKey from rfl, pyDictGet_emb, ← embArg_getArg, e1, e2, hu, bind_embRes_setAttr]
    -- the two tests the code makes: is it a str / HTML?  if so, does it end with a semicolon?
    cases hL : strLike style
    · simp only [pyAnd, ok_bind', pure_eq_ok', truthy_bool', Bool.false_eq_true, if_false, Bool.false_and]
      cases prepend <;> rfl
    · simp only [pyAnd, endswith_embArg style hL, ok_bind', pure_eq_ok', truthy_bool', if_true, Bool.true_and]
      cases semiArg style <;> cases prepend <;> rfl

/-- `Tag.remove_class` as the source has it = `removeClass` for the interpreter's whitespace predicate: nothing to do for
    an empty argument or an absent / empty class value; otherwise the tokens (`split()`) different from the stripped
    argument are rejoined by one space and stored with the mark (`HTML` or plain) of the old value, or the attribute is
    popped when none remains.  The comprehension's loop body is taken from the regenerated definition (`filter_loop`). -/
theorem src_remove_class (h : Tag_remove_class_available = true)
    (h0 : TagAttrDict_update_available = true) (h1 : normalize_attr_value_available = true)
    (h2 : normalize_attr_name_available = true) (h3 : html_escape_available = true)
    (h4 : HTML_add_available = true) (h5 : HTML_radd_available = true) (h6 : HTML_as_string_available = true)
    (cfg : Cfg) (sp : Char → Bool) (lw : Str → Str) (hsp : escText cfg [' '] = [' '])
    (ht : keysPlain cfg.textTbl = true) (ha : keysPlain cfg.attrTbl = true)
    (c : String) (fs : List (String × PVal)) (a : Attrs) (hf : fieldGet? "attrs" fs = some (embAttrs a))
    (cls : Str) :
    Tag_remove_class (globalsOf cfg sp lw) (.obj c fs) (.str cls)
      = embRes (withAttrs c fs) (removeClass cfg sp a cls) := by
  first
  | exact absurd h (by decide)
  | skip
  all_goals
    have hu := fun args => src_update_anyG h0 h1 h2 h3 h4 h5 h6 cfg sp lw hsp ht ha a args
    have hsame := withAttrs_same c fs a hf
    have hts : truthy (PVal.str cls) = !cls.isEmpty := rfl
    unfold Tag_remove_class removeClass
    simp only [getAttr_obj c fs "attrs" _ hf, ok_bind', pure_eq_ok', truthy_bool',
      show (['c', 'l', 'a', 's', 's'] : Str) = classKey from rfl, pyDictGet_emb, hts]
    cases hce : cls.isEmpty with
    | true => simp only [Bool.not_true, Bool.not_false, if_true, embRes, hsame]
    | false =>
    simp only [Bool.not_false, Bool.not_true, Bool.false_eq_true, if_false]
    cases hl : alookup classKey a with
    | none =>
      simp only [pyOr, truthy, ok_bind', Bool.false_eq_true, if_false, HtmlVerif.textOf, hl, List.isEmpty_nil, Bool.not_true,
        Bool.not_false, if_true, embRes, hsame]
    | some v =>
      have htx : HtmlVerif.textOf classKey a = v.str := by simp only [HtmlVerif.textOf, hl]
      have hor : pyOr (Except.ok (embVal v)) (Except.ok (PVal.str [])) = .ok (if v.str.isEmpty then PVal.str [] else embVal v) := by
        simp only [pyOr, ok_bind', truthy_embVal]
        cases v.str.isEmpty <;> rfl
      simp only [hor, ok_bind', htx]
      cases hve : v.str.isEmpty with
      | true => simp only [if_true, truthy, List.isEmpty_nil, Bool.not_true, Bool.not_false, embRes, hsame]
      | false =>
      simp only [Bool.false_eq_true, if_false, truthy_embVal, hve, Bool.not_false, Bool.not_true,
        pyStr_str, ok_bind', pyStrip_str, pySplit_embVal, pyIter_list, globalsOf_isSpace]
      rw [filter_loop (strip sp cls) _ _ (by
        intro x acc
        simp only [pyEq, pure_eq_ok', ok_bind', truthy_bool']
        cases hx : x == strip sp cls <;> simp [bne, hx])]
      -- `if len(new_classes) > 0: … else: pop` and `if not new_classes: pop; return` read alike from here on
      simp only [pyLen, pure_eq_ok', ok_bind', len_gt_zero, truthy_bool', truthy_list_strs]
      generalize List.filter (fun x => x != strip sp cls) (tokens sp v.str) = new
      cases hne : new.isEmpty with
      | false =>
        simp only [Bool.not_false, Bool.not_true, Bool.false_eq_true, if_true, if_false, pyJoinStrict_strs, ok_bind']
        cases v with
        | plain s =>
          have hi : isInstance (embVal (AttrVal.plain s)) ["HTML"] = false := by simp [isInstance, builtinClasses]
          have e1 : PVal.tuple [PVal.dict [(classKey, PVal.str (joinStr [' '] new))]]
              = .tuple ([[(classKey, AttrArg.str (joinStr [' '] new))]].map embArgDict) := rfl
          simp only [hi, Bool.false_eq_true, if_false, e1, hu, rejoinArg, hl]
          cases attrsUpdate cfg a [[(classKey, AttrArg.str (joinStr [' '] new))]] <;> rfl
        | html s =>
          have hi : isInstance (embVal (AttrVal.html s)) ["HTML"] = true := by simp [isInstance, builtinClasses]
          have e1 : PVal.tuple [PVal.dict [(classKey, PVal.html (joinStr [' '] new))]]
              = .tuple ([[(classKey, AttrArg.html (joinStr [' '] new))]].map embArgDict) := rfl
          simp only [hi, if_true, mkHTML_str, ok_bind', e1, hu, rejoinArg, hl]
          cases attrsUpdate cfg a [[(classKey, AttrArg.html (joinStr [' '] new))]] <;> rfl
      | true =>
        simp only [Bool.not_true, Bool.not_false, Bool.false_eq_true, if_false, if_true, pyDictPop_emb, ok_bind', pure_eq_ok']
        cases dictPop classKey a <;> rfl

/-- `css(collapse_, **kwargs)` as the source has it = `css` for the interpreter's lower-casing map: for every keyword
    dict whose values are described by `CssRel` (None / a list of `str` / a list `str.join` rejects / any other value
    with its `str()` text) and every `collapse_` (`c = none`: not a `str` → TypeError) -/
theorem src_css (h : util_css_available = true)
    (G : Globals) (col : PVal) (c : Option Str)
    (hcol : match c with | some s => col = .str s | none => isInstance col ["str"] = false)
    (kws : List (Str × PVal × CssVal)) (hk : ∀ x ∈ kws, CssRel x.2.1 x.2.2) :
    util_css G col (.dict (kws.map fun x => (x.1, x.2.1)))
      = embRes (fun o => match o with | some s => PVal.str s | none => PVal.none)
          (HtmlVerif.css G.lower c (kws.map fun x => (x.1, x.2.2))) := by
  first
  | exact absurd h (by decide)
  | skip
  all_goals
    unfold util_css HtmlVerif.css
    cases c with
    | none =>
      simp only at hcol
      simp only [hcol, pure_eq_ok', truthy_bool', ok_bind', Bool.not_false, if_true, throw_eq_error, error_bind']
      rfl
    | some cs =>
      simp only at hcol
      subst hcol
      have hi : isInstance (PVal.str cs) ["str"] = true := by simp [isInstance, builtinClasses]
      simp only [hi, pure_eq_ok', truthy_bool', ok_bind', pyItems_dict, pyIter_list, List.map_map, Bool.not_true, Bool.false_eq_true, if_false]
      rw [cssLoop_fold, List.foldlM_map]
      -- the loop simulates the fold of `cssStep` on the first component of its state; the test after it maps "" to None
      refine (sim_eq_embRes (f := fun b : Str => if b.isEmpty then PVal.none else PVal.str b)
        (Sim.bind (forIn_sim (fun (s : PVal × _) (b : Str) => s.1 = .str b) embErr
          (fun x : Str × PVal × CssVal => PVal.tuple [.str x.1, x.2.1]) kws _
          (fun x res => cssStep G.lower cs (x.1, x.2.2) res) _ [] rfl ?step) ?tail)).trans ?fin
      case tail =>
        intro s b hR
        refine ⟨_, ?_, rfl⟩
        simp only [hR, pyEq, pure_eq_ok', ok_bind', truthy_bool']
        cases b <;> simp
      case fin =>
        generalize List.foldlM (m := Except Err) (fun b (c : Str × PVal × CssVal) => cssStep G.lower cs (c.1, c.2.2) b) [] kws = y
        cases y with
        | error e => rfl
        | ok b => cases b <;> rfl
      intro x hx s b hs
      obtain ⟨k, v, cv⟩ := x
      obtain ⟨s1, s2⟩ := s
      simp only at hs; subst hs
      have hr := hk _ hx
      simp only at hr
      simp only [pyUnpack2_tuple', ok_bind', cssStep]
      cases hr with
      | none => simp only [Sim, isNone, if_true]; exact ⟨_, rfl, _, rfl, rfl⟩
      | text v s h1 h2 h3 =>
        simp only [h1, h2, h3, Bool.false_eq_true, if_false, ok_bind', reSub_caps, pyLower, pure_eq_ok', reSub_underscore, Sim]
        simp only [pyAdd_str, ok_bind']
        exact ⟨_, rfl, _, rfl, by simp [cssKey]⟩
      | list xs =>
        have h2 : isInstance (PVal.list (xs.map .str)) ["list"] = true := by simp [isInstance, builtinClasses]
        simp only [isNone, h2, if_true, Bool.false_eq_true, if_false, ok_bind', reSub_caps, pyLower, pure_eq_ok', reSub_underscore, Sim, pyJoinStrict_strs]
        simp only [pyAdd_str, ok_bind']
        exact ⟨_, rfl, _, rfl, by simp [cssKey]⟩
      | bad vs hb =>
        have h2 : isInstance (PVal.list vs) ["list"] = true := by simp [isInstance, builtinClasses]
        simp only [isNone, h2, if_true, Bool.false_eq_true, if_false, Sim, pyJoinStrict, pyIter_list, ok_bind', hb, error_bind']
        rfl

/-! ### the receiver as the tree model embeds it (Lemmas/SrcRender.lean), and the tables of the source as it is now -/

theorem embNode_tag_attrs (name : Str) (ws : Bool) (a : Attrs) (kids : Nodes) :
    ∃ fs, embNode (.tag name ws a kids) = .obj "Tag" fs ∧ fieldGet? "attrs" fs = some (embAttrs a) ∧
      ∀ a', withAttrs "Tag" fs a' = embNode (.tag name ws a' kids) :=
  ⟨[("name", .str name), ("attrs", embAttrs a), ("children", .obj "TagList" [("data", .list (embNodes kids))]),
    ("add_ws", .bool ws)], by simp only [embNode], rfl, fun _ => by simp [embNode, withAttrs, fieldSet]⟩

theorem src_has_class_node (h : Tag_has_class_available = true) (G : Globals) (name : Str) (ws : Bool) (a : Attrs)
    (kids : Nodes) (cls : Str) :
    Tag_has_class G (embNode (.tag name ws a kids)) (.str cls) = .ok (.bool (hasClass G.isSpace a cls)) := by
  obtain ⟨fs, e, hf, _⟩ := embNode_tag_attrs name ws a kids
  rw [e]; exact src_has_class h G "Tag" fs a hf cls

/-- `add_class` / `add_style` / `remove_class` on a tag of the tree model, for the tables regenerated from the source:
    the same tag with the model's new attributes -/
theorem src_add_class_now (h : Tag_add_class_available = true)
    (h0 : TagAttrDict_update_available = true) (h1 : normalize_attr_value_available = true)
    (h2 : normalize_attr_name_available = true) (h3 : html_escape_available = true)
    (h4 : HTML_add_available = true) (h5 : HTML_radd_available = true) (h6 : HTML_as_string_available = true)
    (sp : Char → Bool) (lw : Str → Str) (name : Str) (ws : Bool) (a : Attrs) (kids : Nodes) (cls : Str) (prepend : Bool) :
    Tag_add_class (globalsOf cfgNow sp lw) (embNode (.tag name ws a kids)) (.str cls) (.bool prepend)
      = embRes (fun a' => embNode (.tag name ws a' kids)) (addClass cfgNow a cls prepend) := by
  obtain ⟨fs, e, hf, hw⟩ := embNode_tag_attrs name ws a kids
  rw [e, src_add_class h h0 h1 h2 h3 h4 h5 h6 cfgNow sp lw src_tables_ok.2.2 src_tables_ok.1 src_tables_ok.2.1 "Tag" fs a hf]
  cases addClass cfgNow a cls prepend <;> simp only [embRes, hw]

theorem src_add_style_now (h : Tag_add_style_available = true)
    (h0 : TagAttrDict_update_available = true) (h1 : normalize_attr_value_available = true)
    (h2 : normalize_attr_name_available = true) (h3 : html_escape_available = true)
    (h4 : HTML_add_available = true) (h5 : HTML_radd_available = true) (h6 : HTML_as_string_available = true)
    (sp : Char → Bool) (lw : Str → Str) (name : Str) (ws : Bool) (a : Attrs) (kids : Nodes) (style : AttrArg) (prepend : Bool) :
    Tag_add_style (globalsOf cfgNow sp lw) (embNode (.tag name ws a kids)) (embArg style) (.bool prepend)
      = embRes (fun a' => embNode (.tag name ws a' kids)) (addStyle cfgNow a style prepend) := by
  obtain ⟨fs, e, hf, hw⟩ := embNode_tag_attrs name ws a kids
  rw [e, src_add_style h h0 h1 h2 h3 h4 h5 h6 cfgNow sp lw src_tables_ok.2.2 src_tables_ok.1 src_tables_ok.2.1 "Tag" fs a hf]
  cases addStyle cfgNow a style prepend <;> simp only [embRes, hw]

theorem src_remove_class_now (h : Tag_remove_class_available = true)
    (h0 : TagAttrDict_update_available = true) (h1 : normalize_attr_value_available = true)
    (h2 : normalize_attr_name_available = true) (h3 : html_escape_available = true)
    (h4 : HTML_add_available = true) (h5 : HTML_radd_available = true) (h6 : HTML_as_string_available = true)
    (sp : Char → Bool) (lw : Str → Str) (name : Str) (ws : Bool) (a : Attrs) (kids : Nodes) (cls : Str) :
    Tag_remove_class (globalsOf cfgNow sp lw) (embNode (.tag name ws a kids)) (.str cls)
      = embRes (fun a' => embNode (.tag name ws a' kids)) (removeClass cfgNow sp a cls) := by
  obtain ⟨fs, e, hf, hw⟩ := embNode_tag_attrs name ws a kids
  rw [e, src_remove_class h h0 h1 h2 h3 h4 h5 h6 cfgNow sp lw src_tables_ok.2.2 src_tables_ok.1 src_tables_ok.2.1 "Tag" fs a hf]
  cases removeClass cfgNow sp a cls <;> simp only [embRes, hw]

/-- the keys `css()` writes, as the source computes them -/
theorem src_css_text (h : util_css_available = true) (G : Globals) (cs k s : Str) :
    util_css G (.str cs) (.dict [(k, .str s)]) = .ok (.str (cssKey G.lower k ++ ':' :: s ++ ';' :: cs)) := by
  have := src_css h G (.str cs) (some cs) rfl [(k, .str s, .text s)]
    (by intro x hx; simp only [List.mem_singleton] at hx; subst hx; exact CssRel.text _ _ rfl rfl rfl)
  rw [show (PVal.dict [(k, PVal.str s)]) = .dict ([(k, PVal.str s, CssVal.text s)].map fun x => (x.1, x.2.1)) from rfl, this]
  simp [HtmlVerif.css, cssLoop, embRes]

end HtmlVerif.SrcTie
