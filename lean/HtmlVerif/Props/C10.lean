/-
C10 — Dependencies are validated, then resolve one per name to the highest version.

The resolution laws are stated for `resolveBy gt name` with an arbitrary "strictly greater" test
`gt` (hypothesis `StrictWeak gt`: the strict part of a total preorder, where a law needs any
order property at all) and then instantiated for the order `packaging` reports (`depGt`, read off
`DepInfo.vrank`) and for the concrete release order (`cmpkeyGt`).
-/
import HtmlVerif.Lemmas.Deps
import HtmlVerif.Lemmas.Release
import HtmlVerif.Lemmas.DepInit
import HtmlVerif.Lemmas.NodeBeq
import HtmlVerif.Holds.C10

namespace HtmlVerif.C10
open HtmlVerif

/-! ### collection: every nesting level, document order -/

/-- the collected list is exactly the dependency nodes of the tree in document order -/
theorem C10_collect_preorder (ks : Nodes) : ks.collect = ks.depsOf := by
  cases ks with
  | nil => rfl
  | cons h t =>
    rw [Nodes.depsOf, Nodes.preorder, List.filter_append, ← Nodes.depsOf, ← C10_collect_preorder t]
    cases h with
    | tag n w a k => show k.collect ++ _ = _; rw [C10_collect_preorder k]; rfl
    | _ => rfl

theorem C10_collect_preorder_tag (n : Node) :
    n.collect = if n.isTag then n.preorder.filter Node.isDep else [] := by
  cases n with
  | tag nm w a k => exact C10_collect_preorder k
  | _ => rfl

/-- `Tag.get_dependencies(dedup=False)` is the same walk started at the tag's children -/
theorem C10_collect_tag (n : Str) (w : Bool) (a : Attrs) (k : Nodes) :
    (Node.tag n w a k).collect = k.depsOf :=
  C10_collect_preorder k

theorem C10_collect_append (a b : Nodes) : (a ++ b).collect = a.collect ++ b.collect := by
  cases a with
  | nil => rfl
  | cons h t =>
    have ih := C10_collect_append t b
    cases h with
    | tag n w a k =>
      show k.collect ++ (t ++ b).collect = k.collect ++ t.collect ++ b.collect
      rw [ih, List.append_assoc]
    | dep d hh hd => exact congrArg (_ :: ·) ih
    | _ => exact ih

/-- wrapping a run of siblings into a tag (any name, any attributes) does not change what is collected -/
theorem C10_collect_wrap (n : Str) (w : Bool) (a : Attrs) (k rest : Nodes) :
    (Nodes.cons (.tag n w a k) rest).collect = (k ++ rest).collect := by
  rw [C10_collect_append]; rfl

theorem reach_of_mem_preorder {d : Node} (ks : Nodes) (h : d ∈ ks.preorder) : ks.Reach d := by
  cases ks with
  | nil => cases h
  | cons hd t =>
    rcases List.mem_append.mp h with h | h
    · cases hd with
      | tag n w a k =>
        rcases List.mem_cons.mp h with rfl | h
        · exact .here _ t
        · exact .inside n w a k t d (reach_of_mem_preorder k h)
      | _ => cases List.mem_singleton.mp h; exact .here _ t
    · exact .later hd t d (reach_of_mem_preorder t h)

theorem mem_preorder_iff_reach (ks : Nodes) (d : Node) : d ∈ ks.preorder ↔ ks.Reach d := by
  refine ⟨reach_of_mem_preorder ks, fun hr => ?_⟩
  induction hr with
  | here h t => exact List.mem_append_left _ (by cases h <;> exact List.mem_cons_self)
  | later h t d _ ih => exact List.mem_append_right _ ih
  | inside n w a k t d _ ih => exact List.mem_append_left _ (List.mem_cons_of_mem _ ih)

/-- a dependency is collected iff it is reachable through tags, at whatever depth -/
theorem C10_collect_mem (ks : Nodes) (d : Node) : d ∈ ks.collect ↔ (d.isDep = true ∧ ks.Reach d) := by
  rw [C10_collect_preorder, Nodes.depsOf, List.mem_filter, mem_preorder_iff_reach, and_comm]

theorem C10_collect_reach_tag (n : Node) (d : Node) (h : d ∈ n.collect) :
    d.isDep = true ∧ ∃ nm w a k, n = .tag nm w a k ∧ k.Reach d := by
  cases n with
  | tag nm w a k =>
    have := (C10_collect_mem k d).mp h
    exact ⟨this.1, nm, w, a, k, rfl, this.2⟩
  | _ => cases h

/-! ### resolution, for any comparison -/

section generic
variable {κ α : Type} [DecidableEq κ] (gt : α → α → Bool) (name : α → κ)

/-- each name once, names ordered by first occurrence — whatever `gt` is -/
theorem C10_resolve_names (ds : List α) :
    (resolveBy gt name ds).map name = dedupKeepFirst (ds.map name) := by
  induction ds using byName_induction name with
  | nil => rfl
  | cons d ds ih =>
    rw [resolveBy_cons, List.map_cons, List.map_cons, dedupKeepFirst, name_bestOf_filter gt name, ih,
      ← dedupKeepFirst_filter, List.filter_map]
    rfl

theorem C10_resolve_names_nodup (ds : List α) : ((resolveBy gt name ds).map name).Nodup := by
  rw [C10_resolve_names]; exact dedupKeepFirst_nodup _

/-- every name that occurs is represented -/
theorem C10_resolve_covers (ds : List α) (d : α) (h : d ∈ ds) :
    ∃ r ∈ resolveBy gt name ds, name r = name d := by
  have : name d ∈ (resolveBy gt name ds).map name := by
    rw [C10_resolve_names, mem_dedupKeepFirst]; exact List.mem_map_of_mem h
  exact List.mem_map.mp this

/-- nothing is invented: a representative is one of the inputs -/
theorem C10_resolve_sub (hs : StrictWeak gt) (ds : List α) (d : α) (h : d ∈ resolveBy gt name ds) : d ∈ ds := by
  induction ds using byName_induction name with
  | nil => simp at h
  | cons d₀ ds ih =>
    rw [resolveBy_cons, List.mem_cons] at h
    rcases h with rfl | h
    · rcases bestOf_mem gt (ds.filter fun x => name x = name d₀) d₀ with e | e
      · simp [e]
      · exact List.mem_cons_of_mem _ (List.mem_filter.mp e).1
    · exact List.mem_cons_of_mem _ (List.mem_filter.mp (ih h)).1

/-- positional form: everything of that name before the representative is strictly lower,
    nothing of that name after it is strictly higher -/
theorem C10_resolve_rep_pos (hs : StrictWeak gt) (ds : List α) (d : α) (h : d ∈ resolveBy gt name ds) :
    IsFirstMax gt (ds.filter (fun x => name x = name d)) d := by
  induction ds using byName_induction name with
  | nil => simp at h
  | cons d₀ ds ih =>
    rw [resolveBy_cons, List.mem_cons] at h
    rcases h with rfl | h
    · rw [name_bestOf_filter gt name, List.filter_cons_of_pos (by simp)]
      exact bestOf_isFirstMax gt hs _ [d₀] d₀ ⟨[], [], rfl, by simp, by simp⟩
    · -- `d` is of another name than `d₀`, so the objects of its name all survive the filter
      have hne : name d ≠ name d₀ := by
        simpa using (List.mem_filter.mp (C10_resolve_sub gt name hs _ d h)).2
      have e : (d₀ :: ds).filter (fun x => name x = name d)
          = (ds.filter (fun x => name x ≠ name d₀)).filter (fun x => name x = name d) := by
        rw [List.filter_cons_of_neg (by simpa using Ne.symm hne), List.filter_filter]
        apply List.filter_congr
        intro x _
        by_cases hx : name x = name d <;> simp [hx, hne]
      rw [e]; exact ih h

/-- the representative of a name is the first object, among those of that name, that none exceeds:
    highest version, earliest on ties -/
theorem C10_resolve_rep (hs : StrictWeak gt) (ds : List α) (d : α) (h : d ∈ resolveBy gt name ds) :
    firstMaxBy gt (ds.filter (fun x => name x = name d)) = some d :=
  (C10_resolve_rep_pos gt name hs ds d h).firstMaxBy_eq hs

/-- the position singled out by `IsFirstMax` is unique -/
theorem C10_firstMax_unique (pre pre' post post' : List α) (d d' : α)
    (e : pre ++ d :: post = pre' ++ d' :: post')
    (h1 : ∀ y ∈ pre, gt d y = true) (h2 : ∀ y ∈ post, gt y d = false)
    (h1' : ∀ y ∈ pre', gt d' y = true) (h2' : ∀ y ∈ post', gt y d' = false) : pre = pre' := by
  -- one of `pre`, `pre'` extends the other by some `a`; were `a` not empty, the element singled out
  -- on the shorter side would lie before the other one and after it at once
  rcases List.append_eq_append_iff.mp e with ⟨a, rfl, e'⟩ | ⟨a, rfl, e'⟩
  · cases a with
    | nil => simp
    | cons x a =>
      obtain ⟨rfl, rfl⟩ := List.cons.inj e'
      have := h2 d' (by simp)
      rw [h1' d (by simp)] at this; cases this
  · cases a with
    | nil => simp
    | cons x a =>
      obtain ⟨rfl, rfl⟩ := List.cons.inj e'
      have := h2' d (by simp)
      rw [h1 d' (by simp)] at this; cases this

/-- a list that already has one object per name is returned unchanged -/
theorem C10_resolve_fixed (ds : List α) (h : (ds.map name).Nodup) : resolveBy gt name ds = ds := by
  induction ds with
  | nil => rfl
  | cons d l ih =>
    rw [List.map_cons, List.nodup_cons] at h
    have hnot : ∀ x ∈ l, name x ≠ name d := fun x hx e => h.1 (e ▸ List.mem_map_of_mem hx)
    rw [resolveBy_cons, List.filter_eq_nil_iff.mpr fun x hx => by simpa using hnot x hx,
      List.filter_eq_self.mpr fun x hx => by simpa using hnot x hx, ih h.2]
    rfl

/-- resolution is idempotent — whatever `gt` is -/
theorem C10_resolve_idem (ds : List α) :
    resolveBy gt name (resolveBy gt name ds) = resolveBy gt name ds :=
  C10_resolve_fixed gt name _ (C10_resolve_names_nodup gt name ds)

/-- the strict part of any total preorder qualifies -/
theorem C10_strictWeak_of_totalPreorder (le : α → α → Bool) (h : TotalPreorder le) :
    StrictWeak (fun a b => !le a b) where
  asymm a b hab := by
    rcases h.total a b with t | t
    · simp [t] at hab
    · simp [t]
  gt_of_gt_of_le a b c hab hcb := by
    simp only [Bool.not_eq_true', Bool.not_eq_false'] at hab hcb ⊢
    exact Bool.eq_false_iff.mpr fun hac => Bool.eq_false_iff.mp hab (h.trans a c b hac hcb)

end generic

/-! ### resolution, for the order `packaging` reports -/

theorem strictWeak_of_rank {α : Type} (r : α → Nat) : StrictWeak (fun a b => decide (r a > r b)) where
  asymm _ _ h := decide_eq_false (Nat.lt_asymm (of_decide_eq_true h))
  gt_of_gt_of_le _ _ _ h1 h2 :=
    decide_eq_true (Nat.lt_of_le_of_lt (Nat.le_of_not_lt (of_decide_eq_false h2)) (of_decide_eq_true h1))

theorem C10_depGt_strictWeak : StrictWeak depGt :=
  strictWeak_of_rank Node.vrank

theorem C10_deps_names (ds : List Node) :
    (resolve ds).map Node.depName = dedupKeepFirst (ds.map Node.depName) :=
  C10_resolve_names depGt Node.depName ds

theorem C10_deps_rep (ds : List Node) (d : Node) (h : d ∈ resolve ds) :
    firstMaxBy depGt (ds.filter (fun x => x.depName = d.depName)) = some d :=
  C10_resolve_rep depGt Node.depName C10_depGt_strictWeak ds d h

theorem C10_deps_rep_pos (ds : List Node) (d : Node) (h : d ∈ resolve ds) :
    ∃ pre post, ds.filter (fun x => x.depName = d.depName) = pre ++ d :: post
      ∧ (∀ y ∈ pre, y.vrank < d.vrank) ∧ (∀ y ∈ post, y.vrank ≤ d.vrank) := by
  obtain ⟨pre, post, e, h1, h2⟩ := C10_resolve_rep_pos depGt Node.depName C10_depGt_strictWeak ds d h
  exact ⟨pre, post, e, fun y hy => of_decide_eq_true (h1 y hy),
    fun y hy => Nat.le_of_not_lt (of_decide_eq_false (h2 y hy))⟩

theorem C10_deps_idem (ds : List Node) : resolve (resolve ds) = resolve ds :=
  C10_resolve_idem depGt Node.depName ds

theorem getDeps_eq (t : Nodes) (dedup : Bool) :
    t.getDeps dedup = if dedup then resolve t.depsOf else t.depsOf := by
  rw [Nodes.getDeps, C10_collect_preorder]

/-- what is reported depends only on the sequence of dependencies in document order, not on where
    in the tree (how deep, under which tags, between which other nodes) they sit -/
theorem C10_resolve_placement (t t' : Nodes) (h : t.collect = t'.collect) (dedup : Bool) :
    t.getDeps dedup = t'.getDeps dedup := by
  rw [Nodes.getDeps, Nodes.getDeps, h]

theorem C10_resolve_placement_tag (n n' : Str) (w w' : Bool) (a a' : Attrs) (k k' : Nodes)
    (h : k.depsOf = k'.depsOf) (dedup : Bool) :
    (Node.tag n w a k).getDeps dedup = (Node.tag n' w' a' k').getDeps dedup := by
  rw [← C10_collect_preorder, ← C10_collect_preorder] at h
  exact C10_resolve_placement k k' h dedup

/-- with dedup disabled nothing is dropped or reordered -/
theorem C10_nodedup_is_collect (t : Nodes) : t.getDeps false = t.depsOf :=
  getDeps_eq t false

theorem C10_nodedup_is_collect_tag (n : Str) (w : Bool) (a : Attrs) (k : Nodes) :
    (Node.tag n w a k).getDeps false = k.depsOf :=
  getDeps_eq k false

/-- with dedup enabled the report is the resolution of the document-order list; a tag and its
    child list report the same -/
theorem C10_dedup_is_resolve (t : Nodes) : t.getDeps true = resolve t.depsOf :=
  getDeps_eq t true

theorem C10_dedup_is_resolve_tag (n : Str) (w : Bool) (a : Attrs) (k : Nodes) :
    (Node.tag n w a k).getDeps true = resolve k.depsOf :=
  getDeps_eq k true

/-! ### version-number (not lexical) order on releases -/

/-- packaging's comparison (strip trailing zeros, compare tuples) is the numeric, zero-padded
    component-wise order -/
theorem C10_release_order (a : List Nat) : ∀ b : List Nat,
    vle a b = lexLe (stripTrailingZeros a) (stripTrailingZeros b) := by
  induction a with
  | nil => intro b; simp [vle, lexLe]
  | cons x a ih =>
    intro b
    cases b with
    | nil =>
      rw [vle, ih [], stripTrailingZeros_nil, stripTrailingZeros_cons]
      generalize stripTrailingZeros a = s
      cases s <;> by_cases hx : x = 0 <;> simp [lexLe, hx]
    | cons y b =>
      rw [vle, ih b, stripTrailingZeros_cons, stripTrailingZeros_cons]
      generalize stripTrailingZeros a = s
      generalize stripTrailingZeros b = t
      by_cases h1 : x = 0 ∧ s = []
      · -- the left release is all zeros
        obtain ⟨rfl, rfl⟩ := h1
        have : 0 < y ∨ 0 = y := by omega
        simpa [lexLe] using this
      · by_cases h2 : y = 0 ∧ t = []
        · -- only the right release is all zeros
          obtain ⟨rfl, rfl⟩ := h2
          cases s <;> simp_all [lexLe]
        · simp only [h1, h2, if_false, lexLe]

/-- so the resolution laws hold with the concrete release comparison in the role of `gt`: it
    is the tuple order on normal forms -/
theorem C10_cmpkeyGt_strictWeak : StrictWeak cmpkeyGt :=
  C10_strictWeak_of_totalPreorder cmpkeyLe ⟨fun _ _ => lexLe_total _ _, fun _ _ _ => lexLe_trans _ _ _⟩

/-- appending a zero component does not change a version -/
theorem C10_release_trailing_zero (a : List Nat) : vle a (a ++ [0]) = true ∧ vle (a ++ [0]) a = true := by
  induction a with
  | nil => simp [vle]
  | cons x a ih => simp [vle, ih.1, ih.2]

/-- 1.9 < 1.10 (numeric, not lexical) -/
theorem C10_ex_1_9_lt_1_10 : vle [1, 9] [1, 10] = true ∧ vle [1, 10] [1, 9] = false ∧
    cmpkeyGt [1, 10] [1, 9] = true := by decide
/-- 1.10 ≈ 1.10.0 -/
theorem C10_ex_1_10_eq_1_10_0 : vle [1, 10] [1, 10, 0] = true ∧ vle [1, 10, 0] [1, 10] = true ∧
    cmpkeyGt [1, 10] [1, 10, 0] = false ∧ cmpkeyGt [1, 10, 0] [1, 10] = false := by decide
/-- 2 < 10 -/
theorem C10_ex_2_lt_10 : vle [2] [10] = true ∧ vle [10] [2] = false ∧ cmpkeyGt [10] [2] = true := by decide
/-- the version strings parse to these releases -/
theorem C10_ex_parse : parseRelease ['1','.','1','0','.','0'] = some [1, 10, 0]
    ∧ parseRelease ['1','.','9'] = some [1, 9] ∧ parseRelease ['1','0'] = some [10]
    ∧ parseRelease ['1','.','x'] = none := by decide

/-! ### constructor validation -/

/-- the constructor fails exactly when something is wrong, and the error is the one belonging to
    the first thing wrong in the order version, source, script, stylesheet, meta (items left to
    right, a non-dict item → TypeError, a missing key → KeyError) -/
theorem C10_depInit_rejects (a : DepArg) (e : Err) :
    depInit a = .error e ↔ a.violations.head? = some e := by
  have h := depInit_spec a
  split at h
  next e' hv => simp [h, hv]
  next hv => obtain ⟨_, _, hd⟩ := h; simp [hd, hv]

/-- it succeeds exactly when nothing is wrong (`depInit_spec` says what it then stores: every item
    list as a list of dicts) -/
theorem C10_depInit_accepts (a : DepArg) :
    (∃ d, depInit a = .ok d) ↔ a.violations = [] := by
  rw [← List.head?_eq_none_iff, Option.eq_none_iff_forall_ne_some]
  simp only [ne_eq, ← C10_depInit_rejects]
  cases depInit a <;> simp

/-- rejection in the property's own words: a non-dict source, a source with neither `href` nor
    `subdir`, a non-dict item, or an item missing its required key (or a version `packaging` refuses) -/
theorem C10_depInit_rejects_iff_malformed (a : DepArg) :
    (∃ e, depInit a = .error e) ↔ a.Malformed := by
  simp only [C10_depInit_rejects, ← Option.isSome_iff_exists, List.isSome_head?]
  rw [Ne, violations_nil_iff, Classical.not_not]

/-- the kind of error: a KeyError comes only from an item missing a required key -/
theorem C10_depInit_keyError (a : DepArg) (h : depInit a = .error .keyError) :
    a.script.lacksKey reqScript = true ∨ a.stylesheet.lacksKey reqStylesheet = true
      ∨ a.metas.lacksKey reqMeta = true := by
  have hmem : Err.keyError ∈ a.violations :=
    List.mem_of_mem_head? ((C10_depInit_rejects a .keyError).mp h)
  simp only [DepArg.violations, List.mem_append] at hmem
  rcases hmem with (((h0 | h0) | h0) | h0) | h0
  · cases a.verOk <;> simp at h0
  · generalize a.source = s at h0
    cases s <;> simp [sourceViolations] at h0
  · exact .inl (lacksKey_of_keyError_mem _ _ h0)
  · exact .inr (.inl (lacksKey_of_keyError_mem _ _ h0))
  · exact .inr (.inr (lacksKey_of_keyError_mem _ _ h0))

/-- a single item and the one-element list give identical results (accepted or rejected alike):
    `normItems` wraps the single dict into a list before anything is checked -/
theorem C10_depInit_single_script (a : DepArg) (x : List (Str × Str)) :
    depInit { a with script := .one x } = depInit { a with script := .many [.dict x] } := rfl

theorem C10_depInit_single_stylesheet (a : DepArg) (x : List (Str × Str)) :
    depInit { a with stylesheet := .one x } = depInit { a with stylesheet := .many [.dict x] } := rfl

theorem C10_depInit_single_meta (a : DepArg) (x : List (Str × Str)) :
    depInit { a with metas := .one x } = depInit { a with metas := .many [.dict x] } := rfl

/-- `None` and the empty list are the same, too -/
theorem C10_depInit_none_empty (a : DepArg) :
    depInit { a with script := .none, stylesheet := .none, metas := .none }
      = depInit { a with script := .many [], stylesheet := .many [], metas := .many [] } := rfl

/-! ### the executable statement the check evaluates on real answers is what the theorems prove -/

theorem C10_nodesEq_refl (l : List Node) : Holds.nodesEq l l = true := by
  simp only [Holds.nodesEq, beq_self_eq_true, Bool.true_and]
  induction l with
  | nil => rfl
  | cons x l ih => simp [Node.beq_refl x, ih]

/-- on the model's own answer no clause of the executable statement fails (so a reported failing
    clause always comes from the implementation's answer) -/
theorem C10_statement_holds_of_model (ks : Nodes) (dedup : Bool) :
    Holds.failsC10List ks dedup (ks.getDeps dedup) = [] := by
  cases dedup with
  | false =>
    simp [Holds.failsC10List, Holds.failsDeps, Holds.clause, C10_nodedup_is_collect, C10_nodesEq_refl]
  | true =>
    have hrep : ∀ d ∈ resolve ks.depsOf, Holds.repOk ks.depsOf d = true := fun d hd => by
      simp only [Holds.repOk, C10_deps_rep ks.depsOf d hd]; exact Node.beq_refl d
    simp [Holds.failsC10List, Holds.failsDeps, Holds.clause, C10_dedup_is_resolve, C10_deps_names,
      C10_deps_idem, C10_nodesEq_refl, List.all_eq_true.mpr hrep]

theorem C10_statement_holds_of_model_init (a : DepArg) : Holds.failsDepInit a (depInit a) = [] := by
  have h := depInit_spec a
  cases hv : a.violations with
  | cons x xs =>
    simp only [hv, List.head?_cons] at h
    simp [h, Holds.failsDepInit, Holds.clause, hv]
  | nil =>
    simp only [hv, List.head?_nil] at h
    obtain ⟨src, hsrc, hd⟩ := h
    simp [hd, Holds.failsDepInit, Holds.clause, hv, Holds.sourceOk, hsrc]

/-! ### non-vacuity -/

private def dA (nm : Str) (r : Nat) (tag : Nat) : Node :=
  .dep { name := nm, version := [], vrank := r, source := .none, script := [], stylesheet := [],
         metas := [[(['i'], [Char.ofNat (48 + tag)])]], allFiles := false } false .nil

/-- two names, a tie and a strictly greater later version, at three nesting depths -/
example :
    (Nodes.cons (dA ['a'] 1 0) (.cons (.tag ['d'] true [] (.cons (dA ['b'] 0 1)
      (.cons (.tag ['s'] false [] (.cons (dA ['a'] 1 2) (.cons (dA ['a'] 2 3) .nil))) .nil)))
      (.cons (dA ['a'] 2 4) .nil))).getDeps true
    = [dA ['a'] 2 3, dA ['b'] 0 1] := rfl

private def argOf (src : SourceArg) (sc st me : ItemsArg) : DepArg :=
  { name := ['a'], version := ['1'], verOk := true, vrank := 0, source := src,
    script := sc, stylesheet := st, metas := me, allFiles := false }

/-- placement: the same three objects flat, and spread over two nesting levels between other nodes -/
example :
    (Nodes.cons (dA ['a'] 1 0) (.cons (dA ['b'] 0 1) (.cons (dA ['a'] 2 2) .nil))).collect
    = (Nodes.cons (.text ['t']) (.cons (.tag ['d'] true [] (.cons (dA ['a'] 1 0)
        (.cons (.tag ['s'] false [] (.cons (dA ['b'] 0 1) .nil)) (.cons (.mnode 3) .nil))))
        (.cons (dA ['a'] 2 2) .nil))).collect := rfl

/-- the order hypotheses are satisfiable: numeric `>` is a strict weak order, and a tie goes to the earliest -/
example : StrictWeak (fun a b : Nat × Char => decide (a.1 > b.1)) :=
  strictWeak_of_rank Prod.fst

example : firstMaxBy (fun a b : Nat × Char => decide (a.1 > b.1)) [(1, 'x'), (3, 'y'), (2, 'z'), (3, 'w')] = some (3, 'y') := by
  decide

example : resolveBy (fun a b : Nat × Char => decide (a.1 > b.1)) (fun p => p.2.isUpper)
    [(1, 'x'), (3, 'Y'), (2, 'z'), (3, 'W'), (2, 'v')] = [(2, 'z'), (3, 'Y')] := by decide

/-- malformed argument records (which error depends on what comes first) and a well-formed one -/
example : depInit (argOf (.dict []) (.many [.dict [(['s','r','c'], ['x'])], .other]) .none .none)
    = .error .typeError := rfl

example : depInit (argOf (.dict [(['h','r','e','f'], ['u'])])
    (.many [.dict [(['s','r','c'], ['x'])], .dict []]) (.one []) .scalar) = .error .keyError := rfl

example : depInit (argOf (.dict [(['h','r','e','f'], ['u'])])
    (.many [.dict [(['s','r','c'], ['x'])], .other, .dict []]) (.one []) .scalar) = .error .typeError := rfl

example : ∃ d, depInit (argOf (.dict [(['h','r','e','f'], ['u'])]) (.one [(['s','r','c'], ['x'])])
    (.one [(['h','r','e','f'], ['y'])])
    (.many [.dict [(['n','a','m','e'], ['n']), (['c','o','n','t','e','n','t'], ['c'])]])) = .ok d := ⟨_, rfl⟩

end HtmlVerif.C10
