/-
Source tie (DESIGN §14) for dependency resolution and collection: the Lean functions regenerated from the text of
`_resolve_dependencies`, `TagList.get_dependencies` and `Tag.get_dependencies` (the last two a `mutual` pair, recursion
bounded by fuel) compute, for every tree, what the model (`resolve`, `Nodes.getDeps`, `Node.getDeps`; Model/Deps.lean)
computes.  Obligations of C10 (and of C09 through `render()`).  Stated on the embedding `embC18 xf tv`
(Lemmas/SrcC10.lean), whose dependency objects may carry further fields; `embT tv` is the instance without
(`src_resolve`, `src_get_dependencies_tag`, `src_get_dependencies_list`).

No loop body is spelled out: the loops are taken from the regenerated definitions by unification (`resolve_loop_k`,
`deps_loop_k` of Lemmas/SrcC10.lean); what is proved about each is its effect on one pass.
-/
import HtmlVerif.Generated.Src
import HtmlVerif.Lemmas.SrcC10

-- the availability flags are read only where a function has left the fragment; simp sets name lemmas for spellings other than the one the source has
set_option linter.unusedVariables false
set_option linter.unusedSimpArgs false

namespace HtmlVerif.SrcTie
open HtmlVerif HtmlVerif.Py HtmlVerif.Generated.Src

/-- `_resolve_dependencies` as the source has it = `resolveBy`, for a list of objects of *any* kind whose `name` is a
    `str` and whose `version` is a `packaging` Version (carrying its rank in the order `packaging` reports) -/
theorem src_resolve_gen (h : resolve_dependencies_available = true) (G : Globals) {α : Type} (e : α → PVal) (nm : α → Str) (rk : α → Int)
    (ds : List α)
    (hname : ∀ a ∈ ds, pyGetAttr (e a) "name" = .ok (.str (nm a)))
    (hver : ∀ a ∈ ds, ∃ fs, pyGetAttr (e a) "version" = .ok (.obj "Version" (("rank", .int (rk a)) :: fs))) :
    resolve_dependencies G (.list (ds.map e))
      = .ok (.list ((resolveBy (fun a b => decide (rk a > rk b)) nm ds).map e)) := by
  first
  | exact absurd h (by decide)
  | unfold resolve_dependencies
    simp only [ok_bind, pure_eq_ok, truthy_bool, pyIter_list]
    refine resolve_loop_k Prod.fst e nm (fun a b => decide (rk a > rk b)) ds _ rfl _ ?step _ _ ?k
    case k =>
      intro s hs
      rw [hs]
      exact values_embMap e _
    case step =>
      intro c hc s m hs hm
      obtain ⟨s1, s2⟩ := s
      simp only at hs; subst hs
      obtain ⟨fc, hvc⟩ := hver c hc
      simp only [hname c hc, ok_bind, pyIn_embMap, truthy_bool, resolveStep]
      cases hg : amapGet? (nm c) m with
      | none => simp [pySetItem_embMap]
      | some cur =>
        obtain ⟨kv, hkv, rfl⟩ := amapGet?_vals _ _ _ hg
        obtain ⟨fv, hvv⟩ := hver kv.2 (hm kv hkv)
        simp only [Option.isSome_some, Bool.not_true, Bool.false_eq_true, if_false, hvc, ok_bind, pyGetItem_embMap e _ _ _ hg, hvv,
          pyGt_version, truthy_bool]
        by_cases hgt : rk c > rk kv.2 <;> simp [hgt, pySetItem_embMap]

theorem src_resolve_C18 (h : resolve_dependencies_available = true) (G : Globals) (xf : XfC18) (tv : Node → PVal) (ds : List Node)
    (hd : ∀ d ∈ ds, d.isDep = true) :
    resolve_dependencies G (.list (ds.map (embC18 xf tv))) = .ok (.list ((resolve ds).map (embC18 xf tv))) := by
  have := src_resolve_gen h G (embC18 xf tv) Node.depName (fun d => (d.vrank : Int)) ds
    (fun a ha => embC18_dep_name xf tv a (hd a ha)) (fun a ha => embC18_dep_version xf tv a (hd a ha))
  rw [this, depGt_int, resolve]

/-- the loop of `TagList.get_dependencies` and the code after it: given the tie for the tag children at this fuel -/
theorem src_taglist_deps_step_C18 (h : TagList_get_dependencies_available = true) (hr : resolve_dependencies_available = true)
    (G : Globals) (xf : XfC18) (tv : Node → PVal) (fuel : Nat) (ks : Nodes) (dd : Bool)
    (HP : ∀ c ∈ ks.toList, c.isTag = true →
      Tag_get_dependencies G fuel (embC18 xf tv c) (.bool false) = .ok (.list (c.collect.map (embC18 xf tv)))) :
    TagList_get_dependencies G (fuel + 1) (tagListOf (embsC18 xf tv ks)) (.bool dd)
      = .ok (.list ((ks.getDeps dd).map (embC18 xf tv))) := by
  first
  | exact absurd h (by decide)
  | skip
  all_goals (
    rw [TagList_get_dependencies]
    simp only [ok_bind, pure_eq_ok, truthy_bool, tagListOf, pyIter_taglist, embsC18_toList]
    refine deps_loop_k (embC18 xf tv) Prod.fst ks _ rfl _ ?step _ _ ?k
    case k =>
      intro s hs
      rw [hs]
      cases dd <;> simp [Nodes.getDeps, src_resolve_C18 hr G xf tv ks.collect (collect_isDep ks)]
    case step =>
      intro c hc s b hs
      obtain ⟨s1, s2⟩ := s
      simp only at hs; subst hs
      simp only [isDep_embC18, isTag_embC18]
      cases c with
      | tag nm ws at' kk =>
        have hp := HP _ hc rfl
        have hcls : pyClassOf (embC18 xf tv (Node.tag nm ws at' kk)) = "Tag" := rfl
        simp [Node.isDep, Node.isTag, hcls, hp, depsStep, pyListExtend, pyListAppend]
      | _ => simp [Node.isDep, Node.isTag, depsStep, pyListExtend, pyListAppend])

/-- a tag: given the tie for its child list at this fuel -/
theorem src_tag_deps_step_C18 (h : Tag_get_dependencies_available = true)
    (G : Globals) (xf : XfC18) (tv : Node → PVal) (fuel : Nat) (nm : Str) (ws : Bool) (at' : Attrs) (kk : Nodes) (dd : Bool)
    (HQ : TagList_get_dependencies G fuel (tagListOf (embsC18 xf tv kk)) (.bool dd)
      = .ok (.list ((kk.getDeps dd).map (embC18 xf tv)))) :
    Tag_get_dependencies G (fuel + 1) (embC18 xf tv (.tag nm ws at' kk)) (.bool dd)
      = .ok (.list (((Node.tag nm ws at' kk).getDeps dd).map (embC18 xf tv))) := by
  first
  | exact absurd h (by decide)
  | skip
  all_goals (
    rw [Tag_get_dependencies]
    have hcls : pyClassOf (tagListOf (embsC18 xf tv kk)) = "TagList" := rfl
    simp only [ok_bind, pure_eq_ok, (getattr_tagC18 xf tv nm ws at' kk).2.2.1, hcls, HQ, Node.getDeps])

theorem src_deps_depth_C18 (h1 : Tag_get_dependencies_available = true) (h2 : TagList_get_dependencies_available = true)
    (hr : resolve_dependencies_available = true) (G : Globals) (xf : XfC18) (tv : Node → PVal) (n : Nat) :
    (∀ t : Node, t.isTag = true → nodeDepth t ≤ n → ∀ fuel, 2 * n ≤ fuel → ∀ dd : Bool,
        Tag_get_dependencies G fuel (embC18 xf tv t) (.bool dd) = .ok (.list ((t.getDeps dd).map (embC18 xf tv))))
    ∧ (∀ ks : Nodes, kidsDepth ks ≤ n → ∀ fuel, 2 * n + 1 ≤ fuel → ∀ dd : Bool,
        TagList_get_dependencies G fuel (tagListOf (embsC18 xf tv ks)) (.bool dd)
          = .ok (.list ((ks.getDeps dd).map (embC18 xf tv)))) := by
  refine depth_induction
    (P := fun f t => ∀ dd : Bool,
      Tag_get_dependencies G f (embC18 xf tv t) (.bool dd) = .ok (.list ((t.getDeps dd).map (embC18 xf tv))))
    (Q := fun f ks => ∀ dd : Bool,
      TagList_get_dependencies G f (tagListOf (embsC18 xf tv ks)) (.bool dd) = .ok (.list ((ks.getDeps dd).map (embC18 xf tv))))
    (fun f ks HP dd => src_taglist_deps_step_C18 h2 hr G xf tv f ks dd fun c hc hct => ?_)
    (fun f nm ws at' kk HQ dd => src_tag_deps_step_C18 h1 G xf tv f nm ws at' kk dd (HQ dd)) n
  -- the loop calls `get_dependencies(dedup=False)` on a tag child: that is `collect`
  have := HP c hc hct false
  cases c <;> simp [Node.isTag] at hct
  simpa [Node.getDeps, Nodes.getDeps, Node.collect] using this

theorem src_get_dependencies_tag_C18 (h1 : Tag_get_dependencies_available = true)
    (h2 : TagList_get_dependencies_available = true) (hr : resolve_dependencies_available = true) (G : Globals)
    (xf : XfC18) (tv : Node → PVal) (t : Node) (htag : t.isTag = true) (fuel : Nat) (hf : 2 * nodeDepth t ≤ fuel) (dd : Bool) :
    Tag_get_dependencies G fuel (embC18 xf tv t) (.bool dd) = .ok (.list ((t.getDeps dd).map (embC18 xf tv))) :=
  (src_deps_depth_C18 h1 h2 hr G xf tv (nodeDepth t)).1 t htag (Nat.le_refl _) fuel hf dd

theorem src_get_dependencies_list_C18 (h1 : Tag_get_dependencies_available = true)
    (h2 : TagList_get_dependencies_available = true) (hr : resolve_dependencies_available = true) (G : Globals)
    (xf : XfC18) (tv : Node → PVal) (ks : Nodes) (fuel : Nat) (hf : 2 * kidsDepth ks + 1 ≤ fuel) (dd : Bool) :
    TagList_get_dependencies G fuel (tagListOf (embsC18 xf tv ks)) (.bool dd)
      = .ok (.list ((ks.getDeps dd).map (embC18 xf tv))) :=
  (src_deps_depth_C18 h1 h2 hr G xf tv (kidsDepth ks)).2 ks (Nat.le_refl _) fuel hf dd

theorem src_resolve (h : resolve_dependencies_available = true) (G : Globals) (tv : Node → PVal) (ds : List Node)
    (hd : ∀ d ∈ ds, d.isDep = true) :
    resolve_dependencies G (.list (ds.map (embT tv))) = .ok (.list ((resolve ds).map (embT tv))) := by
  simpa only [funext (embC18_nil tv)] using src_resolve_C18 h G xfNilC18 tv ds hd

theorem src_get_dependencies_tag (h1 : Tag_get_dependencies_available = true) (h2 : TagList_get_dependencies_available = true)
    (hr : resolve_dependencies_available = true) (G : Globals) (tv : Node → PVal)
    (t : Node) (htag : t.isTag = true) (fuel : Nat) (hf : 2 * nodeDepth t ≤ fuel) (dd : Bool) :
    Tag_get_dependencies G fuel (embT tv t) (.bool dd) = .ok (.list ((t.getDeps dd).map (embT tv))) := by
  simpa only [funext (embC18_nil tv)] using src_get_dependencies_tag_C18 h1 h2 hr G xfNilC18 tv t htag fuel hf dd

theorem src_get_dependencies_list (h1 : Tag_get_dependencies_available = true) (h2 : TagList_get_dependencies_available = true)
    (hr : resolve_dependencies_available = true) (G : Globals) (tv : Node → PVal)
    (ks : Nodes) (fuel : Nat) (hf : 2 * kidsDepth ks + 1 ≤ fuel) (dd : Bool) :
    TagList_get_dependencies G fuel (tagListOf (embTs tv ks)) (.bool dd) = .ok (.list ((ks.getDeps dd).map (embT tv))) := by
  simpa only [funext (embC18_nil tv), embsC18_nil] using src_get_dependencies_list_C18 h1 h2 hr G xfNilC18 tv ks fuel hf dd

end HtmlVerif.SrcTie
