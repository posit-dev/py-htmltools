/-
Source tie (DESIGN §14) for the constructor validation of `HTMLDependency` (C10, "dependencies are validated"): the Lean
functions regenerated from the text of `HTMLDependency._validate_dict`, `_validate_dicts` and `__init__`
(Generated/Src.lean) compute, for every input, what the model (`validateDict`, `validateDicts`, `depInit`;
Model/Deps.lean) computes — error kinds and the order of the checks included.

No loop body is spelled out: the three loops are taken from the regenerated definitions by unification
(`keys_loop_kC10b`, `dicts_loop_kC10b`, `rel_loop_kC10b` of Lemmas/SrcC10b.lean); what is proved about each is its
effect on one pass.

Scope of the statements (the model's, made explicit):
  * an item / `source` that is "not a dict" is *any* value `v` with `isInstance v ["dict"] = false`; a dict has `str` keys
    and `str` values (`List (Str × Str)`); an instance of a dict subclass is neither and is not covered;
  * `packaging.version.Version` is a parameter (`G.mkVersion`, hypothesis `VerOkC10b`); the version may also be passed as
    a Version object;
  * `head=`: None, a `str`, or any other value, for which the field is what `pyTagList1` (Py/PrimC10b.lean) gives;
  * the `rel` loop assigns into the dicts the caller passed.  The translation (harness/pytr_c10b.py, `_elem_loop`) makes
    that functional under syntactic no-aliasing conditions it checks, and under the assumption that the items of
    `stylesheet=` are not shared with the other arguments; the effect on the caller's own objects is not stated;
  * the error messages are not evaluated (they read `self.name` / `self.version`, set before the first check).
-/
import HtmlVerif.Generated.Src
import HtmlVerif.Lemmas.SrcC10b

set_option linter.unusedVariables false

namespace HtmlVerif.SrcTie
open HtmlVerif HtmlVerif.Py HtmlVerif.Generated.Src

/-- `_validate_dict(d, req_attr)` as the source has it = `validateDict`: TypeError for any value that is not a dict,
    KeyError for the first required key the dict lacks.  (`self` is read only by the error messages.) -/
theorem src_validate_dict (h : HTMLDependency_validate_dict_available = true) (G : Globals) (self : PVal) (req : List Str)
    (x : ItemV) :
    HTMLDependency_validate_dict G self x.emb (.list (req.map .str))
      = embRes (fun _ => PVal.none) (validateDict req x.toItem) := by
  first
  | exact absurd h (by decide)
  | skip
  all_goals (
    unfold HTMLDependency_validate_dict
    simp only [ok_bind, pure_eq_ok, truthy_bool, pyIter_list]
    cases x with
    | other v hv => simp [ItemV.emb, ItemV.toItem, hv, validateDict, embRes, embErr]
    | dict d =>
      simp only [ItemV.emb, ItemV.toItem, isInstance_embKvsC10b, Bool.not_true, Bool.false_eq_true, if_false, validateDict]
      refine (keys_loop_kC10b d req _ _ _ (Except.ok PVal.none) ?step (fun _ => rfl)).trans ?_
      case step =>
        intro a s
        simp only [pyIn_embKvsC10b, ok_bind, truthy_bool]
        constructor
        · intro ha; exact ⟨_, by simp [ha]; rfl⟩
        · intro ha; simp [ha]
      cases checkKeys d req with
      | error e => rfl
      | ok u => cases u; rfl)

/-- `_validate_dicts(ld, req_attr)` as the source has it = `validateDicts` (in order, the first failing item decides);
    a value that cannot be iterated raises TypeError -/
theorem src_validate_dicts (h : HTMLDependency_validate_dicts_available = true)
    (h1 : HTMLDependency_validate_dict_available = true) (G : Globals) (self : PVal) (req : List Str) (x : LdV) :
    HTMLDependency_validate_dicts G self x.emb (.list (req.map .str))
      = embRes (fun _ => PVal.none) (x.model req) := by
  first
  | exact absurd h (by decide)
  | skip
  all_goals (
    unfold HTMLDependency_validate_dicts
    cases x with
    | scalar v hn hd hi => simp only [LdV.emb, hi, error_bind, LdV.model, embRes, embErr]
    | items l =>
      simp only [LdV.emb, LdV.model, ok_bind, pure_eq_ok, pyIter_list]
      refine (dicts_loop_kC10b req l _ _ _ (Except.ok PVal.none) ?step (fun _ => rfl)).trans ?_
      case step =>
        intro y s
        simp only [src_validate_dict h1]
        cases validateDict req y.toItem with
        | error e => simp [embRes]
        | ok d => exact ⟨_, by simp [embRes]; rfl⟩
      cases validateDicts req (l.map ItemV.toItem) <;> rfl)

/-- the version argument: a string (parsed by `packaging`, whose answer is `G.mkVersion`) or a Version object -/
def VerOkC10b (G : Globals) (vv : PVal) (verOk : Bool) (vrank : Nat) (version : Str) : Prop :=
  (∃ raw, vv = .str raw ∧ G.mkVersion raw = (if verOk then some (versionObjC10b vrank version) else none))
  ∨ (vv = versionObjC10b vrank version ∧ verOk = true)

/-- `if x is None: x = [] elif isinstance(x, dict): x = [x]` as the source has it, for `script`: the constructor does
    with `x` what it does with the normalised `x` — for each of the four shapes of `x` the two tests are decided by
    evaluation, in whichever order the source makes them; nothing else of the body is looked at -/
theorem init_norm_scriptC10b (h : HTMLDependency_init_available = true) (G : Globals) (self n ver src st af me hd : PVal)
    (x : ItemsV) :
    HTMLDependency_init G self n ver src x.emb st af me hd
      = HTMLDependency_init G self n ver src x.toLd.emb st af me hd := by
  first
  | exact absurd h (by decide)
  | skip
  all_goals (
    cases x <;> rfl)

theorem init_norm_stylesheetC10b (h : HTMLDependency_init_available = true) (G : Globals) (self n ver src sc af me hd : PVal)
    (x : ItemsV) :
    HTMLDependency_init G self n ver src sc x.emb af me hd
      = HTMLDependency_init G self n ver src sc x.toLd.emb af me hd := by
  first
  | exact absurd h (by decide)
  | skip
  all_goals (
    cases x <;> rfl)

theorem init_norm_metaC10b (h : HTMLDependency_init_available = true) (G : Globals) (self n ver src sc st af hd : PVal)
    (x : ItemsV) :
    HTMLDependency_init G self n ver src sc st af x.emb hd
      = HTMLDependency_init G self n ver src sc st af x.toLd.emb hd := by
  first
  | exact absurd h (by decide)
  | skip
  all_goals (
    cases x <;> rfl)

/-- `__init__` on arguments whose `script` / `stylesheet` / `meta` are already a list of items (or a value that cannot be
    iterated): version, source, the three validations in order, the `rel` loop, `all_files`, `head` -/
theorem src_init_normC10b (h : HTMLDependency_init_available = true) (h1 : HTMLDependency_validate_dicts_available = true)
    (h2 : HTMLDependency_validate_dict_available = true) (G : Globals) (cls : String)
    (a : DepArg) (vv : PVal) (hver : VerOkC10b G vv a.verOk a.vrank a.version)
    (src : SourceV) (hsrc : a.source = src.toArg) (sc st me : LdV) (hd : HeadV) :
    projDepC10b <$> HTMLDependency_init G (.obj cls []) (.str a.name) vv src.emb sc.emb st.emb (.bool a.allFiles) me.emb hd.emb
      = match depInitOfC10b a (sc.model reqScript) (st.model reqStylesheet) (me.model reqMeta) with
        | .error e => .error (embErr e)
        | .ok info => hd.res >>= fun hv => .ok (embDepObjC10b cls src.emb info hv) := by
  first
  | exact absurd h (by decide)
  | skip
  all_goals (
    have hvd := fun self req x => src_validate_dicts h1 h2 G self req x
    have hreq1 : PVal.list [PVal.str ['s', 'r', 'c']] = PVal.list (reqScript.map PVal.str) := rfl
    have hreq2 : PVal.list [PVal.str ['h', 'r', 'e', 'f']] = PVal.list (reqStylesheet.map PVal.str) := rfl
    have hreq3 : PVal.list [PVal.str ['n', 'a', 'm', 'e'], PVal.str ['c', 'o', 'n', 't', 'e', 'n', 't']]
        = PVal.list (reqMeta.map PVal.str) := rfl
    unfold HTMLDependency_init
    simp only [pySetAttr_objC10b, ok_bind, pure_eq_ok, truthy_bool, isNone_LdVC10b, isDict_LdVC10b, Bool.false_eq_true, if_false,
      hreq1, hreq2, hreq3, hvd, pyGetAttr_fieldSetC10b]
    -- the version: a string that `packaging` accepts or refuses, or a Version object; whatever comes after it (`K`)
    have hstage : ∀ (K : PVal → PyM PVal),
        (if isInstance vv ["str"] = true then pyMkVersion G vv >>= K else K vv)
          = bif a.verOk then K (versionObjC10b a.vrank a.version) else .error .valueError := by
      intro K
      rcases hver with ⟨raw, rfl, hm⟩ | ⟨rfl, hok⟩
      · simp only [isStr_strC10b, pyMkVersion_strC10b, hm, if_true]
        cases a.verOk <;> rfl
      · simp only [isStr_versionC10b, hok, Bool.false_eq_true, if_false, cond_true]
    refine (congrArg (Functor.map projDepC10b) (hstage _)).trans ?_
    cases hok : a.verOk
    · rw [cond_false]
      simp [depInitOfC10b, hok, embErr]
    · rw [cond_true]
      -- everything after the `source=` checks (script, stylesheet with the `rel` loop, meta, all_files, head) is one
      -- term `T`, whatever `source` is found to be
      generalize hT : (embRes _ (LdV.model reqScript sc) >>= _ : PyM PVal) = T
      have tail : ∀ srcm, checkSource src.toArg = .ok srcm → projDepC10b <$> T
          = match depInitOfC10b a (sc.model reqScript) (st.model reqStylesheet) (me.model reqMeta) with
            | .error e => .error (embErr e)
            | .ok info => hd.res >>= fun hv => .ok (embDepObjC10b cls src.emb info hv) := by
        intro srcm hcs
        subst hT
        simp only [depInitOfC10b, hok, hsrc, hcs, Bool.not_true, Bool.false_eq_true, if_false]
        cases hsc : sc.model reqScript with
        | error e => simp only [embRes, error_bind, map_error]
        | ok ds1 =>
          cases hst : st.model reqStylesheet with
          | error e => simp only [embRes, ok_bind, error_bind, map_error]
          | ok ds2 =>
            simp only [embRes, ok_bind, LdV_model_ok_embC10b _ _ _ hsc, LdV_model_ok_embC10b _ _ _ hst, embDictsC10b, pyIter_list]
            rw [map_bind]
            refine rel_loop_kC10b ds2 _ _ _ _ ?step ?k
            case step =>
              intro d s
              simp only [pyIn_embKvsC10b, ok_bind, truthy_bool]
              by_cases hr : hasKey ['r','e','l'] d = true
              · exact ⟨_, by simp [hr, addRel_presentC10b d hr]; rfl⟩
              · simp only [Bool.not_eq_true] at hr
                exact ⟨_, by simp [hr, pySetItem_addRelC10b d hr]; rfl⟩
            case k =>
              intro s hs
              simp only [List.nil_append] at hs
              simp only [hs, pyRebuildSeq_listC10b, ok_bind]
              cases hme : me.model reqMeta with
              | error e => simp only [error_bind, map_error]
              | ok ds3 =>
                simp only [ok_bind, LdV_model_ok_embC10b _ _ _ hme, embDictsC10b]
                -- the instance attribute by attribute, before the three cases of `head`
                simp only [apply_ite (Functor.map projDepC10b), map_bind, map_ok, projDepC10b, depFieldNamesC10b,
                  List.filterMap_cons, List.filterMap_nil, fieldGet?_fieldSetC10b, String.reduceEq, if_true, if_false,
                  Option.map_some, embDepObjC10b, embDictsC10b]
                cases hd with
                | none => rfl
                | text t => rfl
                | node v hn hs' => simp only [HeadV.emb, HeadV.res, hn, hs', Bool.false_eq_true, if_false]
      cases src with
      | other v hn hdd => simp [depInitOfC10b, hsrc, SourceV.emb, SourceV.toArg, hn, hdd, checkSource, embErr, map_error, hok]
      | none =>
        simp only [SourceV.emb, isNone_noneC10b, Bool.not_true, Bool.false_eq_true, if_false]
        exact tail _ rfl
      | dict d =>
        simp only [SourceV.emb, isNone_embKvsC10b, isInstance_embKvsC10b, Bool.not_false, Bool.not_true,
          Bool.false_eq_true, if_false, if_true, pyOr_in_embKvsC10b, ok_bind, truthy_bool]
        cases hk : (hasKey ['h','r','e','f'] d || hasKey ['s','u','b','d','i','r'] d)
        · simp [depInitOfC10b, hsrc, SourceV.toArg, checkSource_dict_badC10b d hk, embErr, map_error, hok]
        · obtain ⟨srcm, hsm⟩ := checkSource_dict_okC10b d hk
          simp only [Bool.not_true, Bool.false_eq_true, if_false]
          exact tail srcm hsm)

/-- `HTMLDependency.__init__` as the source has it = `depInit`, for every argument record: run on an instance with an
    empty `__dict__` (of `HTMLDependency` or a subclass `cls`), it raises what the model raises — ValueError for a version
    `packaging` refuses, then TypeError for a `source` that is not a dict or has neither `href` nor `subdir`, then for
    `script`, `stylesheet`, `meta` in this order TypeError for an item that is not a dict (or a value that cannot be
    iterated) and KeyError for a missing required key, the first failing item deciding — and otherwise leaves the fields
    the model computes (a single dict is the one-element list, None the empty list, every stylesheet gets
    `rel="stylesheet"` unless it has a `rel`), `source` as given, and `head` as `HeadV.res` says.  The instance is
    compared attribute by attribute (`projDepC10b`): the order of the assignments is not part of the statement.
    `hver`: what `packaging` answers for the version string is the model's (`verOk`, `vrank`, `str(Version)`). -/
theorem src_init (h : HTMLDependency_init_available = true) (h1 : HTMLDependency_validate_dicts_available = true)
    (h2 : HTMLDependency_validate_dict_available = true) (G : Globals) (cls : String)
    (a : DepArgV) (vv : PVal) (hver : VerOkC10b G vv a.verOk a.vrank a.version) (hd : HeadV) :
    projDepC10b <$> HTMLDependency_init G (.obj cls []) (.str a.name) vv a.source.emb a.script.emb a.stylesheet.emb
        (.bool a.allFiles) a.metas.emb hd.emb
      = match depInit a.toArg with
        | .error e => .error (embErr e)
        | .ok info => hd.res >>= fun hv => .ok (embDepObjC10b cls a.source.emb info hv) := by
  first
  | exact absurd h (by decide)
  | skip
  all_goals (
    rw [init_norm_scriptC10b h, init_norm_stylesheetC10b h, init_norm_metaC10b h, depInit_eq_ofC10b]
    simp only [DepArgV.toArg, normItems_toLdC10b]
    exact src_init_normC10b h h1 h2 G cls a.toArg vv hver a.source rfl a.script.toLd a.stylesheet.toLd a.metas.toLd hd)

/-- what `C10_depInit_single_script` says about the model, said about the source text (for any other arguments, valid
    or not): a single dict and the one-element list holding it are the same call -/
theorem src_init_single_script (h : HTMLDependency_init_available = true) (G : Globals) (self n ver src st af me hd : PVal)
    (d : List (Str × Str)) :
    HTMLDependency_init G self n ver src (embKvsC10b d) st af me hd
      = HTMLDependency_init G self n ver src (.list [embKvsC10b d]) st af me hd := by
  first
  | exact absurd h (by decide)
  | skip
  all_goals (
    exact init_norm_scriptC10b h G self n ver src st af me hd (.one d))

end HtmlVerif.SrcTie
