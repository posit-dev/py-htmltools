/-
Source tie (DESIGN §14) for C20, htmltools/_jsx.py: the Lean functions regenerated from the text of
`JSXTagAttrDict._normalize_attr_name`, `_serialize_attr`, `_serialize_style_attr` and `_render_react_js` (the last three a
`mutual` block, recursion bounded by fuel) compute, for every component tree / prop value, what the model
(Model/Jsx.lean: `normAttrName`, `JVal.serialize`, `JVal.serializeStyle`, `JNode.renderJs`) computes — error branches
included (TypeError for an unsupported child or style value, ValueError for a style piece with two colons).

No loop body is spelled out: the five loops (the two comprehensions of `_serialize_attr`, the comprehension of
`_serialize_style_attr`, the attribute loop and the child loop of `_render_react_js`) are taken from the regenerated
definitions by unification (`comp_loop_mapM_k` of Lemmas/PyComp.lean for the first two; `Lemmas/SrcC20.lean`: `style_loop`,
`attrs_loop`, `kids_loop`); what is proved about each is its effect on one pass.

Every theorem about a translated function takes `<f>_available = true`; a proof that unfolds the function is `first | exact
absurd h (by decide) | ( … the whole proof … )` (or `… | skip` followed by `all_goals ( … )`), so that when the function has left
the fragment the first alternative closes the goal and nothing else runs (a tactic after a closed `first | … | skip` would fail
with "no goals").

Side conditions (`tiedV`, `tiedS`, `tiedN`, Lemmas/SrcC20.lean): a dict value has each key once; no metadata node /
un-expanded tagifiable object where `_serialize_attr` writes `str(x)` (the model does not describe that text).
`ι` says which number texts are Python ints (`IntTexts ι`); every other number is a float carried as its text.
-/
import HtmlVerif.Generated.Src
import HtmlVerif.Lemmas.SrcC20

namespace HtmlVerif.SrcTie
open HtmlVerif HtmlVerif.Py HtmlVerif.Generated.Src

/-- `JSXTagAttrDict._normalize_attr_name` as the source has it = `normAttrName` (what `mkProps` applies to every keyword) -/
theorem src_jsx_normalize_attr_name (h : JSX_normalize_attr_name_available = true) (G : Globals) (x : Str) :
    JSX_normalize_attr_name G (.str x) = .ok (.str (normAttrName x)) := by
  first
  | exact absurd h (by decide)
  | (unfold JSX_normalize_attr_name normAttrName
     by_cases hx : x.getLast? = some '_' <;>
       simp [asStr, jsxText?, endswith_char, slice_dropLast, hx, replaceChar_single])

/-- `_serialize_attr` on one value, given the tie for what it calls at this fuel: itself on the elements of a list /
    the values of a dict, `_render_react_js` on a tag or component -/
theorem src_serialize_attr_step (h : serialize_attr_available = true) (G : Globals) (ι : Str → Option Int)
    (hι : IntTexts ι) (fuel : Nat) (v : JVal) (hv : tiedV v = true)
    (HA : ∀ w : JVal, hV w < hV v → tiedV w = true →
      serialize_attr G fuel (embJVal ι w) = embRes PVal.str w.serialize)
    (HR : ∀ n : JNode, v = .node n → tiedN n = true →
      render_react_js G fuel (embJNode ι n) (.int 0) (.str ['\n']) = embRes PVal.str (n.renderJs 0 ['\n'])) :
    serialize_attr G (fuel + 1) (embJVal ι v) = embRes PVal.str v.serialize := by
  first
  | exact absurd h (by decide)
  | (rw [serialize_attr]
     simp only [ok_bind', pure_eq_ok', truthy_bool']
     cases v with
     | null => simp [embJVal, isNone, JVal.serialize, embRes]
     | bool b =>
       cases b <;>
         simp [embJVal, isNone, isInstanceJ, jsxText?, isInstance, builtinClasses, pyOr, JVal.serialize, embRes, pyStrJ, asStr,
           pyStr, pyLowerJ_True, pyLowerJ_False]
     | num t =>
       rw [JVal.serialize]
       cases hi : ι t with
       | none =>
         simp only [embJVal, hi, isNone, isInstanceJ, jsxText?, isInstance, builtinClasses, pyOr, pyAnd, Bool.false_eq_true,
           if_false, if_true, ok_bind', pure_eq_ok', truthy_bool', List.any_cons, List.any_nil, List.contains_cons, List.contains_nil,
           Bool.or_false, Bool.false_or, Bool.true_or, Bool.or_true, String.reduceBEq]
         simp only [mathIsFinite, mathIsNan, pyGtJ, nonFiniteText, floatPositive, inf_chars, ninf_chars, nan_chars, pure_eq_ok',
           ok_bind', truthy_bool', numJs, embRes, pyStrJ, asStr, jsxText?, pyStr]
         by_cases h1 : t = ['i', 'n', 'f']
         · subst h1; simp
         · by_cases h2 : t = ['-', 'i', 'n', 'f']
           · subst h2; simp
           · by_cases h3 : t = ['n', 'a', 'n']
             · subst h3; simp
             · simp [h1, h2, h3]
       | some n =>
         have ht := hι t n hi
         simp [embJVal, hi, isNone, isInstanceJ, jsxText?, isInstance, builtinClasses, pyOr, pyAnd, embRes, pyStrJ_int]
         rw [← ht, numJs_int]
         rfl
     | list tup vs =>
       have hel : ∀ w ∈ vs.toList, serialize_attr G fuel (embJVal ι w) = embRes PVal.str w.serialize := by
         intro w hw
         refine HA w ?_ (tiedVs_mem vs (by simpa [tiedV] using hv) w hw)
         have := hVs_mem vs w hw
         simp only [hV]; omega
       rw [JVal.serialize]
       cases tup <;>
       · simp only [embJVal, isNone, isInstanceJ, jsxText?, isInstance, builtinClasses, pyOr, Bool.false_eq_true, if_false, if_true,
           ok_bind', pure_eq_ok', truthy_bool', List.any_cons, List.any_nil, List.contains_cons, List.contains_nil, Bool.or_false,
           Bool.or_true, String.reduceBEq, pyIterJ_list, pyIterJ_tuple, embJVals_toList, serializeAll_mapM]
         refine Eq.trans (comp_loop_mapM_k (embJVal ι) JVal.serialize PVal.str embErr vs.toList _ ?hs _ []) ?_
         case hs =>
           intro w hw acc
           simp only [hel w hw]
           cases w.serialize <;> simp [embRes]
         cases vs.toList.mapM JVal.serialize with
         | error e => simp [embRes]
         | ok ss => simp [embRes, pyJoinJ_strs, pyAddJ_str, jsArr]
     | dict fs =>
       have hv' : fs.keys.Nodup ∧ tiedP false fs = true := by simpa [tiedV] using hv
       have hel : ∀ kv ∈ fs.toList, serialize_attr G fuel (embJVal ι kv.2) = embRes PVal.str kv.2.serialize := by
         intro kv hkv
         have ht := tiedP_mem false fs hv'.2 kv hkv
         simp only [Bool.false_and, Bool.false_eq_true, if_false] at ht
         refine HA kv.2 ?_ ht
         have := hD_mem fs kv hkv
         simp only [hV]; omega
       rw [JVal.serialize]
       simp only [embJVal, isNone, isInstanceJ, jsxText?, isInstance, builtinClasses, pyOr, Bool.false_eq_true, if_false, if_true,
         ok_bind', pure_eq_ok', truthy_bool', List.any_cons, List.any_nil, List.contains_cons, List.contains_nil, Bool.or_false,
         Bool.or_true, String.reduceBEq, pyIterJ_dict, embJProps_toList, List.map_map]
       rw [fieldsJs_mapM]
       refine Eq.trans (comp_loop_mapM_k (fun kv : Str × JVal => PVal.str kv.1)
         (fun kv => (fieldVal false kv).map (jsField kv.1)) PVal.str embErr fs.toList _ ?hs _ []) ?_
       case hs =>
         intro kv hkv acc
         have hg := dictGet_embJProps ι fs hv'.1 kv hkv
         rw [embJProps_toList] at hg
         simp only [pyStrJ_str, ok_bind', pyConcat3, pure_eq_ok', pyGetItem, hg, hel kv hkv, fieldVal, Bool.false_and,
           Bool.false_eq_true, if_false]
         cases kv.2.serialize <;> simp [embRes, pyAddJ_str, jsField, Except.map]
       cases List.mapM (fun kv : Str × JVal => (fieldVal false kv).map (jsField kv.1)) fs.toList with
       | error e => simp [embRes]
       | ok ss => simp [embRes, pyJoinJ_strs, pyAddJ_str, jsObj]
     | node n =>
       cases n with
       | str k s =>
         cases k <;>
           simp [embJVal, embJNode, isNone, isInstanceJ, jsxText?, isInstance, builtinClasses, pyOr, pyAnd, JVal.serialize, embRes,
             pyStrJ_str, pyStrJ_html, mkJsx, fieldGet?, pyAddJ_str, jsQuote]
         exact pyStrJ_jsx s
       | comp nm ps ks | tag nm ps ks =>
         have := HR _ rfl (by simpa [tiedV] using hv)
         simp [embJVal, embJNode, isNone, isInstanceJ, jsxText?, isInstance, classBases, pyOr, JVal.serialize] at this ⊢
         exact this
       | md _ | tobj _ | tobjL _ => simp [tiedV] at hv)

/-- `_serialize_style_attr` on one value, given the tie for `_serialize_attr` at this fuel on the dict itself, resp. on
    the dict of strings a CSS string is parsed into -/
theorem src_serialize_style_step (h : serialize_style_attr_available = true) (G : Globals) (ι : Str → Option Int)
    (fuel : Nat) (v : JVal)
    (HAd : ∀ fs, v = .dict fs → serialize_attr G fuel (embJVal ι v) = embRes PVal.str v.serialize)
    (HAs : ∀ k s, v = .node (.str k s) → ∀ d : List (Str × Str), (d.map (·.1)).Nodup →
      serialize_attr G fuel (embJVal ι (styleDict d)) = embRes PVal.str (styleDict d).serialize) :
    serialize_style_attr G (fuel + 1) (embJVal ι v) = embRes PVal.str v.serializeStyle := by
  first
  | exact absurd h (by decide)
  | (-- a `str` / `jsx` string with text `s`
     have hstr : ∀ (x : PVal) (s : Str), asStr x = .str s → isNone x = false → isInstanceJ x ["str"] = true →
         (∀ d : List (Str × Str), (d.map (·.1)).Nodup →
           serialize_attr G fuel (embJVal ι (styleDict d)) = embRes PVal.str (styleDict d).serialize) →
         serialize_style_attr G (fuel + 1) x = embRes PVal.str (styleOfString s) := by
       intro x s hx hn hi HAs'
       rw [serialize_style_attr]
       simp only [ok_bind', pure_eq_ok', truthy_bool', hx, hn, hi, Bool.false_eq_true, if_false, if_true, pySplitSep_str,
         pyIterJ_list]
       refine Eq.trans (style_loop _ _ ?hs _) ?_
       case hs =>
         intro y _ acc
         simp only [asStr_str, reSearch_colon, ok_bind', truthy_bool', pySplitSep_str, pyTupleJ_list]
         by_cases hc : ':' ∈ y <;> simp [hc]
       rw [pyDict_style, styleOfString, parseStyle]
       cases hst : styleTuples (splitOn ';' s) with
       | error e => simp [embRes]
       | ok ts =>
         have hd := HAs' _ (parse_nodup ts)
         rw [styleDict_emb, styleDict_serialize] at hd
         simp [isInstanceJ, jsxText?, isInstance, builtinClasses, hd, embRes]
     have other : ∀ x : PVal, isNone x = false ∧ isInstanceJ x ["str"] = false ∧ isInstanceJ x ["dict"] = false →
         serialize_style_attr G (fuel + 1) x = .error .typeError := by
       intro x hx
       rw [serialize_style_attr]
       simp only [ok_bind', pure_eq_ok', truthy_bool', hx.1, hx.2.1, hx.2.2, Bool.false_eq_true, if_false, throw_eq_error]
     cases v with
     | node n =>
       cases n with
       | str k s =>
         cases k with
         | plain =>
           have := hstr (.str s) s rfl rfl (by simp [isInstanceJ, jsxText?, isInstance, builtinClasses]) (HAs _ _ rfl)
           simpa [embJVal, embJNode, JVal.serializeStyle] using this
         | jsx =>
           have := hstr (mkJsx s) s (asStr_jsx s) rfl (by simp [isInstanceJ, jsxText?, mkJsx, fieldGet?]) (HAs _ _ rfl)
           simpa [embJVal, embJNode, JVal.serializeStyle] using this
         | html => exact other _ (by simp [embJVal, embJNode, isNone, isInstanceJ, jsxText?, isInstance, builtinClasses])
       | md m =>
         exact other _ (by
           cases m <;> simp [embJVal, embJNode, isNone, isInstanceJ_classes, classesJ_MetadataNode, classesJ_HTMLDependency])
       | _ =>
         exact other _ (by
           simp [embJVal, embJNode, isNone, isInstanceJ_classes, classesJ_JSXTag, classesJ_Tag, classesJ_TagifiableObj])
     | null =>
       rw [serialize_style_attr]
       simp [embJVal, isNone, JVal.serializeStyle, embRes]
     | dict fs =>
       have hd := HAd fs rfl
       rw [JVal.serialize] at hd
       rw [serialize_style_attr, JVal.serializeStyle]
       simp only [embJVal] at hd
       simp [embJVal, isNone, isInstanceJ, jsxText?, isInstance, builtinClasses, hd]
     | num t =>
       exact other _ (by cases hi : ι t <;> simp [embJVal, hi, isNone, isInstanceJ, jsxText?, isInstance, builtinClasses])
     | list tup vs =>
       exact other _ (by cases tup <;> simp [embJVal, isNone, isInstanceJ, jsxText?, isInstance, builtinClasses])
     | bool b => exact other _ (by simp [embJVal, isNone, isInstanceJ, jsxText?, isInstance, builtinClasses]))

/-- `_render_react_js` on a tag or component `x` (`isComp`: a JSXTag) with name `name`, attrs `ps`, children `ks`, given
    the ties for what it calls at this fuel: `_serialize_attr` / `_serialize_style_attr` on the attribute values, itself
    on the children -/
theorem src_render_elem (h : render_react_js_available = true) (G : Globals) (ι : Str → Option Int) (fuel : Nat)
    (x : PVal) (isComp : Bool) (name : Str) (ps : JProps) (ks : JNodes) (i : Nat) (eol : Str)
    (hc : isInstanceJ x ["MetadataNode"] = false ∧ isInstanceJ x ["str"] = false ∧
      isInstanceJ x ["JSXTag"] = isComp ∧ isInstanceJ x ["Tag"] = !isComp)
    (hg : pyGetAttr x "name" = .ok (.str name) ∧ pyGetAttr x "attrs" = .ok (.dict (embJProps ι ps)) ∧
      pyGetAttr x "children" = .ok (.obj "TagList" [("data", .list (embJNodes ι ks))]))
    (HA : ∀ kv ∈ ps.toList, kv.1 ≠ chars% "style" →
      serialize_attr G fuel (embJVal ι kv.2) = embRes PVal.str kv.2.serialize)
    (HS : ∀ kv ∈ ps.toList, kv.1 = chars% "style" →
      serialize_style_attr G fuel (embJVal ι kv.2) = embRes PVal.str kv.2.serializeStyle)
    (HR : ∀ c ∈ ks.toList,
      render_react_js G fuel (embJNode ι c) (.int (↑i + 1)) (.str eol) = embRes PVal.str (c.renderJs (i + 1) eol)) :
    render_react_js G (fuel + 1) x (.int i) (.str eol)
      = embRes PVal.str (elemJs i eol (if isComp then name else '\'' :: name ++ ['\'']) ps.isEmpty ks.isEmpty
          (ps.fieldsJs true) (ks.kidsJs (i + 1) eol)) := by
  first
  | exact absurd h (by decide)
  | (rw [render_react_js]
     simp only [ok_bind', pure_eq_ok', truthy_bool', hc.1, hc.2.1, hc.2.2.1, hc.2.2.2, hg.1, hg.2.1, hg.2.2, Bool.false_eq_true,
       if_false, pyMul_indent]
     -- both arms go on alike with the name string `nmS` (as it is for a component, in quotes for a Tag): the arm for a Tag is
     -- brought into the form `∀ nmS, …`, which is proved below, and the arm for a component is an instance of that goal (`?false`)
     clear hc
     cases isComp
     case' false =>
       simp only [Bool.false_eq_true, if_false, Bool.not_false, if_true, ok_bind', pyAddJ_str]
       rw [show ('\'' :: name ++ ['\'']) = [Char.ofNat 39] ++ name ++ [Char.ofNat 39] from rfl]
       generalize [Char.ofNat 39] ++ name ++ [Char.ofNat 39] = nmS
       revert nmS
     case true =>
       simp only [if_true, ok_bind', pyAddJ_str]
       generalize name = nmS
       revert nmS
       exact ?false
     intro nmS
     simp only [Bool.false_eq_true, if_false, Bool.not_false, Bool.not_true, if_true, ok_bind', pyAddJ_str, pyStrJ_str, pyConcat5,
         pure_eq_ok', pyAnd_bools, len0_dict, len0_taglist, truthy_bool', embJProps_isEmpty, embJNodes_isEmpty, pyItems_props,
         pyIterJ_list, pyIterJ_taglist, pyLenJ_taglist, pyEqJ_int, int_len_eq0]
     · 
       cases hb : (ps.isEmpty && ks.isEmpty)
       case true => simp [elemJs, hb, embRes, sCreate]
       case false =>
       simp only [Bool.false_eq_true, if_false]
       refine attrs_loop ι ps _ _ ?hstep _ _ _ ?hk
       case hstep =>
         intro kv hkv b first t
         obtain ⟨k, v⟩ := kv
         by_cases hk : k = chars% "style"
         case' pos =>
           have hv := HS (k, v) hkv hk
           have hk' : (k == chars% "style") = true := by simpa using hk
           rw [show v.serializeStyle = fieldVal true (k, v) by simp [fieldVal, hk]] at hv
         case' neg =>
           have hv := HA (k, v) hkv hk
           have hk' : (k == chars% "style") = false := by simpa using hk
           rw [show v.serialize = fieldVal true (k, v) by simp [fieldVal, hk]] at hv
         all_goals (
           simp only [pyUnpack2_tuple', ok_bind', truthy_bool', pyAddJ_str, pyEqJ_str, pyStrJ_str, hv, hk', if_true,
             Bool.false_eq_true, if_false]
           cases first <;> cases fieldVal true (k, v) <;> simp [embRes, pyStrJ_str, pyConcat4, pyAddJ_str, jsField, List.append_assoc])
       case hk =>
         cases hf : ps.fieldsJs true with
         | error e => simp [elemJs, hb, embRes]
         | ok ss =>
           intro fl t
           simp only [pyAddJ_str, ok_bind', truthy_bool']
           cases hke : ks.isEmpty
           case true =>
             have hpe : ps.isEmpty = false := by simpa [hke] using hb
             simp [elemJs, hpe, hke, embRes, sCreate, jsObj, List.append_assoc]
           case false =>
           simp only [Bool.false_eq_true, if_false, embJNodes_toList]
           refine kids_loop ι ks (i + 1) eol _ _ ?hstep2 _ _ _ ?hk2
           case hstep2 =>
             intro c hc acc t
             simp only [pyAddJ_int, ok_bind', HR c hc]
             cases c.renderJs (i + 1) eol with
             | error e => simp [embRes]
             | ok cs =>
               by_cases hcs : cs = []
               · subst hcs; simp [embRes, pyEqJ_str, kidPiece]
               · have hcs' : (cs == []) = false := by simpa using hcs
                 simp [embRes, pyEqJ_str, hcs, hcs', pyAddJ_str, kidPiece]
           case hk2 =>
             cases hkj : ks.kidsJs (i + 1) eol with
             | error e => simp [elemJs, hb, hke, embRes]
             | ok s =>
               intro t
               simp [pyAddJ_str, elemJs, hb, hke, embRes, sCreate, jsObj, List.append_assoc])

theorem src_render_leaf (h : render_react_js_available = true) (G : Globals) (fuel : Nat) (x : PVal) (i : Nat) (eol s : Str)
    (hx : isInstanceJ x ["JSXTag"] = false ∧ isInstanceJ x ["Tag"] = false ∧
      (isInstanceJ x ["str"] = true → asStr x = .str s)) :
    render_react_js G (fuel + 1) x (.int i) (.str eol)
      = if isInstanceJ x ["MetadataNode"] = true then .ok (.str [])
        else if isInstanceJ x ["str"] = true then .ok (.str (indentStr i ++ jsQuote s)) else .error .typeError := by
  first
  | exact absurd h (by decide)
  | skip
  all_goals (
    rw [render_react_js]
    cases hm : isInstanceJ x ["MetadataNode"]
    · cases hst : isInstanceJ x ["str"]
      · simp only [ok_bind', pure_eq_ok', truthy_bool', pyMul_indent, hx.1, hx.2.1, Bool.false_eq_true, if_false, ↓throw_bind']
      · simp only [ok_bind', pure_eq_ok', truthy_bool', pyMul_indent, if_true, Bool.false_eq_true, if_false, hx.2.2 hst, pyAddJ_str,
          pyReplace_str]
        simp [jsQuote]
    · simp only [ok_bind', pure_eq_ok', truthy_bool', pyMul_indent, if_true])

/-- `_render_react_js` on one node, given the ties for what it calls at this fuel -/
theorem src_render_step (h : render_react_js_available = true) (G : Globals) (ι : Str → Option Int) (fuel : Nat)
    (x : JNode) (hx : tiedN x = true) (i : Nat) (eol : Str)
    (HA : ∀ w : JVal, hV w < hN x → tiedV w = true →
      serialize_attr G fuel (embJVal ι w) = embRes PVal.str w.serialize)
    (HS : ∀ w : JVal, hV w + 2 < hN x → tiedS w = true →
      serialize_style_attr G fuel (embJVal ι w) = embRes PVal.str w.serializeStyle)
    (HR : ∀ c : JNode, hN c < hN x → tiedN c = true → ∀ (j : Nat) (e : Str),
      render_react_js G fuel (embJNode ι c) (.int j) (.str e) = embRes PVal.str (c.renderJs j e)) :
    render_react_js G (fuel + 1) (embJNode ι x) (.int i) (.str eol) = embRes PVal.str (x.renderJs i eol) := by
  have hi1 : (PVal.int ((i : Int) + 1)) = PVal.int ((i + 1 : Nat) : Int) := by simp
  cases x with
  | comp name ps ks =>
    have ht : tiedP true ps = true ∧ tiedK ks = true := by simpa [tiedN] using hx
    rw [JNode.renderJs]
    have := src_render_elem h G ι fuel (embJNode ι (.comp name ps ks)) true name ps ks i eol
      (by simp [embJNode, isInstanceJ_classes, classesJ_JSXTag]) (by simp [embJNode, pyGetAttr, fieldGet?])
      (by
        intro kv hkv hk
        have h1 := tiedP_mem true ps ht.1 kv hkv
        have h2 := hP_mem ps kv hkv
        simp only [Bool.true_and, hk, decide_false, Bool.false_eq_true, if_false] at h1
        exact HA kv.2 (by simp only [hN]; omega) h1)
      (by
        intro kv hkv hk
        have h1 := tiedP_mem true ps ht.1 kv hkv
        have h2 := hP_mem ps kv hkv
        simp only [Bool.true_and, hk, decide_true, if_true] at h1
        exact HS kv.2 (by simp only [hN]; omega) h1)
      (by
        intro c hc
        rw [hi1]
        exact HR c (by have := hK_mem ks c hc; simp only [hN]; omega) (tiedK_mem ks ht.2 c hc) (i + 1) eol)
    simpa using this
  | tag name at' ks =>
    have ht : tiedK ks = true := by simpa [tiedN] using hx
    rw [JNode.renderJs, attrsJs_asProps, ← attrsAsProps_isEmpty]
    have := src_render_elem h G ι fuel (embJNode ι (.tag name at' ks)) false name (attrsAsProps at') ks i eol
      (by simp [embJNode, isInstanceJ_classes, classesJ_Tag]) (by simp [embJNode, pyGetAttr, fieldGet?, embAttrs_asProps ι])
      (by
        intro kv hkv _
        obtain ⟨hne, s, hs | hs⟩ := attrsAsProps_mem at' kv hkv <;>
        · rw [hs]
          exact HA _ (by simp only [hN, hV, hne]; simp; omega) rfl)
      (by
        intro kv hkv _
        obtain ⟨hne, s, hs | hs⟩ := attrsAsProps_mem at' kv hkv <;>
        · rw [hs]
          exact HS _ (by simp only [hN, hV, hne]; simp; omega) rfl)
      (by
        intro c hc
        rw [hi1]
        exact HR c (by have := hK_mem ks c hc; simp only [hN]; omega) (tiedK_mem ks ht c hc) (i + 1) eol)
    simpa using this
  | str k s =>
    rw [src_render_leaf h G fuel _ i eol s (by
      cases k <;> simp [embJNode, asStr_str, asStr_jsx, isInstanceJ_classes, classesJ_jsx, classesJ_builtin, builtinClasses])]
    cases k <;> simp [embJNode, isInstanceJ_classes, classesJ_jsx, classesJ_builtin, builtinClasses, JNode.renderJs, embRes, embErr]
  | md m =>
    rw [src_render_leaf h G fuel _ i eol [] (by
      cases m <;> simp [embJNode, isInstanceJ_classes, classesJ_MetadataNode, classesJ_HTMLDependency])]
    cases m <;> simp [embJNode, isInstanceJ_classes, classesJ_MetadataNode, classesJ_HTMLDependency, JNode.renderJs, embRes]
  | _ =>
    rw [src_render_leaf h G fuel _ i eol [] (by simp [embJNode, isInstanceJ_classes, classesJ_TagifiableObj])]
    simp [embJNode, isInstanceJ_classes, classesJ_TagifiableObj, JNode.renderJs, embRes, embErr]

theorem hN_pos (x : JNode) : 1 ≤ hN x := by cases x <;> simp [hN]
theorem hV_pos (v : JVal) : 1 ≤ hV v := by cases v <;> simp [hV]

/-- the three functions together, by induction on the fuel: a call at fuel `f + 1` meets its callees at fuel `f` on values /
    nodes of smaller height -/
theorem src_jsx_depth (h1 : render_react_js_available = true) (h2 : serialize_attr_available = true)
    (h3 : serialize_style_attr_available = true) (G : Globals) (ι : Str → Option Int) (hι : IntTexts ι) (fuel : Nat) :
    (∀ v : JVal, tiedV v = true → hV v ≤ fuel → serialize_attr G fuel (embJVal ι v) = embRes PVal.str v.serialize)
    ∧ (∀ v : JVal, tiedS v = true → hV v + 2 ≤ fuel →
        serialize_style_attr G fuel (embJVal ι v) = embRes PVal.str v.serializeStyle)
    ∧ (∀ x : JNode, tiedN x = true → hN x ≤ fuel → ∀ (i : Nat) (eol : Str),
        render_react_js G fuel (embJNode ι x) (.int i) (.str eol) = embRes PVal.str (x.renderJs i eol)) := by
  induction fuel with
  | zero =>
    refine ⟨?_, ?_, ?_⟩
    · intro v _ hh; have := hV_pos v; omega
    · intro v _ hh; omega
    · intro x _ hh; have := hN_pos x; omega
  | succ f ih =>
    obtain ⟨ihA, ihS, ihR⟩ := ih
    have A : ∀ v : JVal, tiedV v = true → hV v ≤ f + 1 →
        serialize_attr G (f + 1) (embJVal ι v) = embRes PVal.str v.serialize := by
      intro v hv hh
      refine src_serialize_attr_step h2 G ι hι f v hv (fun w hw hwt => ihA w hwt (by omega)) ?_
      intro nd hnd hnt
      subst hnd
      simp only [hV] at hh
      exact ihR nd hnt (by omega) 0 ['\n']
    refine ⟨A, ?_, ?_⟩
    · intro v hv hh
      refine src_serialize_style_step h3 G ι f v ?_ ?_
      · intro fs hfs
        subst hfs
        exact ihA _ (by rw [tiedV]; rw [tiedS] at hv; exact hv) (by omega)
      · intro k s hks d hd
        subst hks
        have hh3 := styleDict_height d
        simp only [hV, hN] at hh
        exact ihA _ (styleDict_tied d hd) (by omega)
    · intro x hx hh i eol
      exact src_render_step h1 G ι f x hx i eol (fun w hw hwt => ihA w hwt (by omega)) (fun w hw hwt => ihS w hwt (by omega))
        (fun c hc hct j e => ihR c hct (by omega) j e)

/-- `_serialize_attr(x)` as the source has it = `JVal.serialize`, for every prop value (side conditions: `tiedV`), every
    assignment `ι` of ints to number texts, and any fuel that covers the nesting -/
theorem src_serialize_attr (h1 : render_react_js_available = true) (h2 : serialize_attr_available = true)
    (h3 : serialize_style_attr_available = true) (G : Globals) (ι : Str → Option Int) (hι : IntTexts ι)
    (v : JVal) (hv : tiedV v = true) (fuel : Nat) (hf : hV v ≤ fuel) :
    serialize_attr G fuel (embJVal ι v) = embRes PVal.str v.serialize :=
  (src_jsx_depth h1 h2 h3 G ι hι fuel).1 v hv hf

/-- `_serialize_style_attr(x)` as the source has it = `JVal.serializeStyle` (TypeError for anything but None, a str or a
    dict; ValueError for a CSS piece with more than one colon) -/
theorem src_serialize_style_attr (h1 : render_react_js_available = true) (h2 : serialize_attr_available = true)
    (h3 : serialize_style_attr_available = true) (G : Globals) (ι : Str → Option Int) (hι : IntTexts ι)
    (v : JVal) (hv : tiedS v = true) (fuel : Nat) (hf : hV v + 2 ≤ fuel) :
    serialize_style_attr G fuel (embJVal ι v) = embRes PVal.str v.serializeStyle :=
  (src_jsx_depth h1 h2 h3 G ι hι fuel).2.1 v hv hf

/-- `_render_react_js(x, indent, eol)` as the source has it = `JNode.renderJs` (TypeError for a child that is not a str,
    a metadata node, a Tag or a JSXTag), for every component tree, every indent and every eol -/
theorem src_render_react_js (h1 : render_react_js_available = true) (h2 : serialize_attr_available = true)
    (h3 : serialize_style_attr_available = true) (G : Globals) (ι : Str → Option Int) (hι : IntTexts ι)
    (x : JNode) (hx : tiedN x = true) (fuel : Nat) (hf : hN x ≤ fuel) (i : Nat) (eol : Str) :
    render_react_js G fuel (embJNode ι x) (.int i) (.str eol) = embRes PVal.str (x.renderJs i eol) :=
  (src_jsx_depth h1 h2 h3 G ι hι fuel).2.2 x hx hf i eol

/-- every number a float: a valid assignment -/
theorem intTexts_none : IntTexts (fun _ => none) := by intro t n h; cases h

end HtmlVerif.SrcTie
