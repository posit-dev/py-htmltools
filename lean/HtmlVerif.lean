-- GENERATED by harness/genreg.py — root of the `HtmlVerif` library.
import HtmlVerif.Generated.Consts
import HtmlVerif.Generated.Src
import HtmlVerif.Generated.Tables
import HtmlVerif.Generated.TagFns
import HtmlVerif.Holds.C01
import HtmlVerif.Holds.C05
import HtmlVerif.Holds.C10
import HtmlVerif.Holds.C11
import HtmlVerif.Holds.C12
import HtmlVerif.Holds.Subst
import HtmlVerif.Lemmas.AttrDict
import HtmlVerif.Lemmas.AttrMerge
import HtmlVerif.Lemmas.Children
import HtmlVerif.Lemmas.ClassStyle
import HtmlVerif.Lemmas.Consolidate
import HtmlVerif.Lemmas.ConstTie
import HtmlVerif.Lemmas.Copy
import HtmlVerif.Lemmas.CopyAll
import HtmlVerif.Lemmas.CopyTo
import HtmlVerif.Lemmas.Decode
import HtmlVerif.Lemmas.DepInit
import HtmlVerif.Lemmas.DepTags
import HtmlVerif.Lemmas.Deps
import HtmlVerif.Lemmas.Document
import HtmlVerif.Lemmas.DocumentText
import HtmlVerif.Lemmas.Equality
import HtmlVerif.Lemmas.Escape
import HtmlVerif.Lemmas.Extract
import HtmlVerif.Lemmas.FS
import HtmlVerif.Lemmas.Guards
import HtmlVerif.Lemmas.Hook
import HtmlVerif.Lemmas.HtmlBuild
import HtmlVerif.Lemmas.HtmlChars
import HtmlVerif.Lemmas.HtmlEscape
import HtmlVerif.Lemmas.HtmlExpected
import HtmlVerif.Lemmas.HtmlTokenize
import HtmlVerif.Lemmas.HtmlTree
import HtmlVerif.Lemmas.Ident
import HtmlVerif.Lemmas.Infix
import HtmlVerif.Lemmas.JsonAscii
import HtmlVerif.Lemmas.JsonStr
import HtmlVerif.Lemmas.JsonVal
import HtmlVerif.Lemmas.Jsx
import HtmlVerif.Lemmas.Layout
import HtmlVerif.Lemmas.Leaves
import HtmlVerif.Lemmas.Neutralise
import HtmlVerif.Lemmas.NoOpen
import HtmlVerif.Lemmas.NodeBeq
import HtmlVerif.Lemmas.Nodes
import HtmlVerif.Lemmas.Paths
import HtmlVerif.Lemmas.Pieces
import HtmlVerif.Lemmas.PyClass
import HtmlVerif.Lemmas.PyComp
import HtmlVerif.Lemmas.PyLoop
import HtmlVerif.Lemmas.PyPrim
import HtmlVerif.Lemmas.ReadOps
import HtmlVerif.Lemmas.Recover
import HtmlVerif.Lemmas.Refs
import HtmlVerif.Lemmas.Release
import HtmlVerif.Lemmas.Render
import HtmlVerif.Lemmas.Save
import HtmlVerif.Lemmas.SaveDoc
import HtmlVerif.Lemmas.Scan
import HtmlVerif.Lemmas.SrcC08
import HtmlVerif.Lemmas.SrcC08b
import HtmlVerif.Lemmas.SrcC09
import HtmlVerif.Lemmas.SrcC10
import HtmlVerif.Lemmas.SrcC10b
import HtmlVerif.Lemmas.SrcC11
import HtmlVerif.Lemmas.SrcC12
import HtmlVerif.Lemmas.SrcC12b
import HtmlVerif.Lemmas.SrcC13
import HtmlVerif.Lemmas.SrcC14
import HtmlVerif.Lemmas.SrcC15b
import HtmlVerif.Lemmas.SrcC16
import HtmlVerif.Lemmas.SrcC17
import HtmlVerif.Lemmas.SrcC18
import HtmlVerif.Lemmas.SrcC20
import HtmlVerif.Lemmas.SrcC20b
import HtmlVerif.Lemmas.SrcFlatten
import HtmlVerif.Lemmas.SrcRender
import HtmlVerif.Lemmas.SrcRenderC13
import HtmlVerif.Lemmas.SrcTie
import HtmlVerif.Lemmas.Tagify
import HtmlVerif.Lemmas.Tokens
import HtmlVerif.Lemmas.WsSites
import HtmlVerif.Model.Attrs
import HtmlVerif.Model.Children
import HtmlVerif.Model.ClassStyle
import HtmlVerif.Model.Consolidate
import HtmlVerif.Model.DepTags
import HtmlVerif.Model.Deps
import HtmlVerif.Model.Document
import HtmlVerif.Model.Equality
import HtmlVerif.Model.Escape
import HtmlVerif.Model.FS
import HtmlVerif.Model.HeadContent
import HtmlVerif.Model.Hook
import HtmlVerif.Model.Html
import HtmlVerif.Model.Ident
import HtmlVerif.Model.Json
import HtmlVerif.Model.Jsx
import HtmlVerif.Model.Paths
import HtmlVerif.Model.ReadOps
import HtmlVerif.Model.Render
import HtmlVerif.Model.SaveDoc
import HtmlVerif.Model.Sha1
import HtmlVerif.Model.Str
import HtmlVerif.Model.TagFn
import HtmlVerif.Model.Tagify
import HtmlVerif.Model.TextDoc
import HtmlVerif.Model.Tree
import HtmlVerif.Ops
import HtmlVerif.Ops.Attrs
import HtmlVerif.Ops.Base
import HtmlVerif.Ops.Children
import HtmlVerif.Ops.Deps
import HtmlVerif.Ops.Document
import HtmlVerif.Ops.Equality
import HtmlVerif.Ops.HeadContent
import HtmlVerif.Ops.HoldsC01
import HtmlVerif.Ops.HoldsC02
import HtmlVerif.Ops.HoldsC03
import HtmlVerif.Ops.HoldsC04
import HtmlVerif.Ops.HoldsC05
import HtmlVerif.Ops.HoldsC06
import HtmlVerif.Ops.HoldsC08
import HtmlVerif.Ops.HoldsC09
import HtmlVerif.Ops.HoldsC10
import HtmlVerif.Ops.HoldsC11
import HtmlVerif.Ops.HoldsC12
import HtmlVerif.Ops.HoldsC13
import HtmlVerif.Ops.HoldsC14
import HtmlVerif.Ops.HoldsC15
import HtmlVerif.Ops.HoldsC16
import HtmlVerif.Ops.HoldsC17
import HtmlVerif.Ops.HoldsC20
import HtmlVerif.Ops.Hook
import HtmlVerif.Ops.Html
import HtmlVerif.Ops.HtmlExpr
import HtmlVerif.Ops.Ident
import HtmlVerif.Ops.Json
import HtmlVerif.Ops.Jsx
import HtmlVerif.Ops.Paths
import HtmlVerif.Ops.Render
import HtmlVerif.Ops.Src
import HtmlVerif.Ops.SrcC08
import HtmlVerif.Ops.SrcC08b
import HtmlVerif.Ops.SrcC10b
import HtmlVerif.Ops.SrcC11
import HtmlVerif.Ops.SrcC12b
import HtmlVerif.Ops.SrcC13
import HtmlVerif.Ops.SrcC16
import HtmlVerif.Ops.SrcC17
import HtmlVerif.Ops.SrcC18
import HtmlVerif.Ops.SrcC20b
import HtmlVerif.Ops.Subst
import HtmlVerif.Ops.Tagify
import HtmlVerif.Props.C01
import HtmlVerif.Props.C02
import HtmlVerif.Props.C03
import HtmlVerif.Props.C04
import HtmlVerif.Props.C05
import HtmlVerif.Props.C06
import HtmlVerif.Props.C07
import HtmlVerif.Props.C08
import HtmlVerif.Props.C09
import HtmlVerif.Props.C10
import HtmlVerif.Props.C11
import HtmlVerif.Props.C11TextDoc
import HtmlVerif.Props.C12
import HtmlVerif.Props.C13
import HtmlVerif.Props.C14
import HtmlVerif.Props.C15
import HtmlVerif.Props.C16
import HtmlVerif.Props.C17
import HtmlVerif.Props.C18
import HtmlVerif.Props.C19
import HtmlVerif.Props.C20
import HtmlVerif.Props.ConstsDeps
import HtmlVerif.Props.ConstsDoc
import HtmlVerif.Props.ConstsHead
import HtmlVerif.Props.ConstsJson
import HtmlVerif.Props.ConstsRender
import HtmlVerif.Props.SrcAttrs
import HtmlVerif.Props.SrcC08
import HtmlVerif.Props.SrcC08b
import HtmlVerif.Props.SrcC09
import HtmlVerif.Props.SrcC10
import HtmlVerif.Props.SrcC10b
import HtmlVerif.Props.SrcC11
import HtmlVerif.Props.SrcC12
import HtmlVerif.Props.SrcC12b
import HtmlVerif.Props.SrcC13
import HtmlVerif.Props.SrcC14
import HtmlVerif.Props.SrcC15b
import HtmlVerif.Props.SrcC16
import HtmlVerif.Props.SrcC17
import HtmlVerif.Props.SrcC18
import HtmlVerif.Props.SrcC20
import HtmlVerif.Props.SrcC20b
import HtmlVerif.Props.SrcEscape
import HtmlVerif.Props.SrcNeutralise
import HtmlVerif.Props.SrcRender
import HtmlVerif.Props.SrcRenderC11
import HtmlVerif.Py.Prim
import HtmlVerif.Py.PrimC08
import HtmlVerif.Py.PrimC08b
import HtmlVerif.Py.PrimC10
import HtmlVerif.Py.PrimC10b
import HtmlVerif.Py.PrimC11
import HtmlVerif.Py.PrimC12
import HtmlVerif.Py.PrimC12b
import HtmlVerif.Py.PrimC13
import HtmlVerif.Py.PrimC14
import HtmlVerif.Py.PrimC15b
import HtmlVerif.Py.PrimC16
import HtmlVerif.Py.PrimC17
import HtmlVerif.Py.PrimC18
import HtmlVerif.Py.PrimC20
import HtmlVerif.Py.PrimC20b
import HtmlVerif.Py.Val
import HtmlVerif.Spec.AttrMerge
import HtmlVerif.Spec.Children
import HtmlVerif.Spec.Deps
import HtmlVerif.Spec.Document
import HtmlVerif.Spec.EndTag
import HtmlVerif.Spec.Equality
import HtmlVerif.Spec.Flat
import HtmlVerif.Spec.Hook
import HtmlVerif.Spec.Html
import HtmlVerif.Spec.HtmlTbl
import HtmlVerif.Spec.Ident
import HtmlVerif.Spec.Jsx
import HtmlVerif.Spec.Layout
import HtmlVerif.Spec.Leaves
import HtmlVerif.Spec.Meta
import HtmlVerif.Spec.Paths
import HtmlVerif.Spec.Pieces
import HtmlVerif.Spec.Refs
import HtmlVerif.Spec.SerDep
import HtmlVerif.Spec.TagCensus
import HtmlVerif.Spec.WsSites
import HtmlVerif.Wire
